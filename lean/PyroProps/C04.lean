/-
  C04 — Deserialisation builds only data and a fixed set of known classes.

  Property theorems about `PyroModel.Classes` (model of SerializerBase.dict_to_class / make_exception /
  recreate_classes, SerpentSerializer.dict_to_class, MsgpackSerializer.ext_hook, loads / loadsCall of the four
  serializers, and the __setstate__ methods reached from there), for the tree with fixes/C04-msgpack-topdown.patch.

  Quantifiers: every literal tree (any depth, any tags, any members), every converter registry, every outcome of the
  external calls (`Ext`: exception constructors, setattr, float(), set(), URI parsing, ext parsing), every recursion
  budget.  The name tables of builtins / Pyro5.errors / sqlite3 and the shape of the decision list are the facts
  extracted from the current source (`Pyro.Gen.C04`); obligations about them are the `C04_gen_…` theorems.
-/
import PyroProofs.Classes

namespace Pyro.C04

open Pyro.Classes Pyro.Gen.C04

/-- **C04_closed.**  Class re-creation (`recreate_classes`) applied to a value whose instances (if any) are of the
    closed set yields, when it returns, a value all of whose instances are of the closed set: Pyro's own URI, Proxy,
    Daemon placeholder, serializer and exception-wrapper classes, exception classes found in builtins / Pyro5.errors /
    sqlite3 (`*Error`) / struct.error, and results of converters the application registered.  For every serializer,
    registry, outcome of the external calls and budget. -/
theorem C04_closed (E : Env) (ser : Ser) (fuel : Nat) (v w : Val) (log : List Effect)
    (hv : Closed E.reg v) (h : recreate E ser fuel v = (.ok w, log)) : Closed E.reg w :=
  (recreate_spec E False ser fuel v hv (fun hp => hp.elim)).result (congrArg Prod.fst h)

/-- **C04_closed_loads.**  The same for the whole result path `serializer.loads` (msgpack: `ext_hook` first). -/
theorem C04_closed_loads (E : Env) (ser : Ser) (fuel : Nat) (lit w : Val) (log : List Effect)
    (hv : Closed E.reg lit) (h : loads E ser fuel lit = (.ok w, log)) : Closed E.reg w :=
  (loads_spec E False ser fuel lit hv (fun hp => hp.elim)).result (congrArg Prod.fst h)

/-- **C04_closed_loadsCall.**  The same for the call-argument path `serializer.loadsCall`, whether or not msgpack's
    loadsCall passes `ext_hook`. -/
theorem C04_closed_loadsCall (E : Env) (hook : Bool) (ser : Ser) (fuel : Nat) (lit w : Val) (log : List Effect)
    (hv : Closed E.reg lit) (h : loadsCall E hook ser fuel lit = (.ok w, log)) : Closed E.reg w :=
  (loadsCall_spec E False hook ser fuel lit hv (fun hp => hp.elim)).result (congrArg Prod.fst h)

mutual
theorem plain_closed (reg : List Str) : ∀ (v : Val), plainB v = true → closedB reg v = true
  | .list xs, h | .tuple xs, h | .set xs, h | .dict _ xs, h => by
    simp only [plainB, closedB] at *; exact plainList_closed reg xs h
  | .inst _ _, h => by simp [plainB] at h
  | .atom _ _, _ | .blob _ _, _ | .str _, _ | .bytes _, _ | .ext _ _ _ _, _ => rfl
theorem plainList_closed (reg : List Str) : ∀ (vs : List Val), plainListB vs = true → closedListB reg vs = true
  | [], _ => rfl
  | x :: xs, h => by
    simp only [plainListB, closedListB, Bool.and_eq_true] at *
    exact ⟨plain_closed reg x h.1, plainList_closed reg xs h.2⟩
end

/-- **C04_plain_input.**  What the wire codecs deliver — literal data without any instance — meets the hypothesis of
    the `C04_closed…` theorems, so for every payload: whatever `loads` returns is closed. -/
theorem C04_plain_input (E : Env) (ser : Ser) (fuel : Nat) (lit w : Val) (log : List Effect)
    (hp : plainB lit = true) (h : loads E ser fuel lit = (.ok w, log)) : Closed E.reg w :=
  C04_closed_loads E ser fuel lit w log (plain_closed E.reg lit hp) h

/-- **C04_dunder.**  A class dict whose tag (text, or bytes decoding to text) contains a double underscore and has no
    registered converter is refused with SecurityError before anything else happens (empty effect log) — whatever its
    other members, whatever the budget. -/
theorem C04_dunder (E : Env) (fuel : Nat) (ks : List Key) (vs : List Val) (tag : Str)
    (ht : tagOf ks vs = .ok tag) (hr : tag ∉ E.reg) (hd : ['_', '_'] <:+: tag) :
    dictToClass E (fuel + 1) ks vs = (.error .security, []) := by
  unfold dictToClass
  simp only [ht]
  rw [if_neg hr, if_pos ((hasDunder_iff tag).mpr hd)]
  rfl

/-- **C04_unknown.**  `dict_to_class` returns a value only for a tag with a registered converter, or a dunder-free tag
    of the closed set (`KnownTag`: the nine hard-coded names, `Pyro5.errors.<PyroError subclass>`, and — only when the
    dict's `__exception__` entry is truthy — a name of `all_exceptions`, `builtins.`/`exceptions.` + a BaseException
    subclass of builtins, `sqlite3.` + an exception class whose name ends in `Error`).  Every other tag ends in an error. -/
theorem C04_unknown (E : Env) (fuel : Nat) (ks : List Key) (vs : List Val) (w : Val) (log : List Effect)
    (h : dictToClass E fuel ks vs = (.ok w, log)) :
    ∃ tag, tagOf ks vs = .ok tag ∧ (tag ∈ E.reg ∨ (hasDunder tag = false ∧ KnownTag (excFlag ks vs) tag)) := by
  refine (show Sat (fun _ => _) (fun _ => True) (fun _ => True) (dictToClass E fuel ks vs) from ?_).result
    (congrArg Prod.fst h)
  clear h
  cases fuel with
  | zero => exact sat_fail _ trivial
  | succ fuel =>
    unfold dictToClass
    split
    · exact sat_fail _ trivial
    rename_i cn hcn
    refine sat_ite (fun hreg => sat_const ⟨cn, hcn, .inl hreg⟩) fun _ => ?_    -- registered converter
    refine sat_ite (fun _ => sat_fail _ trivial) fun hdu => ?_    -- double underscore
    refine sat_mono (Q := fun _ => KnownTag (excFlag ks vs) cn) ?_ fun _ hk => ⟨cn, hcn, .inr ⟨by simpa using hdu, hk⟩⟩
    have listed : ∀ {m : M Val} {t : Str}, cn = t → (_ht : t ∈ [tURI, tProxy, tDaemon, tSerpent, tMarshal, tJson, tMsgpack,
        tStructError, tWrapper] := by simp only [List.mem_cons, true_or, or_true]) →
        Sat (fun _ => KnownTag (excFlag ks vs) cn) (fun _ => True) (fun _ => True) m :=
      fun c ht => sat_const (.inl (c ▸ ht))
    refine sat_ite (listed ·) fun _ => ?_                   -- URI
    refine sat_ite (listed ·) fun _ => ?_                   -- Proxy
    refine sat_ite (listed ·) fun _ => ?_                   -- Daemon
    refine sat_ite (fun _ => ?_) fun _ => ?_                -- Pyro5.util.
    · refine sat_ite (listed ·) fun _ => ?_                 -- SerpentSerializer
      refine sat_ite (listed ·) fun _ => ?_                 -- MarshalSerializer
      refine sat_ite (listed ·) fun _ => ?_                 -- JsonSerializer
      exact sat_ite (listed ·) fun _ => unsupported_spec trivial trivial    -- MsgpackSerializer
    refine sat_ite (fun hpre => ?_) fun _ => ?_             -- Pyro5.errors.
    · exact sat_mono (resolveExc_known ..) fun _ ⟨q, hq⟩ => .inr (.inl ⟨_, q, startsWith_eq hpre, hq⟩)
    refine sat_ite (listed ·) fun _ => ?_                   -- struct.error
    refine sat_ite (listed ·) fun _ => ?_                   -- _ExceptionWrapper
    refine sat_ite (fun hflag => ?_) fun _ => unsupported_spec trivial trivial    -- `__exception__` flag
    split
    · rename_i q hq
      exact sat_const (.inr (.inr ⟨hflag, .inl ⟨q, hq⟩⟩))
    split
    · exact sat_fail _ trivial
    rename_i ns short hsp
    have hcn' := splitDot_eq hsp
    refine sat_ite (fun hns => ?_) fun _ => ?_              -- builtins. / exceptions.
    · refine sat_mono (resolveExc_known ..) fun _ ⟨q, hq⟩ => .inr (.inr ⟨hflag, .inr (.inl ⟨short, q, ?_, hq⟩)⟩)
      exact hns.imp (fun e => by rw [hcn', e]) fun e => by rw [hcn', e]
    refine sat_ite (fun hsq => ?_) fun _ => unsupported_spec trivial trivial    -- sqlite3.…Error
    refine sat_bind (sat_emit _ trivial) fun _ _ => ?_
    exact sat_mono (resolveExc_known ..) fun _ ⟨q, hq⟩ =>
      .inr (.inr ⟨hflag, .inr (.inr ⟨short, q, by rw [hcn', hsq.1], hsq.2, hq⟩)⟩)

/-- **C04_effects.**  Everything class re-creation does besides building data is in the allowed set: calling a
    converter the application registered for that very tag; constructing a class of the closed set; `getattr` on
    builtins / Pyro5.errors / sqlite3 only; `import sqlite3` only; `setattr` on an instance of a whitelisted exception
    class only; data-only conversions; a log warning.  (No other import, no other constructor, no other call.) -/
theorem C04_effects (E : Env) (ser : Ser) (fuel : Nat) (v : Val) (hv : Closed E.reg v) :
    ∀ e ∈ (recreate E ser fuel v).2, Allowed E.reg e :=
  (recreate_spec E False ser fuel v hv (fun hp => hp.elim)).effects

theorem C04_effects_loads (E : Env) (ser : Ser) (fuel : Nat) (lit : Val) (hv : Closed E.reg lit) :
    ∀ e ∈ (loads E ser fuel lit).2, Allowed E.reg e :=
  (loads_spec E False ser fuel lit hv (fun hp => hp.elim)).effects

theorem C04_effects_loadsCall (E : Env) (hook : Bool) (ser : Ser) (fuel : Nat) (lit : Val) (hv : Closed E.reg lit) :
    ∀ e ∈ (loadsCall E hook ser fuel lit).2, Allowed E.reg e :=
  (loadsCall_spec E False hook ser fuel lit hv (fun hp => hp.elim)).effects

/-- **Obligation on the extracted tables** (`C04_gen_tables`): every exception class reachable through the tables is
    defined in builtins, Pyro5.errors or sqlite3 (or is struct.error); every sqlite3 attribute whose name ends in
    `Error` is an exception class (the `issubclass` test on that path never even sees anything else); no reachable
    exception name contains a double underscore. -/
theorem C04_gen_tables :
    (∀ q ∈ closedExcQuals, startsWith q (cs "builtins.") = true ∨ startsWith q (cs "Pyro5.errors.") = true
        ∨ startsWith q (cs "sqlite3.") = true ∨ q = cs "struct.error")
    ∧ (∀ r ∈ sqliteErrorRows, ∃ q, r.2 = Kind.exc q)
    ∧ (∀ q ∈ closedExcQuals, hasDunder q = false) := by
  have h := tablesOk_true
  simp only [tablesOk, Bool.and_eq_true, List.all_eq_true, Bool.or_eq_true, decide_eq_true_eq, Bool.not_eq_true',
    or_assoc] at h
  obtain ⟨⟨h1, h2⟩, _⟩ := h
  refine ⟨fun q hq => (h1 q hq).1, fun r hr => ?_, fun q hq => (h1 q hq).2⟩
  have h := h2 r hr
  generalize r.2 = k at h ⊢
  cases k with
  | exc q => exact ⟨q, rfl⟩
  | cls | other => cases h

/-- **C04_exc_sources.**  An exception class that decoding constructs is one of the closed list, hence defined in
    builtins, Pyro5.errors, sqlite3 or is struct.error. -/
theorem C04_exc_sources (E : Env) (ser : Ser) (fuel : Nat) (lit : Val) (hv : Closed E.reg lit) (q : Str)
    (h : Effect.construct (.exc q) ∈ (loads E ser fuel lit).2) :
    q ∈ closedExcQuals ∧ (startsWith q (cs "builtins.") = true ∨ startsWith q (cs "Pyro5.errors.") = true
        ∨ startsWith q (cs "sqlite3.") = true ∨ q = cs "struct.error") := by
  have ha : Allowed E.reg (.construct (.exc q)) := C04_effects_loads E ser fuel lit hv _ h
  have hq : q ∈ closedExcQuals := by
    simpa only [Allowed, ClosedCls, closedClsB, decide_eq_true_eq] using ha
  exact ⟨hq, C04_gen_tables.1 q hq⟩

/-- **C04_fuel_sufficient.**  With the budget `fuelFor lit` the `_ExceptionWrapper` recursion never runs out: the
    model's `fuel` error is not an outcome of `loads` / `loadsCall` (so the budget hides nothing). -/
theorem C04_fuel_sufficient (E : Env) (hook : Bool) (ser : Ser) (lit : Val) (hv : Closed E.reg lit) :
    (loads E ser (fuelFor lit) lit).1 ≠ .error .fuel ∧ (loadsCall E hook ser (fuelFor lit) lit).1 ≠ .error .fuel := by
  have hd : True → depth lit < fuelFor lit := fun _ => Nat.lt_succ_self _
  exact ⟨fun h => (loads_spec E True ser _ lit hv hd).errors h rfl trivial,
         fun h => (loadsCall_spec E True hook ser _ lit hv hd).errors h rfl trivial⟩

/-- **Obligation on the extracted table** (`C04_gen_all_exceptions`): every class `all_exceptions` maps to is an
    exception class of vars(builtins) or vars(Pyro5.errors). -/
theorem C04_gen_all_exceptions : ∀ p ∈ allExceptions, p.2 ∈ closedExcQuals := allExceptions_closed

/-- **Obligation** (`C04_gen_struct`): struct.error is an exception class, under that name. -/
theorem C04_gen_struct : structErrorIsException = true ∧ structErrorQual = cs "struct.error" := by decide

/-- **C04_ext_converted.**  On a path that runs msgpack's `ext_hook` (`loads`; `loadsCall` when the probed flag says so), once
    the hook pass over a literal tree succeeds no extension value is left in it: every one was converted to data, and an
    unknown code makes decoding fail (`C04_gen_ext_codes` ties the accepted codes to the real `ext_hook`).  Hence an
    undecoded `msgpack.ExtType` in a decoded value is not an outcome of the model (the oracle reports it as a foreign type). -/
theorem C04_ext_converted (E : Env) (lit w : Val) (hp : plainB lit = true) (h : (applyExt E lit).1 = .ok w) :
    noExtB w = true :=
  (applyExt_noExt E lit hp).result h

/-- **Obligation on the extracted probe table** (`C04_gen_probes`): on every one of the fixed probe inputs — one
    well-formed class dict per recognised tag, the refusing branches, every member missing or ill-typed, registry,
    wrappers, all container kinds, lists beyond 1024 items, the call shapes of the four serializers, msgpack extension
    values on both paths, class dicts nested in class dicts (top-down decoding) — the model computes exactly the outcome
    that the REAL `loads` / `loadsCall` produced at extraction time (canonical rendering of the value or error class;
    a recorded audit event never matches).  This replaces reading the if/elif chain: a refactoring that keeps the
    behaviour keeps the table, a change of behaviour on any probe breaks this theorem. -/
theorem C04_gen_probes : probeFailures = [] ∧ 200 ≤ probes.length := by decide +kernel

/-- **Obligation** (`C04_gen_ext_codes`): the extension codes the real `ext_hook` accepts (all 128 codes probed) are
    the four the model converts; and the model's `loadsCall` uses the probed "loadsCall applies ext_hook" flag. -/
theorem C04_gen_ext_codes : extHookAccepted = extCodes := by decide

/-! ### non-vacuity: concrete payloads meet the hypotheses and exercise the accepting and refusing branches -/

def allOk : Ext :=
  { ctorOk := fun _ _ => true, setattrOk := fun _ _ _ => true, floatOk := fun _ => true, uriOk := fun _ => true,
    setOk := fun _ => true, extOk := fun _ _ => true }

def E0 : Env := { reg := [], ext := allOk }
def E1 : Env := { reg := [cs "my.__special__.Thing"], ext := allOk }

/-- `[{"__class__": "ValueError", "__exception__": True, "args": ["hi"], "attributes": {"x_note": {"__class__": "os.system"}}},
      {"__class__": "Pyro5.core._ExceptionWrapper", "exception": {"__class__": "sqlite3.OperationalError", "__exception__": 1, "args": []}}]` -/
def vGood : Val :=
  .list [
    .dict [.str kClass, .str kExcFlag, .str kArgs, .str kAttributes]
      [.str (cs "ValueError"), .atom true "bool.t", .list [.str (cs "hi")],
       .dict [.str (cs "x_note")] [.dict [.str kClass] [.str (cs "os.system")]]],
    .dict [.str kClass, .str kException]
      [.str tWrapper,
       .dict [.str kClass, .str kExcFlag, .str kArgs] [.str (cs "sqlite3.OperationalError"), .atom true "int.1", .list []]]]

def okClosedNotPlain (reg : List Str) (m : M Val) : Bool :=
  match m.1 with
  | .ok w => closedB reg w && !plainB w
  | .error _ => false

def failsWith (m : M Val) (e : Err) : Bool :=
  match m.1 with
  | .ok _ => false
  | .error e' => decide (e' = e)

-- a plain payload is decoded into a value with real instances, all of the closed set; its log is non-empty
example : plainB vGood = true ∧ okClosedNotPlain [] (loads E0 .json (fuelFor vGood) vGood) = true
    ∧ (loads E0 .json (fuelFor vGood) vGood).2 ≠ [] := by decide +kernel

-- the same payload through the call path
example : okClosedNotPlain [] (loadsCall E0 true .msgpack 9 (.list [.str (cs "o"), .str (cs "m"), vGood, .dict [] []])) = true
    ∧ okClosedNotPlain [] (loadsCall E0 false .serpent 9 (.tuple [.str (cs "o"), .str (cs "m"), vGood, .dict [] []])) = true := by
  decide +kernel

-- refusing branches: unknown tag, exception flag on a function / on a non-exception class, dunder tag given as bytes
example : failsWith (loads E0 .marshal 5 (.dict [.str kClass] [.str (cs "os.system")])) .serialize = true
    ∧ failsWith (loads E0 .marshal 5 (.dict [.str kClass, .str kExcFlag, .str kArgs]
          [.str (cs "builtins.eval"), .atom true "bool.t", .list []])) .typeAttr = true
    ∧ failsWith (loads E0 .marshal 5 (.dict [.str kClass, .str kExcFlag, .str kArgs]
          [.str (cs "builtins.int"), .atom true "bool.t", .list []])) .serialize = true
    ∧ failsWith (loads E0 .marshal 5 (.dict [.str kClass] [.bytes [0x61, 0x5f, 0x5f, 0x62]])) .security = true := by
  decide +kernel

-- hypotheses of C04_dunder are satisfiable; the registry wins for its own tag only
example : tagOf [.str kClass] [.str (cs "my.__special__.Thing")] = .ok (cs "my.__special__.Thing")
    ∧ cs "my.__special__.Thing" ∉ E0.reg ∧ ['_', '_'] <:+: cs "my.__special__.Thing" := by
  refine ⟨rfl, by decide, ?_⟩
  exact (hasDunder_iff _).mp (by decide)
example : okClosedNotPlain E1.reg (loads E1 .json 5 (.dict [.str kClass] [.str (cs "my.__special__.Thing")])) = true
    ∧ failsWith (loads E1 .json 5 (.dict [.str kClass] [.str (cs "my.__other__.Thing")])) .security = true := by
  decide +kernel

-- `Allowed` and `Closed` are not trivially true: other imports / getattr targets / constructors / classes are
-- expressible and excluded
example : ¬ Allowed [] (.importMod (cs "os")) := by
  show ¬ (cs "os" = nsSqlite3); decide
example : ¬ Allowed [] (.getattrMod (cs "os") (cs "system")) := by
  show ¬ (cs "os" = nsBuiltins ∨ cs "os" = mErrors ∨ cs "os" = nsSqlite3); decide
example : ¬ Allowed [] (.construct (.exc (cs "subprocess.Popen"))) := by
  show ¬ (closedClsB [] (.exc (cs "subprocess.Popen")) = true); decide +kernel
example : ¬ Allowed [] (.convert (cs "x")) := by
  show ¬ (cs "x" ∈ ([] : List Str)); decide
example : closedB [] (.list [.inst (.exc (cs "os.system")) []]) = false
    ∧ closedB [] (.inst (.custom (cs "x")) []) = false := by decide +kernel

-- KnownTag: the conclusion of C04_unknown is met by concrete accepted tags
example : KnownTag false tProxy ∧ KnownTag true (cs "KeyError") := by
  refine ⟨Or.inl (by decide), Or.inr (Or.inr ⟨rfl, Or.inl ⟨cs "builtins.KeyError", by decide +kernel⟩⟩)⟩

end Pyro.C04
