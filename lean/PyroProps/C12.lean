/-
  C12 — Per-call context never leaks between calls or clients.
  Theorems about `PyroModel.Context`: an explicit heap of response-annotation dict OBJECTS, thread
  local current dict per worker, oneway threads sharing the dict object of the request that spawned
  them and writing at any later time.  Quantifiers: every sequence of requests (handshakes, pings,
  calls that assign or mutate annotations and return or raise, oneway calls, refused calls) from any
  number of connections on any assignment to workers (one worker for all = multiplex; reused
  workers = thread pool), with the oneway writes interleaved anywhere.
-/
import PyroModel.Context
import PyroProofs.Context
import PyroModel.Gen.C12

namespace Pyro.C12

open Pyro.Context

structure Inv (s : State) : Prop where
  heap : HeapOK s.heap
  pending : PendingOK s
  replies : RepliesOK s

/-- pending oneway threads refer to dict objects that exist -/
def PendingBound (s : State) : Prop := ∀ p ∈ s.pending, p.dict < s.heap.length

theorem snoc_ok {α} {P : α → Prop} {l l' : List α} {x : α} (hl : l' = l) (hx : P x) :
    ∀ a ∈ l' ++ [x], a ∈ l ∨ P a := by
  intro a ha
  rcases mem_snoc ha with ha | rfl
  · exact Or.inl (hl ▸ ha)
  · exact Or.inr hx

theorem old_ok {α} {P : α → Prop} {l l' : List α} (hl : l' = l) : ∀ a ∈ l', a ∈ l ∨ P a :=
  fun _ ha => Or.inl (hl ▸ ha)

/-- what a step has to show of the state it produces -/
theorem inv_of_kept (s s' : State) (h : Inv s) (hb : PendingBound s) (hg : Grows s.heap s'.heap)
    (hpend : ∀ p ∈ s'.pending, p ∈ s.pending ∨
      (p.dict < s'.heap.length ∧ OwnedBy s'.heap p.dict p.rid))
    (hrep : ∀ r ∈ s'.replies, r ∈ s.replies ∨ ∀ kw ∈ r.keys, kw.2 = r.rid) :
    Inv s' ∧ PendingBound s' := by
  refine ⟨⟨hg.1, ?_, ?_⟩, ?_⟩
  · intro p hp dd hdd
    rcases hpend p hp with hold | ⟨_, hnew⟩
    · obtain ⟨dd0, h0, ho⟩ := hg.2.1 p.dict dd hdd (hb p hold)
      rw [← ho]; exact h.pending p hold dd0 h0
    · exact hnew dd hdd
  · intro r hr
    exact (hrep r hr).elim (h.replies r) id
  · intro p hp
    rcases hpend p hp with hold | ⟨hlt, _⟩
    · exact Nat.lt_of_lt_of_le (hb p hold) hg.2.2
    · exact hlt

theorem step_inv (s : State) (ev : Event) (h : Inv s) (hb : PendingBound s) :
    Inv (step s ev) ∧ PendingBound (step s ev) := by
  cases ev with
  | onewayRun rid =>
    simp only [step]
    cases hf : s.pending.find? (·.rid = rid) with
    | none => exact ⟨h, hb⟩
    | some p =>
      obtain ⟨g, _⟩ := methodWrites_ok
        { s with pending := s.pending.filter (·.rid ≠ rid), snaps := s.snaps ++ [⟨p.rid, p.info⟩] }
        p.rid p.dict p.keys p.mode h.heap (h.pending p (List.mem_of_find?_eq_some hf))
      refine inv_of_kept s _ h hb g (fun q hq => Or.inl ?_) (old_ok methodWrites_replies)
      rw [methodWrites_pending] at hq
      exact (List.mem_filter.mp hq).1
  | request w rid info kind =>
    dsimp only [step, alloc]
    -- every request starts by allocating a fresh dict of its own
    have g0 : Grows s.heap (s.heap ++ [⟨rid, []⟩]) := grows_append h.heap (fun _ hk => nomatch hk)
    have own0 : OwnedBy (s.heap ++ [⟨rid, []⟩]) s.heap.length rid := owner_fresh
    cases kind with
    | handshake | ping =>
      exact inv_of_kept s _ h hb g0 (fun _ => Or.inl) (snoc_ok rfl (keys_of_owned g0.1 own0))
    | refused =>
      exact inv_of_kept s _ h hb g0 (fun _ => Or.inl) (snoc_ok rfl (fun _ hk => nomatch hk))
    | oneway keys mode =>
      exact inv_of_kept s _ h hb g0 (snoc_ok rfl ⟨by simp, own0⟩) (fun _ => Or.inl)
    | call keys mode raises =>
      obtain ⟨g1, own1⟩ := methodWrites_ok
        { s with heap := s.heap ++ [⟨rid, []⟩], tls := setTls s.tls w s.heap.length, snaps := s.snaps ++ [⟨rid, info⟩] }
        rid s.heap.length keys mode g0.1 own0
      cases raises with
      | true =>
        exact inv_of_kept s _ h hb (g0.trans g1) (old_ok methodWrites_pending)
          (snoc_ok methodWrites_replies (fun _ hk => nomatch hk))
      | false =>
        -- after the reply the request gets another fresh dict
        exact inv_of_kept s _ h hb ((g0.trans g1).trans (grows_append g1.1 (fun _ hk => nomatch hk)))
          (old_ok methodWrites_pending)
          (snoc_ok methodWrites_replies (keys_of_owned g1.1 own1))

theorem run_inv (evs : List Event) : ∀ (s : State), Inv s → PendingBound s →
    Inv (run s evs) ∧ PendingBound (run s evs) := by
  induction evs with
  | nil => exact fun _ h hb => ⟨h, hb⟩
  | cons ev evs ih => exact fun s h hb => (step_inv s ev h hb).elim (ih _)

/-- **C12_no_leak.**  In every history — any requests, from any connections, on any workers, with
    the writes of oneway methods happening at any later point — every response annotation sent with a
    reply (or with a handshake / ping answer) was written by the method of that very request.
    (Daemon-level annotations are not per-call and are not tracked as keys.) -/
theorem C12_no_leak (evs : List Event) :
    ∀ r ∈ (run {} evs).replies, ∀ kw ∈ r.keys, kw.2 = r.rid :=
  (run_inv evs {} ⟨fun _ h => by simp at h, fun _ h => by simp at h, fun _ h => by simp at h⟩
    (fun _ h => by simp at h)).1.replies

/-- Answers that no method call produced — handshake answers, pings, error replies, replies to calls
    that raised — carry no method-set annotation at all. -/
theorem C12_no_method_no_annotation (s : State) (w rid : Nat) (info : ReqInfo) (k : Kind)
    (hk : (∃ ok, k = .handshake ok) ∨ k = .ping ∨ k = .refused ∨ (∃ ks m, k = .call ks m true)) :
    ∃ r, (step s (.request w rid info k)).replies = s.replies ++ [r] ∧ r.keys = [] ∧ r.rid = rid := by
  -- the dict allocated at the start of the request is still empty when a handshake or ping is answered
  have fresh : ((s.heap ++ [(⟨rid, []⟩ : Dict)])[s.heap.length]?.map (·.keys)).getD [] = [] := by
    rw [List.getElem?_concat_length]
    rfl
  rcases hk with ⟨ok, rfl⟩ | rfl | rfl | ⟨ks, m, rfl⟩
  · exact ⟨_, rfl, fresh, rfl⟩
  · exact ⟨_, rfl, fresh, rfl⟩
  · exact ⟨_, rfl, rfl, rfl⟩
  · exact ⟨⟨rid, info.conn, []⟩, congrArg (· ++ _) methodWrites_replies, rfl, rfl⟩

theorem step_snaps (s : State) (ev : Event) : ∀ sn ∈ (step s ev).snaps,
    sn ∈ s.snaps ∨ (∃ w k, ev = .request w sn.rid sn.seen k) ∨ ∃ p ∈ s.pending, sn = ⟨p.rid, p.info⟩ := by
  intro sn hsn
  cases ev with
  | onewayRun rid =>
    simp only [step] at hsn
    cases hf : s.pending.find? (·.rid = rid) with
    | none => rw [hf] at hsn; exact Or.inl hsn
    | some p =>
      rw [hf] at hsn
      dsimp only at hsn
      rw [methodWrites_snaps] at hsn
      rcases mem_snoc hsn with h | rfl
      · exact Or.inl h
      · exact Or.inr (Or.inr ⟨p, List.mem_of_find?_eq_some hf, rfl⟩)
  | request w rid info kind =>
    cases kind with
    | call keys mode raises =>
      have hsn : sn ∈ s.snaps ++ [⟨rid, info⟩] := by cases mode <;> cases raises <;> exact hsn
      rcases mem_snoc hsn with h | rfl
      · exact Or.inl h
      · exact Or.inr (Or.inl ⟨w, _, rfl⟩)
    | _ => exact Or.inl hsn

theorem step_pending (s : State) (ev : Event) : ∀ q ∈ (step s ev).pending,
    q ∈ s.pending ∨ ∃ w k, ev = .request w q.rid q.info k := by
  intro q hq
  cases ev with
  | onewayRun rid =>
    simp only [step] at hq
    cases hf : s.pending.find? (·.rid = rid) with
    | none => rw [hf] at hq; exact Or.inl hq
    | some p =>
      rw [hf] at hq
      dsimp only at hq
      rw [methodWrites_pending] at hq
      exact Or.inl (List.mem_filter.mp hq).1
  | request w rid info kind =>
    cases kind with
    | call keys mode raises =>
      exact Or.inl (by cases mode <;> cases raises <;> exact hq)
    | oneway keys mode =>
      rcases mem_snoc hq with h | rfl
      · exact Or.inl h
      · exact Or.inr ⟨w, _, rfl⟩
    | _ => exact Or.inl hq

/-- **C12_read.**  The context a method observes is that of the request being served, also when the
    method runs later in its own oneway thread: every snapshot a method took equals the info of the
    request with the same id. -/
theorem C12_read (evs : List Event) (infoOf : Nat → ReqInfo)
    (hcons : ∀ ev ∈ evs, ∀ w rid info k, ev = .request w rid info k → info = infoOf rid) :
    ∀ sn ∈ (run {} evs).snaps, sn.seen = infoOf sn.rid := by
  suffices key : ∀ s : State, (∀ sn ∈ s.snaps, sn.seen = infoOf sn.rid) → (∀ p ∈ s.pending, p.info = infoOf p.rid) →
      ∀ sn ∈ (run s evs).snaps, sn.seen = infoOf sn.rid from key {} (fun _ h => nomatch h) (fun _ h => nomatch h)
  induction evs with
  | nil => exact fun s hs _ => hs
  | cons ev evs ih =>
    intro s hs hp
    have hev := hcons ev List.mem_cons_self
    apply ih (fun e he => hcons e (List.mem_cons_of_mem _ he)) (step s ev)
    · intro sn hsn
      rcases step_snaps s ev sn hsn with h | ⟨w, k, h⟩ | ⟨p, hpm, rfl⟩
      · exact hs sn h
      · exact hev w _ _ k h
      · exact hp p hpm
    · intro q hq
      rcases step_pending s ev q hq with h | ⟨w, k, h⟩
      · exact hp q h
      · exact hev w _ _ k h

/-- **C12_client.**  What a client observes in `response_annotations` after a call is a function of
    that call alone — its own handshake answer (if it had to connect) and its own reply — whatever
    earlier calls left behind; it is the reply's annotations whenever the reply carries any. -/
theorem C12_client (before before' : List Nat) (c : ClientCall) :
    clientAfter before c = clientAfter before' c ∧
    (∀ anns, c.reply = some anns → anns ≠ [] → clientAfter before c = anns) ∧
    (∀ k ∈ clientAfter before c, (c.connects = true ∧ k ∈ c.handshakeAnns) ∨ ∃ anns, c.reply = some anns ∧ k ∈ anns) := by
  refine ⟨rfl, ?_, ?_⟩
  · intro anns hr hne
    unfold clientAfter
    rw [hr]
    cases anns with
    | nil => exact absurd rfl hne
    | cons a as => rfl
  · intro k hk
    have hra : k ∈ (if (c.connects && !c.handshakeAnns.isEmpty) = true then c.handshakeAnns else []) →
        c.connects = true ∧ k ∈ c.handshakeAnns := by
      intro h
      obtain ⟨hc, hk⟩ := List.mem_ite_nil_right.mp h
      exact ⟨(Bool.and_eq_true_iff.mp hc).1, hk⟩
    unfold clientAfter at hk
    cases hr : c.reply with
    | none => rw [hr] at hk; exact Or.inl (hra hk)
    | some anns =>
      rw [hr] at hk
      dsimp only at hk
      split at hk
      · exact Or.inl (hra hk)
      · exact Or.inr ⟨anns, rfl, hk⟩

/-- over a whole sequence of calls: the k-th observation does not depend on what was there initially
    nor (by the above) on earlier calls -/
theorem C12_client_run (before before' : List Nat) (cs : List ClientCall) :
    clientRun before cs = clientRun before' cs := by
  cases cs with
  | nil => rfl
  | cons c cs => rfl

/-- **C12_gen_facts.**  Source facts: the call context is a `threading.local`; `handleRequest` and
    `_handshake` start from a fresh response-annotation dict; the normal reply resets it afterwards;
    the oneway thread receives a shallow copy of the context. -/
theorem C12_gen_facts :
    Pyro.Gen.C12.contextIsThreadLocal = true ∧
    Pyro.Gen.C12.handleRequestResetsFirst = true ∧
    Pyro.Gen.C12.handshakeResetsFirst = true ∧
    Pyro.Gen.C12.normalReplyResetsAfter = true ∧
    Pyro.Gen.C12.clientResetsPerCall = true ∧
    Pyro.Gen.C12.onewayContextIsSnapshot = true := by decide

/-! ### non-vacuity -/
private def i1 : ReqInfo := ⟨0, 1, 0, 2, [], 0⟩
private def i2 : ReqInfo := ⟨1, 1, 0, 2, [], 0⟩
-- client 0's call raises after setting key 7; client 1 then handshakes on the same worker: nothing of 7 in its answer;
-- a oneway call of client 0 mutates key 8 late, after client 1's next call: still nothing leaks
example : ((run {} [.request 0 1 i1 (.call [7] .mutate true), .request 0 2 i2 (.handshake true),
                    .request 0 3 i1 (.oneway [8] .mutate), .request 0 4 i2 (.call [9] .assign false),
                    .onewayRun 3, .request 0 5 i2 .ping]).replies.map (fun r => (r.rid, r.keys)))
    = [(1, []), (2, []), (4, [(9, 4)]), (5, [])] := by decide

end Pyro.C12
