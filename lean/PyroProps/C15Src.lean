/-
  C15 — the operations of the atomicity theorems are the SOURCE's operations.

  harness/props/c15.py:extract (translator: harness/props/c14_tr.py, C14's, used read-only) transcribes `NameServer.count /
  lookup / register / set_metadata / remove / list / yplookup` from Pyro5/nameserver.py into PyroModel/Gen/C15Src.lean on every
  run (`nsStepSrc`); PyroProofs/NsSrcTr.lean proves `nsStepSrc = nsStep` (C14's hand-written methods over the storage interface) on
  every back-end meeting the storage contract.  This file
    * embeds C15's small operation model (PyroModel/NsOps.lean: names, numbered uris, numbered tags) into the
      vocabulary of that transcription and proves, for every call and every well-formed map, that the transcribed
      method run on the transcribed `MemoryStorage` computes exactly what `NsOps.apply` computes
      (`C15_ops_translated`, histories: `C15_source_seq_translated`);
    * instantiates the interleaving semantics with the transcribed methods themselves (`srcOp`: any `NS.Op`, any
      argument, including the regex / metadata forms NsOps does not have) and restates the property theorems about
      them (`C15_source_…`).
-/
import PyroModel.NsOps
import PyroModel.NsOpsEmb
import PyroProofs.Lock
import PyroProofs.NSMem
import PyroProofs.NsSrcTr
import PyroModel.Gen.C15Src
import PyroProps.C15

namespace Pyro.C15

open Pyro Pyro.Lock Pyro.NsOps

/-! ### well-formed calls and maps -/

/-- the tag collection of a call has no repetitions (the driver and the harness hand over sets) -/
def TagsOK : Call → Prop
  | .register _ _ _ tags => tags.Nodup
  | .setMeta _ tags => tags.Nodup
  | _ => True

/-- a map: names pairwise distinct, tag lists without repetition -/
def WF (s : Store) : Prop := (s.map (·.1)).Nodup ∧ ∀ e ∈ s, e.2.2.Nodup

/-! ### the embedding (PyroModel/NsOpsEmb.lean) commutes with the dict operations -/

theorem single_inj : Function.Injective single := by
  intro a b h; simpa [single] using h

theorem nodup_map_single {l : List Nat} (h : l.Nodup) : (l.map single).Nodup :=
  List.Pairwise.map single (fun _ _ hab hh => hab (single_inj hh)) h

theorem dedup_of_nodup : ∀ {l : NS.Tags}, l.Nodup → NS.dedup l = l
  | [], _ => rfl
  | a :: l, h => by
    have h' := List.nodup_cons.mp h
    simp only [NS.dedup, dedup_of_nodup h'.2]
    congr 1
    apply List.filter_eq_self.mpr
    intro b hb
    simp only [bne_iff_ne, ne_eq]
    intro hba; subst hba; exact h'.1 hb

theorem storedTags_emb {tags : List Nat} (h : tags.Nodup) : NS.storedTags (embMeta tags) = tags.map single := by
  cases tags with
  | nil => simp [NS.storedTags, embMeta, NS.MetaArg.truthy]
  | cons a l =>
    simp only [NS.storedTags, embMeta, NS.MetaArg.truthy, NS.MetaArg.tags, List.map_cons, List.isEmpty_cons,
      Bool.not_false, if_true]
    exact dedup_of_nodup (l := single a :: l.map single) (by simpa using nodup_map_single h)

theorem beq_decide (a b : Name) : (a == b) = decide (a = b) := by
  by_cases h : a = b <;> simp [h]

theorem any_emb (s : Store) (n : Name) : (embS s).any (·.name == n) = s.has n := by
  simp only [embS, List.any_map, Store.has, Function.comp_def, embE, beq_decide]
  rfl

theorem find_emb (s : Store) (n : Name) :
    (embS s).find? (·.name == n) = (s.find? (·.1 = n)).map embE := by
  simp only [embS, List.find?_map, Function.comp_def, embE, beq_decide]
  rfl

theorem del_emb (s : Store) (n : Name) : (embS s).filter (·.name != n) = embS (Store.del s n) := by
  simp only [embS, List.filter_map, Store.del, Function.comp_def, embE, bne, beq_decide, decide_not]
  rfl

/-- dict assignment on a map with distinct names, said the way `MemoryStorage` (a dict) does it -/
theorem set_eq : ∀ (s : Store) (n : Name) (v : Nat × List Nat), (s.map (·.1)).Nodup →
    Store.set s n v = if s.has n then s.map (fun e => if e.1 = n then (n, v) else e) else s ++ [(n, v)]
  | [], n, v, _ => by simp [Store.set, Store.has]
  | (k, w) :: r, n, v, hk => by
    have hk2 : (k :: r.map (·.1)).Nodup := hk
    have hk' := List.nodup_cons.mp hk2
    simp only [Store.set]
    by_cases h : k = n
    · subst h
      have hr : r.map (fun e => if e.1 = k then (k, v) else e) = r := by
        conv => rhs; rw [← List.map_id r]
        apply List.map_congr_left
        intro e he
        have : e.1 ≠ k := fun hh => hk'.1 (hh ▸ List.mem_map_of_mem (f := (·.1)) he)
        simp [this]
      simp [Store.has, hr]
    · have ih := set_eq r n v hk'.2
      have hh : Store.has ((k, w) :: r) n = Store.has r n := by simp [Store.has, h]
      rw [if_neg h, hh, ih]
      cases hr : Store.has r n <;> simp [h]

theorem memSet_emb (s : Store) (n : Name) (u : Nat) (t : List Nat) (hk : (s.map (·.1)).Nodup) :
    NS.memSet n [u] (t.map single) (embS s) = embS (Store.set s n (u, t)) := by
  rw [NS.memSet, any_emb, set_eq s n (u, t) hk]
  cases hs : s.has n
  · simp [embS, embE]
  · simp only [if_true, embS, List.map_map]
    apply List.map_congr_left
    intro e _
    by_cases h : e.1 = n <;> simp [embE, h]

theorem isPrefix_eq : ∀ (p n : Name), isPrefix p n = p.isPrefixOf n
  | [], _ => by simp [isPrefix]
  | _ :: _, [] => by simp [isPrefix]
  | a :: p, b :: n => by simp [isPrefix, List.isPrefixOf, isPrefix_eq p n]

theorem find_self {s : Store} (hk : (s.map (·.1)).Nodup) : ∀ e ∈ s, s.find? (·.1 = e.1) = some e := by
  induction s with
  | nil => intro e he; cases he
  | cons a r ih =>
    intro e he
    have hk2 : (a.1 :: r.map (·.1)).Nodup := hk
    have hk' := List.nodup_cons.mp hk2
    rcases List.mem_cons.mp he with rfl | her
    · simp
    · have hne : a.1 ≠ e.1 := fun hh => hk'.1 (hh ▸ List.mem_map_of_mem (f := (·.1)) her)
      rw [List.find?_cons]; simp [hne, ih hk'.2 e her]

/-- the loop of `NameServer.list` over a dict whose names are distinct: every listed name is found again -/
theorem collect_emb (s : Store) (pred : Name → Bool) (hk : (s.map (·.1)).Nodup) :
    ∀ (l : List (Name × Nat × List Nat)), (∀ e ∈ l, e ∈ s) →
    NS.collect NS.memStore pred false (l.map (·.1)) (embS s)
      = (.listing ((l.filter fun e => pred e.1).map fun e => ⟨e.1, [e.2.1], []⟩), embS s)
  | [], _ => by simp [NS.collect]
  | e :: l, hl => by
    have ih := collect_emb s pred hk l (fun x hx => hl x (List.mem_cons_of_mem _ hx))
    have hf : NS.memStore.getItem e.1 (embS s) = (some (some (embE e)), embS s) := by
      simp [NS.memStore, find_emb, find_self hk e (hl e List.mem_cons_self)]
    simp only [List.map_cons, NS.collect]
    cases hp : pred e.1
    · simp only [Bool.false_eq_true, if_false, ih, List.filter_cons, hp]
    · simp only [if_true, hf, ih, List.filter_cons, hp, List.map_cons]
      simp [NS.Entry.strip, embE]

theorem memRemoveItems_emb : ∀ (items : List Name) (s : Store),
    NS.memRemoveItems items (embS s) = embS (items.foldl (fun st it => if st.has it then st.del it else st) s)
  | [], _ => rfl
  | it :: items, s => by
    simp only [NS.memRemoveItems, List.foldl_cons, any_emb]
    cases h : s.has it
    · simpa using memRemoveItems_emb items s
    · simp only [if_true, del_emb]; exact memRemoveItems_emb items (s.del it)

/-! ### the hand-written operation model against the hand-written method model (C14's `nsStep`) -/

theorem truthy_cons (a : Nat) (l : List Nat) : NS.truthy? (some (a :: l)) = some (a :: l) := rfl

theorem nsList_emb (env : NS.Env) (a : Nat) (l : Name) (s : Store) (hk : (s.map (·.1)).Nodup) :
    NS.nsList NS.memStore env (some (a :: l)) none false (embS s)
      = (.listing ((s.filter fun e => isPrefix (a :: l) e.1).map fun e => ⟨e.1, [e.2.1], []⟩), embS s) := by
  have hnm : (embS s).map (·.name) = s.map (·.1) := List.map_map
  have hfil : (s.filter fun e => (a :: l).isPrefixOf e.1) = s.filter fun e => isPrefix (a :: l) e.1 :=
    congrArg (List.filter · s) (funext fun e => (isPrefix_eq _ _).symm)
  rw [← hfil, ← collect_emb s (fun n => (a :: l).isPrefixOf n) hk s fun _ h => h, ← hnm]
  rfl

theorem model_eq_nsStep (env : NS.Env) (henv : ∀ u, env.uriOk u = true) (c : Call) (s : Store)
    (hc : TagsOK c) (hk : (s.map (·.1)).Nodup) :
    NS.nsStep NS.memStore env (embC c) (embS s) = (embR (apply c s).2, embS (apply c s).1) := by
  have hset : ∀ n u tags, NS.call (NS.memStore.setItem n [u] (tags.map single)) (fun _ s2 => (NS.Res.none, s2)) (embS s)
      = (NS.Res.none, embS (Store.set s n (u, tags))) := fun n u tags =>
    congrArg (Prod.mk NS.Res.none) (memSet_emb s n u tags hk)
  have hn : NS.nsName = nsName := rfl
  cases c with
  | register n u safe tags =>
    rw [apply_register]
    simp only [embC, NS.nsStep, henv, Bool.not_true, Bool.false_eq_true, if_false, embMeta, NS.MetaArg.isStr]
    rw [show NS.storedTags (NS.MetaArg.list (tags.map single)) = tags.map single from storedTags_emb hc]
    cases safe
    · exact hset n u tags
    · show (if (embS s).any (·.name == n) = true then _ else _) = _
      rw [any_emb, hset, Bool.true_and]
      cases s.has n <;> rfl
  | setMeta n tags =>
    rw [apply_setMeta, Store.get]
    simp only [embC, NS.nsStep, embMeta, NS.MetaArg.isStr, Bool.false_eq_true, if_false]
    rw [show NS.storedTags (NS.MetaArg.list (tags.map single)) = tags.map single from storedTags_emb hc]
    simp only [NS.call, NS.memStore, find_emb]
    cases s.find? (·.1 = n) with
    | none => rfl
    | some e => exact hset n e.2.1 tags
  | remove n =>
    rw [apply_remove]
    cases n with
    | nil => rfl
    | cons a l =>
      simp only [embC, NS.nsStep, truthy_cons, NS.call, NS.memStore, any_emb, del_emb, hn]
      cases s.has (a :: l) with
      | false => rfl
      | true => cases (a :: l != nsName) <;> rfl
  | removePrefix p =>
    rw [apply_removePrefix]
    cases p with
    | nil => rfl
    | cons a l =>
      simp only [embC, NS.nsStep, NS.truthy?, NS.nsRemoveListed, nsList_emb env a l s hk]
      simp only [NS.call, NS.memStore, memRemoveItems_emb, List.map_map, hn]
      rw [show (fun x : Name => x != nsName) = fun x => decide (x ≠ nsName) from
        funext fun x => by rw [bne, beq_decide, ← decide_not]]
      rfl
  | lookup n =>
    rw [apply_lookup, Store.get]
    simp only [embC, NS.nsStep, NS.call, NS.memStore, find_emb]
    cases s.find? (·.1 = n) with
    | none => rfl
    | some e =>
      simp only [Option.map_some, embE, henv, if_true]
      rfl
  | count => exact congrArg (fun k => (NS.Res.num k, embS s)) (List.length_map embE : (embS s).length = s.length)
  | list p =>
    rw [apply_list]
    cases p with
    | nil =>
      rw [show s.filter (fun e => isPrefix [] e.1) = s from List.filter_eq_self.mpr fun _ _ => rfl, embR, List.map_map]
      exact congrArg (fun l => (NS.Res.listing l, embS s)) List.map_map
    | cons a l =>
      rw [embC, NS.nsStep, nsList_emb env a l s hk, embR, List.map_map]
      rfl

/-! ### well-formedness is kept by every operation -/

theorem wf_set {s : Store} (hw : WF s) (n : Name) (v : Nat × List Nat) (hv : v.2.Nodup) : WF (Store.set s n v) := by
  rw [set_eq s n v hw.1]
  cases h : s.has n
  · refine ⟨?_, fun e he => ?_⟩
    · refine (List.map_append ▸ List.nodup_append.mpr ⟨hw.1, List.pairwise_singleton _ _, fun a ha b hb hab => ?_⟩)
      cases List.mem_singleton.mp hb
      obtain ⟨e, he, rfl⟩ := List.mem_map.mp ha
      have : s.has e.1 = true := List.any_eq_true.mpr ⟨e, he, decide_eq_true rfl⟩
      rw [hab, h] at this
      cases this
    · rcases List.mem_append.mp he with he | he
      · exact hw.2 e he
      · cases List.mem_singleton.mp he
        exact hv
  · refine ⟨?_, fun e he => ?_⟩
    · have hkeys : (s.map fun e => if e.1 = n then (n, v) else e).map (·.1) = s.map (·.1) := by
        rw [List.map_map]
        refine List.map_congr_left fun e _ => ?_
        simp only [Function.comp]
        split <;> simp only [*]
      exact hkeys ▸ hw.1
    · obtain ⟨x, hx, rfl⟩ := List.mem_map.mp he
      split
      · exact hv
      · exact hw.2 x hx

theorem wf_del {s : Store} (hw : WF s) (n : Name) : WF (Store.del s n) :=
  ⟨List.Pairwise.sublist (List.Sublist.map _ List.filter_sublist) hw.1,
   fun e he => hw.2 e (List.mem_filter.mp he).1⟩

theorem wf_foldl_del : ∀ (items : List Name) {s : Store}, WF s →
    WF (items.foldl (fun st it => if st.has it then st.del it else st) s)
  | [], _, hw => hw
  | it :: items, s, hw => by
    simp only [List.foldl_cons]
    cases s.has it
    · simpa using wf_foldl_del items hw
    · simpa using wf_foldl_del items (wf_del hw it)

theorem wf_nil : WF [] := ⟨by simp, by simp⟩

theorem wf_apply {s : Store} (hw : WF s) (c : Call) (hc : TagsOK c) : WF (apply c s).1 := by
  cases c with
  | register n u safe tags =>
    rw [apply_register]
    split
    · exact hw
    · exact wf_set hw n (u, tags) hc
  | setMeta n tags =>
    rw [apply_setMeta]
    split
    · exact wf_set hw n (_, tags) hc
    · exact hw
  | remove n =>
    rw [apply_remove]
    split
    · exact wf_del hw n
    · exact hw
  | removePrefix p =>
    rw [apply_removePrefix]
    split
    · exact hw
    · exact wf_foldl_del _ hw
  | lookup n =>
    rw [apply_lookup]
    split <;> exact hw
  | count => exact hw
  | list p => exact hw

theorem specInv_emb {s : Store} (hw : WF s) : NS.SpecInv (embS s) := by
  refine ⟨?_, ?_⟩
  · have h1 : List.Pairwise (fun a b : Name × Nat × List Nat => a.1 ≠ b.1) s := List.pairwise_map.mp hw.1
    exact List.Pairwise.map embE (fun _ _ h => h) h1
  · intro e he
    obtain ⟨x, hx, rfl⟩ := List.mem_map.mp he
    exact nodup_map_single (hw.2 x hx)

/-! ### the transcription of the source -/

/-- **C15_ops_translated.**  For every call of the operation model (register safe / unsafe with tags, set_metadata, remove by
    name, remove by prefix, lookup, count, list by prefix), every map with distinct names and every environment in which the
    stored uris parse: the METHOD AS TRANSCRIBED FROM nameserver.py, run on the transcribed in-memory storage, returns exactly
    the result and leaves exactly the map that the hand-written `NsOps.apply` computes. -/
theorem C15_ops_translated (env : NS.Env) (henv : ∀ u, env.uriOk u = true) (c : Call) (s : Store)
    (hc : TagsOK c) (hw : WF s) :
    Pyro.Gen.C15Src.nsStepSrc NS.memStore env (embC c) (embS s) = (embR (apply c s).2, embS (apply c s).1) := by
  -- `trivial`: the back-end invariant of `NS.mem_storeOK` is `True`
  rw [Pyro.C15.Tr.C14_ns_translated NS.mem_storeOK env (embC c) (embS s) trivial (specInv_emb hw)]
  exact model_eq_nsStep env henv c s hc hw.1

/-- a transcribed method as an operation of the interleaving semantics: it runs while holding `NameServer.lock` (premise:
    `C15_source_every_access_locked`); `o` is ANY call the method accepts, `s` any dict -/
def srcOp (env : NS.Env) (o : NS.Op) : Lock.Op NS.MemDb NS.Res NS.Res :=
  { init := .none, steps := [fun _ s => Pyro.Gen.C15Src.nsStepSrc NS.memStore env o s], result := id }

theorem srcOp_run (env : NS.Env) (o : NS.Op) (s : NS.MemDb) :
    (srcOp env o).run s = ((Pyro.Gen.C15Src.nsStepSrc NS.memStore env o s).2, (Pyro.Gen.C15Src.nsStepSrc NS.memStore env o s).1) := rfl

/-- **C15_source_seq_translated.**  Whole sequential histories: running the transcribed methods one after the other from a
    well-formed map gives the embedded results and the embedded final map of the model's sequential run. -/
theorem C15_source_seq_translated (env : NS.Env) (henv : ∀ u, env.uriOk u = true) :
    ∀ (calls : List Call) (s : Store), (∀ c ∈ calls, TagsOK c) → WF s →
      seqRun (calls.map fun c => srcOp env (embC c)) (embS s)
        = (embS (seqRun (calls.map toOp) s).1, (seqRun (calls.map toOp) s).2.map embR)
  | [], _, _, _ => rfl
  | c :: cs, s, hc, hw => by
    have h1 := C15_ops_translated env henv c s (hc c List.mem_cons_self) hw
    have ih := C15_source_seq_translated env henv cs (apply c s).1
      (fun x hx => hc x (List.mem_cons_of_mem _ hx)) (wf_apply hw c (hc c List.mem_cons_self))
    simp only [List.map_cons, seqRun, srcOp_run, h1]
    simp only [apply] at ih ⊢
    rw [ih]

/-- **C15_source_linearizable.**  `C15_linearizable` about the source's own operations: for every initial dict, every list of
    concurrent calls of the transcribed methods (any arguments) and every schedule, the completed calls took effect one at a
    time in lock-release order, and every thread's bookkeeping is consistent. -/
theorem C15_source_linearizable (env : NS.Env) (s0 : NS.MemDb) (ops : List NS.Op) (schedule : List Nat) :
    let c := run (Config.init s0 (ops.map (srcOp env))) schedule
    Inv s0 c ∧ Book (ops.map (srcOp env)) c :=
  ⟨atomic s0 _ schedule, book s0 _ schedule⟩

/-- **C15_source_results_explained.**  Every completed call of a transcribed method returned what the sequential execution
    of the release-order log returns at its position. -/
theorem C15_source_results_explained (env : NS.Env) (s0 : NS.MemDb) (ops : List NS.Op) (schedule : List Nat) (t : Nat) (r : NS.Res)
    (hdone : (run (Config.init s0 (ops.map (srcOp env))) schedule).threads[t]? = some (TState.done r)) :
    let c := run (Config.init s0 (ops.map (srcOp env))) schedule
    ∃ (i : Nat) (op : Op NS.MemDb NS.Res NS.Res), c.log[i]? = some (t, op, r) ∧ (ops.map (srcOp env))[t]? = some op ∧
      (seqRun (c.log.map (·.2.1)) s0).2[i]? = some r :=
  results_explained s0 _ schedule t r hdone

/-- **C15_source_failed_no_effect.**  A transcribed method that answers with the naming error leaves the dict as it was. -/
theorem C15_source_failed_no_effect (env : NS.Env) (henv : ∀ u, env.uriOk u = true) (c : Call) (s : Store)
    (hc : TagsOK c) (hw : WF s)
    (h : (Pyro.Gen.C15Src.nsStepSrc NS.memStore env (embC c) (embS s)).1 = .err .naming) :
    (Pyro.Gen.C15Src.nsStepSrc NS.memStore env (embC c) (embS s)).2 = embS s := by
  rw [C15_ops_translated env henv c s hc hw] at h ⊢
  have hr : (apply c s).2 = .namingError := by
    generalize (apply c s).2 = r at h
    cases r with
    | namingError => rfl
    | _ => cases h
  simp only
  rw [C15_failed_no_effect c s hr]

/-- **C15_source_safe_register_once.**  Any number of clients concurrently calling the transcribed `register(name, …,
    safe=True)` for one name that is not registered, under any schedule: the results of the calls completed so far, in
    release order, are `None, NamingError, NamingError, …` — exactly one success as soon as one call has completed. -/
theorem C15_source_safe_register_once (env : NS.Env) (henv : ∀ u, env.uriOk u = true) (s0 : Store) (hw : WF s0)
    (n : Name) (calls : List Call) (schedule : List Nat)
    (hall : ∀ c ∈ calls, ∃ u t, c = .register n u true t ∧ t.Nodup) (hs : s0.has n = false) :
    let c := run (Config.init (embS s0) (calls.map fun c => srcOp env (embC c))) schedule
    c.log.map (·.2.2) = match c.log.length with
      | 0 => []
      | j + 1 => NS.Res.none :: List.replicate j (NS.Res.err .naming) := by
  intro c
  -- the logged operations are transcribed safe registrations of `n`: replay them in the model
  obtain ⟨lc, hlc1, hlen, hlc2⟩ := log_calls (fun c => srcOp env (embC c)) (embS s0) calls schedule
  have htags : ∀ x ∈ lc, TagsOK x := by
    intro x hx; obtain ⟨u, t, rfl, ht⟩ := hall x (hlc2 x hx); exact ht
  have hreg : ∀ x ∈ lc, ∃ u t, x = .register n u true t := by
    intro x hx; obtain ⟨u, t, h, _⟩ := hall x (hlc2 x hx); exact ⟨u, t, h⟩
  rw [(atomic (embS s0) _ schedule).results, hlc1, C15_source_seq_translated env henv lc s0 htags hw, ← hlen,
    seq_regsafe_absent n lc hreg s0 hs]
  cases lc.length with
  | zero => rfl
  | succ j =>
    rw [List.map_cons, List.map_replicate]
    rfl

/-- **C15_source_remove_once.**  Concurrent calls of the transcribed `remove(name)` for one registered name under any
    schedule: in release order the results are `1, 0, 0, …` — a total of exactly one removed entry, and no call fails. -/
theorem C15_source_remove_once (env : NS.Env) (henv : ∀ u, env.uriOk u = true) (s0 : Store) (hw : WF s0)
    (n : Name) (k : Nat) (schedule : List Nat)
    (hne : n.isEmpty = false) (hns : (n != nsName) = true) (hs : s0.has n = true) :
    let c := run (Config.init (embS s0) ((List.replicate k (Call.remove n)).map fun c => srcOp env (embC c))) schedule
    c.log.map (·.2.2) = match c.log.length with
      | 0 => []
      | j + 1 => NS.Res.num 1 :: List.replicate j (NS.Res.num 0) := by
  intro c
  have htags : ∀ x ∈ List.replicate c.log.length (Call.remove n), TagsOK x := by
    intro x hx
    rw [(List.mem_replicate.mp hx).2]
    trivial
  rw [(atomic (embS s0) _ schedule).results, log_replicate (fun c => srcOp env (embC c)) (embS s0) (Call.remove n) k schedule,
    C15_source_seq_translated env henv _ s0 htags hw]
  cases c.log.length with
  | zero => rfl
  | succ j =>
    rw [seq_remove_present n j s0 hne hns hs]
    exact congrArg (NS.Res.num 1 :: ·) List.map_replicate

/-! ### non-vacuity: the transcription evaluated -/

private def envT : NS.Env := ⟨fun _ => true, fun _ => true, fun _ _ => false⟩
private def sB : Store := [([97], 1, []), ([97, 98], 2, [7])]
example : WF sB := ⟨by decide +kernel, by decide +kernel⟩
example : Pyro.Gen.C15Src.nsStepSrc NS.memStore envT (embC (.removePrefix [97])) (embS sB) = (.num 2, []) := by decide +kernel
example : Pyro.Gen.C15Src.nsStepSrc NS.memStore envT (embC (.register [97] 5 true [3])) (embS sB) = (.err .naming, embS sB) := by decide +kernel
example : ((run (Config.init (embS sB) ([Call.remove [97], Call.remove [97]].map fun c => srcOp envT (embC c)))
    [1, 0, 1, 1, 0, 0, 0]).log.map (fun e => (e.1, e.2.2))) = [(1, NS.Res.num 1), (0, NS.Res.num 0)] := by decide +kernel

end Pyro.C15
