/-
  C14 — The name server is a faithful map, identical on both storage back-ends.

  Model: PyroModel/NameServer.lean (abstract map `specStep`, `NameServer` methods `nsStep` over the storage
  interface, `memStore`) and PyroModel/Sql.lean (`sqlStore`: two row tables, every method a program of SQL
  statements with their relational meaning, run in a transaction under a statement-failure counter).
  Helper lemmas: PyroProofs/NSLists, NSRefine (generic refinement), NSMem, NSSql.

  Quantifiers: every environment (`core.URI` validity, `re` compile/match as arbitrary functions), every
  history of operations of any length over arbitrary names / tags (lists of code points — no alphabet
  bound), reopen points anywhere, every failure counter (= every statement index as failure point).
  Results that come from a dict are compared up to order (`Res.Equiv`), maps up to permutation.

  The theorems are about the source WITH the two C14 fixes (literal prefix query, de-duplicated
  `metadata_all`); the obligation `C14_gen_sql` fails to build on a source that still has `LIKE` / the raw
  tag list.  The old statements are kept in the model (`sqlStoreOld`) for the two
  negative theorems, whose witnesses the harness replays on the real code.
-/
import PyroModel.NameServer
import PyroModel.Sql
import PyroModel.Gen.C14
import PyroProofs.NSRefine
import PyroProofs.NSMem
import PyroProofs.NSSql

namespace Pyro.C14

open Pyro.NS Pyro.NS.Sql

/-- result lists agree position by position (listings up to order) -/
def ResListEquiv : List Res → List Res → Prop
  | [], [] => True
  | a :: as, b :: bs => Res.Equiv a b ∧ ResListEquiv as bs
  | _, _ => False

theorem ResListEquiv.symm : ∀ {a b : List Res}, ResListEquiv a b → ResListEquiv b a
  | [], [], _ => trivial
  | _ :: _, _ :: _, h => ⟨h.1.symm, ResListEquiv.symm h.2⟩
  | [], _ :: _, h => h.elim
  | _ :: _, [], h => h.elim

theorem ResListEquiv.trans : ∀ {a b c : List Res}, ResListEquiv a b → ResListEquiv b c → ResListEquiv a c
  | [], [], [], _, _ => trivial
  | _ :: _, _ :: _, _ :: _, h1, h2 => ⟨h1.1.trans h2.1, ResListEquiv.trans h1.2 h2.2⟩
  | [], _ :: _, _, h, _ => h.elim
  | _ :: _, [], _, h, _ => h.elim
  | [], [], _ :: _, _, h => h.elim
  | _ :: _, _ :: _, [], _, h => h.elim

/-- One operation on a back-end that meets the storage contract and cannot fail (third argument of `StoreOK`: the
    proposition "storage statements may fail", here `False`), started in a state that represents the map `spec`: same answer as the map, and the new state represents the new map. -/
theorem step_refines {σ : Type} {abs : σ → List Entry} {inv : σ → Prop} {S : Store σ}
    (ok : StoreOK abs inv False S) (env : Env) (op : Op) (s : σ) (spec : Spec)
    (hi : inv s) (hs : SpecInv spec) (hp : (abs s).Perm spec) :
    inv (nsStep S env op s).2 ∧ Res.Equiv (nsStep S env op s).1 (specStep env op spec).1 ∧
      (abs (nsStep S env op s).2).Perm (specStep env op spec).2 ∧ SpecInv (specStep env op spec).2 := by
  have hs' : SpecInv (abs s) := hs.perm hp.symm
  obtain ⟨h1, h2⟩ := ns_step_refines ok env op s hi hs'
  obtain ⟨c1, c2, c3⟩ := specStep_sim env op hp hs'
  rcases h2 with ⟨hF, _⟩ | ⟨e, p⟩
  · exact hF.elim
  · exact ⟨h1, e.trans c1, p.trans c2, c3.perm c2⟩

theorem hist_refines {σ : Type} {abs : σ → List Entry} {inv : σ → Prop} {S : Store σ}
    (ok : StoreOK abs inv False S) (env : Env) :
    ∀ (ops : List Op) (s : σ) (spec : Spec), inv s → SpecInv spec → (abs s).Perm spec →
      ResListEquiv (runHist (nsStep S env) ops s).1 (runHist (specStep env) ops spec).1 ∧
      (abs (runHist (nsStep S env) ops s).2).Perm (runHist (specStep env) ops spec).2
  | [], s, spec, _, _, hp => ⟨trivial, hp⟩
  | op :: ops, s, spec, hi, hs, hp => by
    obtain ⟨h1, h2, h3, h4⟩ := step_refines ok env op s spec hi hs hp
    obtain ⟨r1, r2⟩ := hist_refines ok env ops _ _ h1 h4 h3
    exact ⟨⟨h2, r1⟩, r2⟩

theorem specInv_nil : SpecInv ([] : Spec) := ⟨List.Pairwise.nil, fun _ h => nomatch h⟩

/-- **C14_mem_refines.**  For every environment and every history, `NameServer(MemoryStorage())` started
    empty gives, operation by operation, the answers of the plain map (dict listings up to order), and
    ends holding exactly the map's entries. -/
theorem C14_mem_refines (env : Env) (ops : List Op) :
    ResListEquiv (runHist (nsStep memStore env) ops []).1 (runHist (specStep env) ops []).1 ∧
    (runHist (nsStep memStore env) ops []).2.Perm (runHist (specStep env) ops []).2 :=
  hist_refines mem_storeOK env ops [] [] trivial specInv_nil (.refl _)

/-! ### the sqlite back-end, with reopen points -/

inductive Cmd where
  | op (o : Op)
  | reopen          -- the process restarts: a new `SqlStorage(dbfile)` on the same file
  deriving Repr

/-- the operations of a command list (what the map, and the in-memory back-end, see) -/
def opsOf : List Cmd → List Op
  | [] => []
  | .op o :: cs => o :: opsOf cs
  | .reopen :: cs => opsOf cs

/-- run a command list on the sqlite back-end; a reopen produces no result -/
def sqlRun (env : Env) : List Cmd → SqlState → List Res × SqlState
  | [], s => ([], s)
  | .op o :: cs, s =>
    let (r, s1) := nsStep sqlStore env o s
    let (rs, s2) := sqlRun env cs s1
    (r :: rs, s2)
  | .reopen :: cs, s => sqlRun env cs (reopen s)

def sqlInit : SqlState := ⟨Db.empty, none⟩

theorem sqlInv_empty : SqlInv Db.empty := ⟨List.Pairwise.nil, fun _ h => nomatch h⟩

theorem sql_hist_refines (env : Env) :
    ∀ (cs : List Cmd) (s : SqlState) (spec : Spec), invS False s → SpecInv spec → s.db.abs.Perm spec →
      ResListEquiv (sqlRun env cs s).1 (runHist (specStep env) (opsOf cs) spec).1 ∧
      (sqlRun env cs s).2.db.abs.Perm (runHist (specStep env) (opsOf cs) spec).2
  | [], s, spec, _, _, hp => ⟨trivial, hp⟩
  | .op o :: cs, s, spec, hi, hs, hp => by
    obtain ⟨h1, h2, h3, h4⟩ := step_refines (sql_storeOK False) env o s spec hi hs hp
    obtain ⟨r1, r2⟩ := sql_hist_refines env cs _ _ h1 h4 h3
    exact ⟨⟨h2, r1⟩, r2⟩
  | .reopen :: cs, s, spec, hi, hs, hp =>
    sql_hist_refines env cs (reopen s) spec ⟨hi.1, fun _ => rfl⟩ hs hp

/-- **C14_sql_refines.**  For every environment and every history with reopen points anywhere,
    `NameServer(SqlStorage(file))` started on an empty database (no statement failing) gives, operation by
    operation, the answers of the plain map, and its tables end up standing for exactly the map's entries. -/
theorem C14_sql_refines (env : Env) (cs : List Cmd) :
    ResListEquiv (sqlRun env cs sqlInit).1 (runHist (specStep env) (opsOf cs) []).1 ∧
    (sqlRun env cs sqlInit).2.db.abs.Perm (runHist (specStep env) (opsOf cs) []).2 :=
  sql_hist_refines env cs sqlInit [] ⟨sqlInv_empty, fun _ => rfl⟩ specInv_nil (.refl _)

/-- **C14_backends_equal.**  The two back-ends are observationally indistinguishable: on every history
    (the sqlite one additionally reopened at arbitrary points) they return the same answers and hold the
    same map. -/
theorem C14_backends_equal (env : Env) (cs : List Cmd) :
    ResListEquiv (sqlRun env cs sqlInit).1 (runHist (nsStep memStore env) (opsOf cs) []).1 ∧
    (sqlRun env cs sqlInit).2.db.abs.Perm (runHist (nsStep memStore env) (opsOf cs) []).2 := by
  obtain ⟨a1, a2⟩ := C14_sql_refines env cs
  obtain ⟨b1, b2⟩ := C14_mem_refines env (opsOf cs)
  exact ⟨a1.trans b1.symm, a2.trans b2.symm⟩

/-- **C14_reopen.**  Reopening the database file changes neither the map the tables stand for nor the
    invariant, and schedules no failure: the state *is* the tables. -/
theorem C14_reopen (s : SqlState) (h : SqlInv s.db) :
    (reopen s).db.abs = s.db.abs ∧ invS False (reopen s) :=
  ⟨rfl, h, fun _ => rfl⟩

/-! ### statement failures -/

/-- **C14_atomic.**  Let any storage statement (or explicit commit) of an operation fail — `fuel` is an
    arbitrary failure counter, so this covers every statement index of every operation, mutating or
    not.  Then either the operation raises the storage error and the tables stand for exactly the map
    they stood for before (the operation had no effect), or no failure was hit and the operation answered
    and acted as the plain map does. -/
theorem C14_atomic (env : Env) (op : Op) (db : Db) (fuel : Fuel) (hi : SqlInv db) (hs : SpecInv db.abs) :
    ((nsStep sqlStore env op ⟨db, fuel⟩).1 = .err .storage ∧ (nsStep sqlStore env op ⟨db, fuel⟩).2.db.abs = db.abs) ∨
    (Res.Equiv (nsStep sqlStore env op ⟨db, fuel⟩).1 (specStep env op db.abs).1 ∧
      (nsStep sqlStore env op ⟨db, fuel⟩).2.db.abs.Perm (specStep env op db.abs).2) := by
  -- `sql_storeOK True`: statements may fail, so the invariant `invS True` asks nothing of the failure counter
  obtain ⟨_, h⟩ := ns_step_refines (sql_storeOK True) env op ⟨db, fuel⟩ ⟨hi, fun h => (h trivial).elim⟩ hs
  rcases h with ⟨_, h1, h2⟩ | h
  · exact .inl ⟨h1, h2⟩
  · exact .inr h

/-- …and the invariants survive either way, so the statement applies again to the next operation. -/
theorem C14_atomic_inv (env : Env) (op : Op) (db : Db) (fuel : Fuel) (hi : SqlInv db) (hs : SpecInv db.abs) :
    SqlInv (nsStep sqlStore env op ⟨db, fuel⟩).2.db ∧ SpecInv (nsStep sqlStore env op ⟨db, fuel⟩).2.db.abs := by
  obtain ⟨h0, h⟩ := ns_step_refines (sql_storeOK True) env op ⟨db, fuel⟩ ⟨hi, fun h => (h trivial).elim⟩ hs
  refine ⟨h0.1, ?_⟩
  rcases h with ⟨_, _, h2⟩ | ⟨_, h2⟩
  · have : (nsStep sqlStore env op ⟨db, fuel⟩).2.db.abs = db.abs := h2
    rw [this]; exact hs
  · exact (specStep_inv env op hs).perm h2.symm

/-! ### a new name server; two clients -/

/-- **C14_fresh_empty.**  Every name server starts as the empty map, on both back-ends (and nothing in the model
    is shared between two instances: each history is run from its own initial state).  The harness holds the
    real code to this with default-constructed `NameServer()` instances: a second instance created after a
    history is empty, and using it leaves the first untouched. -/
theorem C14_fresh_empty (env : Env) :
    (nsStep memStore env .count []).1 = .num 0 ∧
    (nsStep memStore env (.list none none true) []).1 = .listing [] ∧
    (nsStep sqlStore env .count sqlInit).1 = .num 0 ∧
    (nsStep sqlStore env (.list none none true) sqlInit).1 = .listing [] ∧
    sqlInit.db.abs = [] := by
  refine ⟨rfl, rfl, rfl, rfl, rfl⟩

/-- **C14_overlap_serial.**  Two calls `a`, `b` of two clients that overlap in time take effect in one of the
    two orders — that is C15's theorem (every storage access of an operation happens while holding the name
    server's lock).  What C14 adds: in *either* order, on any back-end meeting the storage contract, the two
    answers and the resulting map are the plain map's for that order.  The overlap suite of the harness
    therefore accepts exactly the two outcomes computed on the plain map. -/
theorem C14_overlap_serial {σ : Type} {abs : σ → List Entry} {inv : σ → Prop} {S : Store σ}
    (ok : StoreOK abs inv False S) (env : Env) (a b : Op) (s : σ) (hi : inv s) (hs : SpecInv (abs s)) :
    (ResListEquiv (runHist (nsStep S env) [a, b] s).1 (runHist (specStep env) [a, b] (abs s)).1 ∧
      (abs (runHist (nsStep S env) [a, b] s).2).Perm (runHist (specStep env) [a, b] (abs s)).2) ∧
    (ResListEquiv (runHist (nsStep S env) [b, a] s).1 (runHist (specStep env) [b, a] (abs s)).1 ∧
      (abs (runHist (nsStep S env) [b, a] s).2).Perm (runHist (specStep env) [b, a] (abs s)).2) :=
  ⟨hist_refines ok env [a, b] s (abs s) hi hs (.refl _), hist_refines ok env [b, a] s (abs s) hi hs (.refl _)⟩

/-! ### removal: counts and the name server's own entry -/

/-- what the `name=` branch of `remove` selects -/
theorem sel_name {s : Spec} {name : Option Str} {n : Str}
    (h : s.nameVictim name = some n) : s.has n = true ∧ (n != nsName) = true := by
  unfold Spec.nameVictim at h
  cases ht : truthy? name with
  | none => rw [ht] at h; cases h
  | some m =>
    rw [ht] at h
    simp only at h
    split at h
    · cases h; rename_i hc; exact (Bool.and_eq_true _ _).mp hc
    · cases h

theorem length_drop_add (s : Spec) (v : Str → Bool) :
    (s.drop v).length + (s.filter fun e => v e.name).length = s.length := by
  rw [List.length_eq_countP_add_countP (fun e => v e.name) (l := s), List.countP_eq_length_filter,
    List.countP_eq_length_filter, Nat.add_comm]
  simp [Spec.drop]

theorem length_named_one {s : Spec} (h : NodupKeys s) {n : Str} (hn : s.has n = true) :
    (s.filter fun e => e.name == n).length = 1 := by
  obtain ⟨e, he, hen⟩ := any_name_iff.mp hn
  rw [← List.countP_eq_length_filter, show (fun e : Entry => e.name == n) = (· == n) ∘ (·.name) from rfl,
    ← List.countP_map, ← List.count, List.Nodup.count (List.pairwise_map.mpr h), if_pos (List.mem_map.mpr ⟨e, he, hen⟩)]

/-- `t` is the outcome of removing from `s` the entries whose name satisfies some `v` that is never true of the name
    server's own name; when the answer is a number, that many entries went. -/
def Removal (s : Spec) (t : Res × Spec) : Prop :=
  ∃ v : Str → Bool, v nsName = false ∧ t.2 = s.drop v ∧ ∀ k, t.1 = .num k → (s.drop v).length + k = s.length

theorem spec_remove_drop (env : Env) (name pfx regex : Option Str) {s : Spec} (hs : NodupKeys s) :
    Removal s (specStep env (.remove name pfx regex) s) := by
  have hs0 : s.drop (fun _ => false) = s := List.filter_eq_self.mpr fun _ _ => rfl
  have keep : ∀ r : Res, (∀ k, r = .num k → k = 0) → Removal s (r, s) :=
    fun r hr => ⟨fun _ => false, rfl, hs0.symm, fun k hk => by rw [hs0, hr k hk]; rfl⟩
  have byPred : ∀ m : Str → Bool, Removal s (specRemoveWhere m s) :=
    fun m => ⟨fun n => m n && n != nsName, by simp, rfl, fun k hk => by cases hk; exact length_drop_add s _⟩
  simp only [specStep]
  cases hsel : s.nameVictim name with
  | some n =>
    obtain ⟨h1, h2⟩ := sel_name hsel
    refine ⟨(· == n), beq_eq_false_iff_ne.mpr (Ne.symm (bne_iff_ne.mp h2)), rfl, fun k hk => ?_⟩
    cases hk
    rw [← length_named_one hs h1]
    exact length_drop_add s _
  | none =>
    cases truthy? pfx with
    | some p => exact byPred _
    | none =>
      cases truthy? regex with
      | some r =>
        simp only []
        split
        · exact byPred _
        · exact keep _ fun k hk => nomatch hk
      | none => exact keep _ fun k hk => by cases hk; rfl

theorem Res.Equiv.num_left {r : Res} {k : Nat} (h : Res.Equiv (.num k) r) : r = .num k := by
  rcases h with rfl | ⟨a, b, ha, _, _⟩
  · rfl
  · cases ha

/-- **C14_counts.**  On either back-end (any back-end meeting the storage contract, no statement failing):
    when `remove(name, prefix, regex)` returns `k`, the represented map lost exactly `k` entries. -/
theorem C14_counts {σ : Type} {abs : σ → List Entry} {inv : σ → Prop} {S : Store σ}
    (ok : StoreOK abs inv False S) (env : Env) (name pfx regex : Option Str) (s : σ)
    (hi : inv s) (hs : SpecInv (abs s)) {k : Nat}
    (h : (nsStep S env (.remove name pfx regex) s).1 = .num k) :
    (abs (nsStep S env (.remove name pfx regex) s).2).length + k = (abs s).length := by
  obtain ⟨_, h2, h3, _⟩ := step_refines ok env (.remove name pfx regex) s (abs s) hi hs (.refl _)
  obtain ⟨v, _, hv, hk⟩ := spec_remove_drop env name pfx regex hs.1
  rw [h] at h2
  rw [h3.length_eq, hv]
  exact hk k (Res.Equiv.num_left h2)

/-- the two back-ends meet the hypotheses of `C14_counts` -/
theorem C14_counts_mem (env : Env) (name pfx regex : Option Str) (s : MemDb) (hs : SpecInv s) {k : Nat}
    (h : (nsStep memStore env (.remove name pfx regex) s).1 = .num k) :
    (nsStep memStore env (.remove name pfx regex) s).2.length + k = s.length :=
  C14_counts mem_storeOK env name pfx regex s trivial hs h

theorem C14_counts_sql (env : Env) (name pfx regex : Option Str) (db : Db) (hi : SqlInv db) (hs : SpecInv db.abs)
    {k : Nat} (h : (nsStep sqlStore env (.remove name pfx regex) ⟨db, none⟩).1 = .num k) :
    (nsStep sqlStore env (.remove name pfx regex) ⟨db, none⟩).2.db.abs.length + k = db.abs.length :=
  C14_counts (sql_storeOK False) env name pfx regex ⟨db, none⟩ ⟨hi, fun _ => rfl⟩ hs h

/-- **C14_ns_protected.**  On any back-end meeting the storage contract — statements failing or not —
    no `remove`, whatever its arguments, removes or alters an entry named `Pyro.NameServer`. -/
theorem C14_ns_protected {σ : Type} {abs : σ → List Entry} {inv : σ → Prop} {F : Prop} {S : Store σ}
    (ok : StoreOK abs inv F S) (env : Env) (name pfx regex : Option Str) (s : σ)
    (hi : inv s) (hs : SpecInv (abs s)) {e : Entry} (he : e ∈ abs s) (hn : e.name = nsName) :
    e ∈ abs (nsStep S env (.remove name pfx regex) s).2 := by
  obtain ⟨_, h⟩ := ns_step_refines ok env (.remove name pfx regex) s hi hs
  rcases h with ⟨_, _, h2⟩ | ⟨_, h2⟩
  · rw [h2]; exact he
  · obtain ⟨v, hv, hd, _⟩ := spec_remove_drop env name pfx regex hs.1
    rw [h2.mem_iff, hd]
    exact List.mem_filter.mpr ⟨he, by rw [hn, hv]; rfl⟩

/-! ### names and prefixes are literal -/

/-- **C14_literal_names.**  What "faithful" means for matching, spelled out on the map that both back-ends
    refine: `lookup(n)` answers from the entry whose name is exactly `n` (code point by code point);
    `list(prefix=p)` returns exactly the entries whose name has `p` as a literal prefix. -/
theorem C14_literal_names (env : Env) {s : Spec} (hs : SpecInv s) :
    (∀ e ∈ s, env.uriOk e.uri = true → (specStep env (.lookup e.name true) s).1 = .uriMeta e.uri e.tags) ∧
    (∀ n, (∀ e ∈ s, e.name ≠ n) → (specStep env (.lookup n true) s).1 = .err .naming) ∧
    (∀ (a : Nat) (p : Str) (wm : Bool), ∃ l, (specStep env (.list (some (a :: p)) none wm) s).1 = .listing l ∧
        ∀ e', e' ∈ l ↔ ∃ e ∈ s, (a :: p) <+: e.name ∧ e' = e.strip wm) := by
  refine ⟨?_, ?_, ?_⟩
  · intro e he hu
    simp only [specStep, Spec.get, find?_of_mem hs.1 he, hu, if_true]
  · intro n hn
    have : s.find? (·.name == n) = none := by
      rw [List.find?_eq_none]
      intro x hx hc
      exact hn x hx (by simpa using hc)
    simp only [specStep, Spec.get, this]
  · intro a p wm
    refine ⟨_, rfl, ?_⟩
    intro e'
    simp only [Spec.select, List.mem_map, List.mem_filter, List.isPrefixOf_iff_prefix, and_assoc, eq_comm (a := e')]

/-! ### the statements before the fixes do NOT refine the map (findings F14a, F14b) -/

/-- the environment of the witnesses: every URI text valid, no regex used -/
def env0 : Env := ⟨fun _ => true, fun _ => false, fun _ _ => false⟩

def uri0 : Str := [80, 89, 82, 79, 58, 111, 64, 104, 58, 49]   -- "PYRO:o@h:1"

/-- register "a_", "ab", "AB"; list(prefix="a_") -/
def witnessLike : List Op :=
  [.register [97, 95] uri0 false .none, .register [97, 98] uri0 false .none, .register [65, 66] uri0 false .none,
   .list (some [97, 95]) none false]

/-- register "x" with tags {"t"}; yplookup(meta_all=["t","t"]) -/
def witnessMetaAll : List Op :=
  [.register [120] uri0 false (.list [[116]]), .yplookup (.list [[116], [116]]) .none false]

theorem equiv_listing_length {a b : List Entry} (h : Res.Equiv (.listing a) (.listing b)) : a.length = b.length := by
  rcases h with h | ⟨x, y, hx, hy, p⟩
  · cases h; rfl
  · cases hx; cases hy; exact p.length_eq

/-- Refinement of the plain map by the sqlite back-end as the source was before the fixes (answers only, no reopen
    points). -/
def C14_sql_refines_old_Statement : Prop :=
  ∀ (env : Env) (ops : List Op),
    ResListEquiv (runHist (nsStep sqlStoreOld env) ops sqlInit).1 (runHist (specStep env) ops []).1

/-- **C14_like_not_literal** (finding F14a).  With the prefix query written as `name LIKE prefix||'%'`
    (sqlite: `_` and `%` are wildcards, ASCII letters compare case-insensitively) the sqlite back-end does
    not refine the map: after registering "a_", "ab", "AB", `list(prefix="a_")` returns three names, the
    map (and the in-memory back-end) one. -/
theorem C14_like_not_literal : ¬ C14_sql_refines_old_Statement := by
  intro h
  have := h env0 witnessLike
  have e1 : (runHist (nsStep sqlStoreOld env0) witnessLike sqlInit).1 =
      [.none, .none, .none, .listing [⟨[97, 95], uri0, []⟩, ⟨[97, 98], uri0, []⟩, ⟨[65, 66], uri0, []⟩]] := by decide +kernel
  have e2 : (runHist (specStep env0) witnessLike []).1 =
      [.none, .none, .none, .listing [⟨[97, 95], uri0, []⟩]] := by decide +kernel
  rw [e1, e2] at this
  have := equiv_listing_length this.2.2.2.1
  simp at this

/-- **C14_meta_all_raw_differs** (finding F14b).  With `metadata_all` passed to the query as given
    (`HAVING COUNT(metadata) = len(metadata_all)`), a tag listed twice makes the sqlite back-end miss an
    entry the map (and the in-memory back-end) returns. -/
theorem C14_meta_all_raw_differs : ¬ C14_sql_refines_old_Statement := by
  intro h
  have := h env0 witnessMetaAll
  have e1 : (runHist (nsStep sqlStoreOld env0) witnessMetaAll sqlInit).1 = [.none, .listing []] := by decide +kernel
  have e2 : (runHist (specStep env0) witnessMetaAll []).1 = [.none, .listing [⟨[120], uri0, []⟩]] := by decide +kernel
  rw [e1, e2] at this
  have := equiv_listing_length this.2.1
  simp at this

/-! ### obligations about facts obtained from the current source (PyroModel/Gen/C14.lean)

  The facts are *probed*, not read off the syntax: the extractor calls the real `SqlStorage` methods on a fixed
  table of inputs against a tracing sqlite3 connection and records what was executed.  Here the same calls are
  made on the model and the statement traces are compared.  How the source spells the calls (helpers, local
  names, where a text constant lives) does not matter; what is executed does. -/

def removeBy {α : Type} (eq : α → α → Bool) (a : α) : List α → Option (List α)
  | [] => none
  | b :: l => if eq a b then some l else (removeBy eq a l).map (b :: ·)

/-- same members with the same multiplicities, members compared by `eq` -/
def permBy {α : Type} (eq : α → α → Bool) : List α → List α → Bool
  | [], l => l.isEmpty
  | a :: as, l =>
    match removeBy eq a l with
    | some l' => permBy eq as l'
    | none => false

def argOf : Nat ⊕ List Nat → Arg
  | .inl n => .int n
  | .inr s => .str s

def decodeCall : String → List Str → Bool → Bool → Option Call
  | "getItem", [n], _, _ => some (.getItem n)
  | "setItem", n :: u :: t, _, _ => some (.setItem n u t)
  | "len", [], _, _ => some .len
  | "contains", [n], _, _ => some (.contains n)
  | "delItem", [n], _, _ => some (.delItem n)
  | "iter", [], _, _ => some .iter
  | "optPrefix", [p], wm, _ => some (.optPrefix p wm)
  | "optRegex", [r], wm, _ => some (.optRegex r wm)
  | "optMeta", ts, wm, all => some (.optMeta all ts wm)
  | "removeItems", l, _, _ => some (.removeItems l)
  | "everything", [], wm, _ => some (.everything wm)
  | _, _, _, _ => none

/-- one connection per call, used as a context manager; the statements in between -/
def expectedEvents (t : List (Stmt × List Arg)) : List (String × List Arg) :=
  ("CONNECT", []) :: t.map (fun x => (x.1.text, x.2)) ++ [("EXIT", [])]

/-- Texts agree in order; (text, parameters) agree as multisets with each parameter tuple compared as a
    multiset — the order in which Python iterates a `set` of tags is not fixed. -/
def eventsAgree (model : List (String × List Arg)) (real : List (String × List Arg)) : Bool :=
  model.map (·.1) == real.map (·.1) &&
  permBy (fun a b => a.1 == b.1 && permBy (· == ·) a.2 b.2) model real

/-- replay the recorded calls on the model, threading the tables -/
def probesOK : List (String × List (List Nat) × Bool × Bool × Option (List (String × List (Nat ⊕ List Nat)))) → Db → Bool
  | [], _ => true
  | (kind, strs, wm, all, real) :: rest, db =>
    match decodeCall kind strs wm all with
    | none => false
    | some c =>
      (match (c.probe db).1, real with
       | none, none => true
       | some t, some r => eventsAgree (expectedEvents t) (r.map fun e => (e.1, e.2.map argOf))
       | _, _ => false) && probesOK rest (c.probe db).2

/-- **Statements really executed = statements of the model.**  For every probed call of every `SqlStorage`
    method `NameServer` uses (each branch of each method taken), the real code opened exactly one connection,
    used it as a context manager, and executed exactly the model's statements for that call on the model's
    tables: same SQL text in the same order, same parameter values (in particular `(len(prefix), prefix)` for
    the literal prefix query, the *distinct* tags followed by their number for `metadata_all`, row ids
    allocated as largest+1), explicit commits in the same places; `optimized_regex_list` touches no connection. -/
theorem C14_gen_sql : probesOK Pyro.Gen.C14.probes Db.empty = true := by decide +kernel

/-- the statements the model executes for the recorded calls, threading the tables as `probesOK` does -/
def probeStmts : List (String × List (List Nat) × Bool × Bool × Option (List (String × List (Nat ⊕ List Nat)))) → Db → List Stmt
  | [], _ => []
  | (kind, strs, wm, all, _) :: rest, db =>
    match decodeCall kind strs wm all with
    | none => []
    | some c => ((c.probe db).1.getD []).map (·.1) ++ probeStmts rest (c.probe db).2

/-- a successful replay gives the record the texts of the model's traces -/
theorem cover_of_probesOK : ∀ ps db, probesOK ps db = true → ∀ st ∈ probeStmts ps db,
    ps.any (fun p => match p.2.2.2.2 with
      | some ev => ev.any (fun e => e.1 == st.text)
      | none => false) = true
  | [], _, _, _, h => nomatch h
  | (kind, strs, wm, all, real) :: rest, db, h, st, hst => by
    unfold probesOK at h
    unfold probeStmts at hst
    cases hd : decodeCall kind strs wm all with
    | none => rw [hd] at h; cases h
    | some c =>
      rw [hd] at h hst
      obtain ⟨h1, h2⟩ := (Bool.and_eq_true _ _).mp h
      rw [List.any_cons, Bool.or_eq_true]
      rcases List.mem_append.mp hst with hs | hs
      · left
        cases ht : (c.probe db).1 with
        | none => rw [ht] at hs; cases hs
        | some t =>
          rw [ht] at hs h1
          cases real with
          | none => cases h1
          | some r =>
            obtain ⟨x, hx, rfl⟩ := List.mem_map.mp hs
            have hm : x.1.text ∈ (expectedEvents t).map (·.1) :=
              List.mem_map.mpr ⟨(x.1.text, x.2), List.mem_cons_of_mem _ (List.mem_append_left _ (List.mem_map.mpr ⟨x, hx, rfl⟩)), rfl⟩
            rw [eq_of_beq ((Bool.and_eq_true _ _).mp h1).1, List.map_map] at hm
            obtain ⟨e, he, hx⟩ := List.mem_map.mp hm
            exact List.any_eq_true.mpr ⟨e, he, beq_iff_eq.mpr hx⟩
      · exact .inr (cover_of_probesOK rest _ h2 st hs)

/-- the probe table exercises every statement of the model at least once -/
theorem C14_gen_cover :
    allStmts.all (fun st => Pyro.Gen.C14.probes.any fun p =>
      match p.2.2.2.2 with
      | some ev => ev.any (fun e => e.1 == st.text)
      | none => false) = true :=
  -- the model's own runs of the recorded calls use every statement (no text is compared here), and the record
  -- has the model's texts by `C14_gen_sql`
  List.all_eq_true.mpr fun st h => cover_of_probesOK _ _ C14_gen_sql st
    ((by decide +kernel : ∀ st ∈ allStmts, st ∈ probeStmts Pyro.Gen.C14.probes Db.empty) st h)

/-- SQL texts that occur in nameserver.py outside the modelled methods (`__init__`, `_create_schema`, `clear`) -/
def otherTexts : List String :=
  ["ALTER TABLE pyro_names RENAME TO pyro_names_old",
   "CREATE TABLE pyro_metadata ( object integer NOT NULL, metadata nvarchar NOT NULL, FOREIGN KEY(object) REFERENCES pyro_names(id) );",
   "CREATE TABLE pyro_names ( id integer PRIMARY KEY, name nvarchar NOT NULL UNIQUE, uri nvarchar NOT NULL );",
   "DELETE FROM pyro_metadata", "DELETE FROM pyro_names", "DROP TABLE pyro_names_old",
   "INSERT INTO pyro_names(name, uri) SELECT name, uri FROM pyro_names_old",
   "SELECT COUNT(*) FROM pyro_metadata", "SELECT COUNT(*) FROM pyro_names", "VACUUM"]

/-- `idx` says where in `m` the members of `l` are: with `rfl` for `h` only identical string literals ever meet,
    whereas evaluating `contains` on strings is slow to check. -/
theorem all_contains_of_picks {α : Type} [BEq α] [LawfulBEq α] {m l : List α} (idx : List Nat)
    (h : idx.map (m[·]?) = l.map some) : l.all (fun t => m.contains t) = true := by
  simp only [List.all_eq_true, List.contains_iff_mem]
  intro t ht
  have : some t ∈ idx.map (m[·]?) := h ▸ List.mem_map_of_mem ht
  obtain ⟨i, _, hi⟩ := List.mem_map.mp this
  exact List.mem_of_getElem? hi

/-- (lexical) The SQL texts occurring as string constants anywhere in the module are, as a set, the model's
    statement texts plus the ten of schema creation / migration / `clear`: no other SQL exists that a path
    not taken by the probes could execute. -/
theorem C14_gen_texts :
    Pyro.Gen.C14.sqlTexts.all (fun t => (allStmts.map Stmt.text ++ otherTexts).contains t) = true ∧
    ((allStmts.filter (· != .commit)).map Stmt.text ++ otherTexts).all (fun t => Pyro.Gen.C14.sqlTexts.contains t) = true :=
  -- for each text on the left of `contains`, its position in the table on the right (`List.idxOf`)
  ⟨all_contains_of_picks [18, 19, 20, 21, 4, 22, 5, 23, 7, 24, 6, 0, 25, 26, 9, 8, 3, 15, 14, 13, 11, 1, 2, 10, 16, 12, 27] rfl,
   all_contains_of_picks [11, 21, 22, 16, 4, 6, 10, 8, 15, 14, 23, 20, 25, 19, 18, 17, 24, 0, 1, 2, 3, 5, 7, 9, 12, 13, 26] rfl⟩

/-- The schema sqlite reports for a database created by `SqlStorage` is the one the model's constraints stand
    for (integer primary key, UNIQUE name, FOREIGN KEY object → id); reopening an existing database executes
    only the pragma, the two existence probes and a commit, and leaves the rows as they were. -/
theorem C14_gen_schema :
    Pyro.Gen.C14.schema =
      ["CREATE TABLE pyro_metadata ( object integer NOT NULL, metadata nvarchar NOT NULL, FOREIGN KEY(object) REFERENCES pyro_names(id) )",
       "CREATE TABLE pyro_names ( id integer PRIMARY KEY, name nvarchar NOT NULL UNIQUE, uri nvarchar NOT NULL )"] ∧
    Pyro.Gen.C14.reopenTrace = ["CONNECT", "PRAGMA foreign_keys=ON", "SELECT COUNT(*) FROM pyro_names",
      "SELECT COUNT(*) FROM pyro_metadata", "COMMIT", "EXIT"] ∧
    Pyro.Gen.C14.reopenKeepsRows = true :=
  ⟨rfl, rfl, rfl⟩

/-- `core.NAMESERVER_NAME` is the name the model protects. -/
theorem C14_gen_nsname : Pyro.Gen.C14.nsName = nsName := rfl

/-! ### non-vacuity -/

def uriNS : Str := [80, 89, 82, 79, 58, 110, 115, 64, 104, 58, 57]

/-- a history with a protected entry, confusable names, duplicate tags, a prefix removal and a reopen -/
def demo : List Cmd :=
  [.op (.register nsName uriNS false (.list [[99]])), .op (.register [97, 95] uri0 true (.list [[116], [116], [117]])),
   .op (.register [97, 98] uri0 false .none), .op (.register [65, 66] uri0 false (.list [[116]])), .reopen,
   .op (.yplookup (.list [[116], [116]]) .none false), .op (.list (some [97, 95]) none true),
   .op (.remove none (some [97]) none), .op .count, .reopen, .op (.remove (some nsName) (some [80]) none), .op .count]

example : (sqlRun env0 demo sqlInit).1 =
    [.none, .none, .none, .none,
     .listing [⟨[97, 95], uri0, []⟩, ⟨[65, 66], uri0, []⟩],
     .listing [⟨[97, 95], uri0, [[116], [117]]⟩],
     .num 2, .num 2, .num 0, .num 2] := by decide +kernel

example : (runHist (nsStep memStore env0) (opsOf demo) []).1 = (sqlRun env0 demo sqlInit).1 := by decide +kernel

-- a failure at the 5th statement (index 4: the INSERT into pyro_names) of a re-registration: storage error, tables unchanged
example :
    let s := (sqlRun env0 [.op (.register [97] uri0 false (.list [[116]]))] sqlInit).2
    let out := nsStep sqlStore env0 (.register [97] uriNS false (.list [[117], [118]])) ⟨s.db, some 4⟩
    out.1 = .err .storage ∧ out.2.db = s.db := by decide +kernel

-- the same operation with the failure scheduled beyond its last statement runs through
example :
    let s := (sqlRun env0 [.op (.register [97] uri0 false (.list [[116]]))] sqlInit).2
    let out := nsStep sqlStore env0 (.register [97] uriNS false (.list [[117], [118]])) ⟨s.db, some 8⟩
    out.1 = .none ∧ out.2.db.abs = [⟨[97], uriNS, [[117], [118]]⟩] ∧ out.2.fuel = some 0 := by decide +kernel

example : SqlInv (sqlRun env0 demo sqlInit).2.db ∧ (sqlRun env0 demo sqlInit).2.db.abs.length = 2 := by
  refine ⟨⟨by decide +kernel, by decide +kernel⟩, by decide +kernel⟩

end Pyro.C14
