/-
  C02 — the three server-side gates TRANSCRIBED from the source, and the member-list cache with
  computations that do not complete.

  `lean/PyroModel/Gen/C02Src.lean` is regenerated on every run by `harness/props/c02_tr.py` from the bodies of
  `server._get_attribute`, `server._get_exposed_property_value`, `server._set_exposed_property_value` (decision tree in
  evaluation order over the model's abstract operations: `isPrivate`, `lookupType`, `isDataDesc`, `getattrInst`,
  `objMarked`, `exposedOpt`, property accessors).  The `_translated` theorems prove, for all shapes and all string
  names, that the transcriptions compute outcome and effect log of the hand-written model gates; the `C02_source_…`
  theorems restate the gate-level properties about the transcriptions.  Non-string names are covered by the probed
  fact `privateGateNonStrTypeError` and `C02_nonstring_refused` (the gates' first action on them is
  `is_private_attribute`, which `C02_translated_private` / the probe table tie to the source).
-/
import PyroModel.Gen.C02Src
import PyroModel.ExposeCache
import PyroProofs.Expose

namespace Pyro.C02
open Pyro.Expose Pyro.Gen.C02Src

/-- `a or b or c` of the transcription is the model's `primary` -/
theorem firstOf_primary (g s d : Option Fn) : firstOf g (firstOf s d) = primary g s d := by
  cases g <;> cases s <;> rfl

/-- **C02_getAttribute_translated.**  The transcription of `server._get_attribute` (regenerated from the source on
    every run) computes, for every shape and every string name, outcome and effect log of the model gate
    `getAttribute` (with the type-first refusal of data descriptors). -/
theorem C02_getAttribute_translated (cfg : Cfg) (hc : cfg.callTypeFirst = true) (sh : Shape) (n : Name) :
    getAttributeSrc sh n = getAttribute cfg sh (.str n) := by
  simp only [getAttributeSrc, getAttribute, bindM, hc, Bool.true_and]
  -- both sides branch on the same facts; with these decided each side computes (up to `eff ++ []`)
  rcases getattrInst sh n with ⟨_ | o, eff⟩ <;> cases isPrivate n <;> cases isDataDesc (lookupType n sh.mro) <;>
    try rfl
  cases hm : objMarked o <;> simp [hm]

/-- **C02_getProp_translated.**  Transcription of `server._get_exposed_property_value` = model gate `getProp`. -/
theorem C02_getProp_translated (cfg : Cfg) (hc : cfg.getPriv = true) (sh : Shape) (n : Name) :
    getPropSrc sh n = getProp cfg sh (.str n) := by
  simp only [getPropSrc, getProp, clsGetattr, hc, Bool.true_and]
  cases isPrivate n
  · cases lookupType n sh.mro with
    | none => rfl
    | some m =>
      cases m with
      | prop g s d =>
        cases g with
        | none => rfl
        | some f => obtain ⟨_, _, e, _⟩ := f; cases e <;> rfl
      | _ => rfl
  · rfl

/-- **C02_setProp_translated.**  Transcription of `server._set_exposed_property_value` = model gate `setProp`. -/
theorem C02_setProp_translated (cfg : Cfg) (hc : cfg.setPriv = true) (sh : Shape) (n : Name) :
    setPropSrc sh n = setProp cfg sh (.str n) := by
  simp only [setPropSrc, setProp, clsGetattr, hc, Bool.true_and]
  cases isPrivate n
  · cases lookupType n sh.mro with
    | none => rfl
    | some m =>
      cases m with
      | prop g s d =>
        cases s with
        | none => rfl
        | some f =>
          -- `fget or fset or fdel` is the getter if there is one, else this setter
          cases g with
          | none => obtain ⟨_, _, e, _⟩ := f; cases e <;> rfl
          | some f' => obtain ⟨_, _, e, _⟩ := f'; cases e <;> rfl
      | _ => rfl
  · rfl

/-- the fixed gate configuration (what `C02_gen_gates` proves of the probed one) -/
def fixedCfg : Cfg := ⟨true, true, true, true⟩

theorem fixedCfg_fixed : Fixed fixedCfg := ⟨rfl, rfl, rfl⟩

/-- **C02_source_gates_are_model.**  For every fixed configuration the three gates that `dispatch` consults are,
    on string names, the transcriptions of the source: every theorem of `PyroProps/C02.lean` with hypothesis
    `Fixed cfg` is a theorem about a dispatch whose gates are the transcribed functions. -/
theorem C02_source_gates_are_model (cfg : Cfg) (hf : Fixed cfg) (sh : Shape) (n : Name) :
    getAttribute cfg sh (.str n) = getAttributeSrc sh n ∧ getProp cfg sh (.str n) = getPropSrc sh n ∧
    setProp cfg sh (.str n) = setPropSrc sh n :=
  ⟨(C02_getAttribute_translated cfg hf.1 sh n).symm, (C02_getProp_translated cfg hf.2.1 sh n).symm,
   (C02_setProp_translated cfg hf.2.2 sh n).symm⟩

/-- **C02_source_private_refused.**  The transcribed gates refuse every private name with the private-name error and
    without any effect, on every shape. -/
theorem C02_source_private_refused (sh : Shape) (n : Name) (hp : isPrivate n = true) :
    getAttributeSrc sh n = (.error .priv, []) ∧ getPropSrc sh n = (.error .priv, []) ∧
    setPropSrc sh n = (.error .priv, []) := by
  rw [C02_getAttribute_translated fixedCfg rfl, C02_getProp_translated fixedCfg rfl, C02_setProp_translated fixedCfg rfl]
  exact ⟨by simp [getAttribute, hp], by simp [getProp, fixedCfg, hp], by simp [setProp, fixedCfg, hp]⟩

/-- **C02_source_call_gate_sound.**  Whatever the transcribed `_get_attribute` lets through is the function of an
    exposed method that the (non-private) name denotes on the type, not shadowed by an instance attribute; and the gate
    itself runs no code of the target (no property getter in particular). -/
theorem C02_source_call_gate_sound {sh : Shape} {n : Name} {o : Obj} {eff : List Nat}
    (hh : NoExposedHelperAttr sh) (h : getAttributeSrc sh n = (.ok o, eff)) :
    eff = [] ∧ ∃ f m, o = .fn f ∧ isPrivate n = false ∧ lookupType n sh.mro = some m ∧
      isMethodMember (some m) = true ∧ memberExposed m = true ∧ memberFids m = [f.fid] ∧ find? n sh.inst = none := by
  rw [C02_getAttribute_translated fixedCfg rfl] at h
  obtain ⟨he, n', f, m, hn, ho, hit⟩ := getAttribute_ok (cfg := fixedCfg) rfl hh h
  cases hn
  exact ⟨he, f, m, ho, hit.pub, hit.lookup, hit.method, hit.exposed, hit.fids, hit.noInst⟩

/-- **C02_source_call_gate_no_effect.**  The transcribed `_get_attribute` never runs code of the target, whatever it answers. -/
theorem C02_source_call_gate_no_effect (sh : Shape) (n : Name) : (getAttributeSrc sh n).2 = [] := by
  rw [C02_getAttribute_translated fixedCfg rfl]
  exact getAttribute_eff (cfg := fixedCfg) _ rfl

/-- **C02_source_prop_gates_sound.**  The transcribed property gates either refuse without effect, or run exactly the
    getter (resp. setter) of a property that the non-private name denotes on the type and whose marked function is exposed. -/
theorem C02_source_prop_gates_sound (sh : Shape) (n : Name) :
    (((getPropSrc sh n).2 = [] ∧ ∃ e, (getPropSrc sh n).1 = .error e) ∨
      ∃ f s d, isPrivate n = false ∧ lookupType n sh.mro = some (.prop (some f) s d) ∧ f.exposed = true ∧
        getPropSrc sh n = (.ok (), [f.fid])) ∧
    (((setPropSrc sh n).2 = [] ∧ ∃ e, (setPropSrc sh n).1 = .error e) ∨
      ∃ g f d, isPrivate n = false ∧ lookupType n sh.mro = some (.prop g (some f) d) ∧
        exposedOpt (primary g (some f) d) = true ∧ setPropSrc sh n = (.ok (), [f.fid])) := by
  rw [C02_getProp_translated fixedCfg rfl, C02_setProp_translated fixedCfg rfl]
  constructor
  · rcases getProp_spec (cfg := fixedCfg) (sh := sh) (.str n) rfl with h | ⟨n', f, s, d, hn, rest⟩
    · exact .inl h
    · cases hn; exact .inr ⟨f, s, d, rest⟩
  · rcases setProp_spec (cfg := fixedCfg) (sh := sh) (.str n) rfl with h | ⟨n', g, f, d, hn, rest⟩
    · exact .inl h
    · cases hn; exact .inr ⟨g, f, d, rest⟩

/-! ### the member-list cache with computations that do not complete (`PyroModel/ExposeCache.lean`) -/

/-- **C02_cache_failed_first.**  After any number of first computations that raised part-way (nothing is told, nothing
    is cached), the first list that is told is the complete `metadata` of the object's state — hence exact by
    `C02_metadata_exact` — and that list is what gets cached. -/
theorem C02_cache_failed_first (sh : Shape) (k : Nat) (rest : List CacheEv) :
    advertisedF none sh (List.replicate k .getFails ++ .get :: rest) =
      List.replicate k none ++ some (metadata sh) :: advertisedF (some (metadata sh)) sh rest := by
  induction k with
  | zero => simp [advertisedF]
  | succ k ih => simp [List.replicate_succ, advertisedF, ih]

theorem statesF_head_mem (sh : Shape) (evs : List CacheEv) : sh ∈ statesF sh evs := by
  induction evs generalizing sh with
  | nil => simp [statesF]
  | cons e rest ih => cases e <;> simp [statesF, ih]

theorem cache_never_partial_aux (P : Meta → Prop) :
    ∀ (evs : List CacheEv) (c : Option Meta) (sh : Shape),
      (∀ m, c = some m → P m) → (∀ sh' ∈ statesF sh evs, P (metadata sh')) →
      ∀ m, some m ∈ advertisedF c sh evs → P m := by
  intro evs
  induction evs with
  | nil => intro c sh _ _ m hm; cases hm
  | cons e rest ih =>
    intro c sh hc hs m hm
    have hsh : P (metadata sh) := hs sh (statesF_head_mem sh _)
    -- what is told is the cache entry or the list of the present state; either is what the cache holds afterwards
    have told : ∀ c', (∀ m', c' = some m' → P m') → ∀ l, (∀ x ∈ l, x = c') →
        some m ∈ l ++ advertisedF c' sh rest → (∀ sh' ∈ statesF sh rest, P (metadata sh')) → P m := by
      intro c' hc' l hl h hs'
      rcases List.mem_append.mp h with h | h
      · exact hc' m (hl _ h).symm
      · exact ih c' sh hc' hs' m h
    cases e with
    | step s => exact ih c _ hc (fun sh' h' => hs sh' (.tail _ h')) m hm
    | reset => exact ih none sh (fun _ h => nomatch h) hs m hm
    | get =>
      cases c with
      | none => exact told (some (metadata sh)) (fun _ e => by cases e; exact hsh) [_] (by simp) hm hs
      | some m0 => exact told (some m0) hc [_] (by simp) hm hs
    | getFails =>
      cases c with
      | none =>
        rcases List.mem_cons.mp hm with h | h
        · cases h
        · exact ih none sh (fun _ h => nomatch h) hs m h
      | some m0 => exact told (some m0) hc [_] (by simp) hm hs
    | getPair =>
      cases c with
      | none => exact told (some (metadata sh)) (fun _ e => by cases e; exact hsh) [_, _] (by simp) hm hs
      | some m0 => exact told (some m0) hc [_, _] (by simp) hm hs

/-- **C02_cache_never_partial.**  For every history of run-time changes, resets, completed, failed and overlapping
    member-list requests, starting from an empty cache: every list that is told is the *complete* list `metadata sh'` of
    a state `sh'` the object was in — never a partially filled one. -/
theorem C02_cache_never_partial (sh : Shape) (evs : List CacheEv) (m : Meta)
    (hm : some m ∈ advertisedF none sh evs) : ∃ sh' ∈ statesF sh evs, m = metadata sh' :=
  cache_never_partial_aux (fun m => ∃ sh' ∈ statesF sh evs, m = metadata sh') evs none sh (by simp)
    (fun sh' h' => ⟨sh', h', rfl⟩) m hm

/-- **C02_cache_overlap_exact.**  Two overlapping first requests are both told the complete list of the present state. -/
theorem C02_cache_overlap_exact (sh : Shape) (rest : List CacheEv) :
    (advertisedF none sh (.getPair :: rest)).take 2 = [some (metadata sh), some (metadata sh)] := by
  simp [advertisedF]

/-- without failures and overlaps `advertisedF` is the `advertised` of `PyroModel/Expose.lean` (`C02_metadata_cache`) -/
def liftEv : Event → List CacheEv
  | .step s => [.step s]
  | .req _ => []
  | .resetMeta => [.reset]
  | .getMeta => [.get]

theorem C02_cache_refines (c : Option Meta) (sh : Shape) (evs : List Event) :
    advertisedF c sh (evs.flatMap liftEv) = (advertised c sh evs).map some := by
  induction evs generalizing c sh with
  | nil => simp [advertisedF, advertised]
  | cons e rest ih =>
    cases e with
    | step s => simp [liftEv, advertisedF, advertised, ih]
    | req r => simp [liftEv, advertised, ih]
    | resetMeta => simp [liftEv, advertisedF, advertised, ih]
    | getMeta => cases c <;> simp [liftEv, advertisedF, advertised, ih]

/-! ### non-vacuity -/

/-- class with an exposed method `n`, an unexposed method `u`, a property `p` (exposed getter, setter) -/
def srcExShape : Shape :=
  { mro := [{ members := [([110], .func ⟨[110], 3, true, false⟩), ([117], .func ⟨[117], 7, false, false⟩),
                          ([112], .prop (some ⟨[112], 5, true, false⟩) (some ⟨[112], 6, false, false⟩) none)] }],
    inst := [] }

example : getAttributeSrc srcExShape [110] = (.ok (.fn ⟨[110], 3, true, false⟩), []) := by rfl
example : getAttributeSrc srcExShape [117] = (.error .unexposed, []) := by rfl
example : getAttributeSrc srcExShape [112] = (.error .unexposed, []) := by rfl
example : getAttributeSrc srcExShape [95, 110] = (.error .priv, []) := by rfl
example : getPropSrc srcExShape [112] = (.ok (), [5]) := by rfl
example : setPropSrc srcExShape [112] = (.ok (), [6]) := by rfl
example : getPropSrc srcExShape [110] = (.error .unprop, []) := by rfl
example : getPropSrc srcExShape [122] = (.error .attr, []) := by rfl
example : advertisedF none srcExShape [.getFails, .getFails, .get, .step (.setInst [110] .data), .getPair] =
    [none, none, some (metadata srcExShape), some (metadata srcExShape), some (metadata srcExShape)] := by
  simp [advertisedF]

end Pyro.C02
