/-
  C11 — theorems about the TRANSCRIPTION of the source.

  `PyroModel/Gen/C11.lean` holds, next to the probes, four definitions written on every run by harness/props/c11_tr.py
  from the AST of the tree under check:
    batchLoopSrc    the batch branch of Daemon.handleRequest (server.py)
    resultsGenSrc   the generator BatchProxy.__call__ returns, with _ExceptionWrapper.raiseIt inlined (client.py, core.py)
    batchCallSrc    BatchProxy.__call__
    invokeBatchSrc  Proxy._pyroInvokeBatch
  Here: each computes, FOR ALL inputs, what the hand-written model function computes (`C11_…_translated`), and the property
  theorems restated about the composition of the transcriptions (`C11_source_…`).
-/
import PyroModel.Batch
import PyroModel.Gen.C11
import PyroModel.BatchSrc
import PyroProofs.Batch
import PyroProps.C11

namespace Pyro.C11

open Pyro.Batch Pyro.Gen.C11

variable {St W Val Exc : Type} (w : WireOps W) (t : Exc) (o : Obj St W (W × W) Val Exc)

@[simp] theorem sentObj_gate {Name Arg : Type} (sent : Exc → Exc) (o : Obj St Name Arg Val Exc) (s : St) (n : Name) :
    (sentObj sent o).gate s n = o.gate s n := rfl

theorem sentObj_apply {Name Arg : Type} (sent : Exc → Exc) (o : Obj St Name Arg Val Exc) (s : St) (n : Name) (a : Arg) :
    (sentObj sent o).apply s n a =
      match o.apply s n a with
      | (s', .exc e) => (s', .exc (sent e))
      | (s', .ok v) => (s', .ok v) := rfl

/-- the transcribed item check is the negation of `wellFormed` -/
theorem guard_eq (c : W) :
    ((!(w.isSeq c)) || ((w.len c) != 3) || (!(w.isSeq (w.item c 1))) || (!(w.isDict (w.item c 2)))) = !wellFormed w c := by
  simp only [wellFormed, Bool.not_and, bne]

theorem unpack3 (c : W) (h : wellFormed w c = true) :
    w.unpack c 3 = some [w.item c 0, w.item c 1, w.item c 2] := by
  simp only [wellFormed, Bool.and_eq_true, beq_iff_eq] at h
  exact w.unpack_seq c 3 h.1.1.1 h.1.1.2

/-- **The transcribed server loop is the model's loop**, for every wire-value interface, object, `sent`, state, item
    list (any items, well-formed or not) and collected data: same final state, same `data` / escaping exception.
    The unpack-failure branch of the transcription is dead (the item check established length 3). -/
theorem C11_batchLoop_translated (w : WireOps W) (errs : SrcErrs Exc) (sent : Exc → Exc) (o : Obj St W (W × W) Val Exc) :
    ∀ (items : List W) (s : St) (d : List (Item Val Exc)),
      batchLoopSrc w errs sent o s items d = batchLoopW w errs.typeError (sentObj sent o) s items d := by
  intro items
  induction items with
  | nil => intro s d; rfl
  | cons c rest ih =>
    intro s d
    unfold batchLoopSrc batchLoopW
    rw [guard_eq]
    cases hw : wellFormed w c with
    | false => rfl
    | true =>
      simp only [Bool.not_true, Bool.false_eq_true, if_false, if_true, unpack3 w c hw, sentObj_gate, sentObj_apply]
      rcases o.gate s (w.item c 0) with _ | e
      · rcases o.apply s (w.item c 0) (w.item c 1, w.item c 2) with ⟨s', v | e⟩
        · exact ih s' _
        · rfl
      · rfl

theorem batchLoopW_prefix (pre post : List W) (s : St)
    (d : List (Item Val Exc)) (h : ∀ c ∈ pre, wellFormed w c = true) :
    batchLoopW w t o s (pre ++ post) d =
      match sequential o s (pre.map (decodeCall w)) with
      | (s1, vs, none) => batchLoopW w t o s1 post (d ++ vs.map .val)
      | (s1, r) => (s1, loopOf d r) := by
  induction pre generalizing s d with
  | nil => simp [sequential]
  | cons c pre ih =>
    rw [List.forall_mem_cons] at h
    rw [List.cons_append, batchLoopW, if_pos h.1, List.map_cons, sequential]
    unfold serverCall
    rw [show decodeCall w c = (w.item c 0, w.item c 1, w.item c 2) from rfl]
    rcases o.gate s (w.item c 0) with _ | e
    · rcases o.apply s (w.item c 0) (w.item c 1, w.item c 2) with ⟨s', v | e⟩
      · simp only
        rw [ih s' _ h.2]
        rcases sequential o s' (pre.map (decodeCall w)) with ⟨s1, vs, _ | f⟩
        · simp only [List.map_cons, List.append_assoc, List.singleton_append]
        · exact congrArg (Prod.mk s1) (loopOf_cons ..)
      · simp [loopOf]
    · rfl

/-- On well-formed items the wire-level loop is `batchLoop` on the decoded calls. -/
theorem batchLoopW_wellFormed (items : List W) (s : St)
    (d : List (Item Val Exc)) (h : ∀ c ∈ items, wellFormed w c = true) :
    batchLoopW w t o s items d = batchLoop o s (items.map (decodeCall w)) d := by
  have := batchLoopW_prefix w t o items [] s d h
  rw [List.append_nil] at this
  rw [this, batchLoop_sequential]
  rcases sequential o s (items.map (decodeCall w)) with ⟨s1, vs, _ | f⟩ <;> rfl

/-- **A malformed item** (not a (name, args, kwargs) triple — a real BatchProxy never sends one) behaves exactly like a
    refused name: the well-formed items before it run one by one; if they all succeed the request ends with the
    TypeError of the check (results collected so far are dropped, nothing behind the item runs). -/
theorem C11_malformed_item (w : WireOps W) (t : Exc) (o : Obj St W (W × W) Val Exc) :
    ∀ (pre : List W) (s : St) (d : List (Item Val Exc)) (bad : W) (post : List W) (s1 : St) (vs : List Val),
      (∀ c ∈ pre, wellFormed w c = true) → wellFormed w bad = false →
      sequential o s (pre.map (decodeCall w)) = (s1, vs, none) →
      batchLoopW w t o s (pre ++ bad :: post) d = (s1, .escaped t) := by
  intro pre s d bad post s1 vs h hb hs
  rw [batchLoopW_prefix w t o pre _ s d h, hs]
  simp only [batchLoopW, hb, Bool.false_eq_true, if_false]

/-- **The transcribed results generator is the model's `resultsGen`.** -/
theorem C11_resultsGen_translated : ∀ (items : List (Item Val Exc)), resultsGenSrc items = resultsGen items := by
  intro items
  induction items with
  | nil => simp [resultsGenSrc, resultsGen]
  | cons r rest ih =>
    cases r with
    | val v => simp [resultsGenSrc, resultsGen, ih]
    | wrapped e => simp [resultsGenSrc, resultsGen]

/-- **The transcribed `_pyroInvokeBatch`** sends one request named `<batch>` with the calls as they are, `kwargs=None`, and
    flags = FLAGS_BATCH, plus FLAGS_ONEWAY exactly when `oneway`. -/
theorem C11_invokeBatch_translated {C R : Type} (f : String → C → Bool → Nat → R) (calls : C) (oneway : Bool) :
    invokeBatchSrc f calls oneway = f "<batch>" calls true (flagsBatch ||| (if oneway then flagsOneway else 0)) := by
  cases oneway <;> simp [invokeBatchSrc, flagsBatch, flagsOneway]

/-- **The composed transcription is the model's `clientBatch`** (on the object whose exceptions are `sent`), for every
    list of well-formed items, both modes, every `pre`; and the BatchProxy's list afterwards is `keptCalls`. -/
theorem C11_clientBatch_translated (w : WireOps W) (errs : SrcErrs Exc) (sent : Exc → Exc) (pre : Option Exc)
    (o : Obj St W (W × W) Val Exc) (oneway : Bool) (s : St) (items : List W) (h : ∀ c ∈ items, wellFormed w c = true) :
    clientBatchSrc w errs sent pre o oneway s items =
      ((clientBatch pre (sentObj sent o) oneway s (items.map (decodeCall w))).1,
       keptCalls items (clientBatch pre (sentObj sent o) oneway s (items.map (decodeCall w))).2,
       (clientBatch pre (sentObj sent o) oneway s (items.map (decodeCall w))).2) := by
  unfold clientBatchSrc batchCallSrc clientBatch serverBatch
  simp only [C11_invokeBatch_translated, pyroInvokeW, C11_batchLoop_translated, batchLoopW_wellFormed w _ _ items _ _ h,
    C11_resultsGen_translated, invokedOf]
  generalize batchLoop (sentObj sent o) s (items.map (decodeCall w)) [] = q
  obtain ⟨s', r⟩ := q
  -- both sides are case distinctions on the mode, `pre` and the loop's outcome; the flags are numerals
  cases oneway <;> cases pre <;> cases r <;> rfl

/-- **C11 about the transcription, normal mode.**  For every object, `sent`, start state and list of well-formed items:
    the composed transcribed code leaves the object in the state of the one-by-one run of the decoded calls and shows the
    caller exactly what the sequential outcome prescribes; the BatchProxy keeps its calls iff the submission raised. -/
theorem C11_source_refines (w : WireOps W) (errs : SrcErrs Exc) (sent : Exc → Exc) (o : Obj St W (W × W) Val Exc)
    (s : St) (items : List W) (h : ∀ c ∈ items, wellFormed w c = true) :
    clientBatchSrc w errs sent none o false s items =
      ((sequential (sentObj sent o) s (items.map (decodeCall w))).1,
       keptCalls items (expected (sequential (sentObj sent o) s (items.map (decodeCall w))).2),
       expected (sequential (sentObj sent o) s (items.map (decodeCall w))).2) := by
  rw [C11_clientBatch_translated w errs sent none o false s items h, C11_refines]

/-- **C11 about the transcription, oneway mode**: same final state as the one-by-one run, nothing returned, list cleared. -/
theorem C11_source_oneway (w : WireOps W) (errs : SrcErrs Exc) (sent : Exc → Exc) (o : Obj St W (W × W) Val Exc)
    (s : St) (items : List W) (h : ∀ c ∈ items, wellFormed w c = true) :
    clientBatchSrc w errs sent none o true s items =
      ((sequential (sentObj sent o) s (items.map (decodeCall w))).1, [], Seen.nothing) := by
  rw [C11_clientBatch_translated w errs sent none o true s items h, C11_oneway]
  rfl

/-! ### Non-vacuity (the counter object of PyroProps/C11.lean seen through the concrete universe `PV`) -/

/-- hypotheses of `C11_malformed_item` are satisfiable: one good item runs, a 2-sequence ends the request with the
    TypeError (55), the result collected so far is dropped, the third item never runs -/
example : batchLoopW pvOps 55 (pvObj counter 9) 0 [.triple true true 0 1, .short 3, .triple true true 0 1] [] =
    (1, .escaped 55) := by decide +kernel
/-- a triple whose 3rd member is not a dict is refused as well -/
example : batchLoopW pvOps 55 (pvObj counter 9) 0 [.triple true false 0 1] [] = (0, .escaped 55) := by decide +kernel
example : wellFormed pvOps (.triple true true 0 1) = true ∧ wellFormed pvOps (.short 3) = false := by decide +kernel
/-- the composed transcription on concrete requests: results then the method's exception; a refused name at submission
    (the BatchProxy keeps its calls); oneway -/
example : clientBatchSrc pvOps ⟨55, 56, 57, 58⟩ id none (pvObj counter 9) false 0
    [.triple true true 0 1, .triple true true 1 0, .triple true true 0 1] = (2, [], .stream [1] (some 8)) := by decide +kernel
example : clientBatchSrc pvOps ⟨55, 56, 57, 58⟩ id none (pvObj counter 9) false 0
    [.triple true true 0 1, .triple true true 5 0] =
    (1, [.triple true true 0 1, .triple true true 5 0], .submitRaised 9) := by decide +kernel
example : clientBatchSrc pvOps ⟨55, 56, 57, 58⟩ id none (pvObj counter 9) true 0
    [.triple true true 0 1, .triple true true 1 0, .triple true true 0 1] = (2, [], .nothing) := by decide +kernel

end Pyro.C11
