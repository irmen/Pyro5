/-
  C06Ast.lean — `ReceivingMessage.add_payload`, transcribed from the source into PyIR on every run
  (PyroModel/Gen/C06.lean, `addPayloadSrc`), computes exactly what the hand-written `Wire.addPayload` computes:
  same annotation dict, same data, same flags, same error kind — for every header and every payload.
  Then the same for `ReceivingMessage.__init__` (`initSrc` = `parseHeader`) and `validate` (`validateSrc`, on the 6-byte prefix),
  and the three assembled the way `recv_stub` calls them (`recvStubSrc` = `recvStub`).
-/
import PyroModel.PyIR
import PyroModel.Wire
import PyroModel.Gen.C06
import PyroModel.C06AstRun
import PyroProofs.WireStages
import PyroProps.C06

namespace Pyro.C06Ast

open Pyro Pyro.Wire Pyro.PyIR Pyro.C06AstRun

attribute [local simp] exec eval truth truthy List.lookup_cons

theorem land_two (x : Nat) : x &&& 2 = if x / 2 % 2 = 1 then 2 else 0 := by
  apply Nat.eq_of_testBit_eq
  intro i
  rw [Nat.testBit_and]
  have h2 : Nat.testBit 2 i = decide (i = 1) := by
    have := @Nat.testBit_two_pow 1 i
    simpa [eq_comm] using this
  rw [h2]
  by_cases hi : i = 1
  · subst hi
    simp only [decide_true, Bool.and_true]
    rw [Nat.testBit_eq_decide_div_mod_eq]
    split <;> simp_all [Nat.testBit_eq_decide_div_mod_eq]
  · simp only [hi, decide_false, Bool.and_false]
    split
    · have := @Nat.testBit_two_pow 1 i
      simp at this; simp [this]; omega
    · simp

theorem dictPut_eq (d : List Ann) (k : List Nat) (v : Bytes) : dictPut d k v = dictSet d k v := by
  induction d with
  | nil => rfl
  | cons a rest ih => obtain ⟨k', v'⟩ := a; simp only [dictPut, dictSet, ih]

/-- the annotation walk as the source writes it: an index `i` into the whole payload, `A` = `annotations_size`; the first
    `Nat` is fuel (rounds of the loop) -/
def walkSpec (payload : Bytes) (A : Nat) : Nat → Nat → List Ann → Option (Nat × List Ann)
  | 0, i, acc => some (i, acc)
  | f + 1, i, acc =>
    if i < A then
      let idb := (payload.drop i).take 4
      if idb.any (· ≥ 128) then none
      else
        let len := fromBE ((payload.drop (i + 4)).take 4)
        walkSpec payload A f (i + 8 + len) (dictSet acc (idb.map UInt8.toNat) ((payload.drop (i + 8)).take len))
    else some (i, acc)

/-- the model's walk (suffix + remaining count) is the source's walk (index) -/
theorem walkAnns_spec (payload : Bytes) (A : Nat) : ∀ (f i : Nat) (acc : List Ann), i ≤ A → A - i ≤ f →
    walkAnns f (payload.drop i) (A - i) acc =
      match walkSpec payload A f i acc with
      | none => .error .nonAsciiId
      | some (i', acc') => if i' = A then .ok acc' else .error .assertion := by
  intro f
  induction f with
  | zero =>
    intro i acc hi hf
    have hiA : i = A := by omega
    simp [walkAnns, walkSpec, hiA]
  | succ f ih =>
    intro i acc hi hf
    by_cases hlt : i < A
    · have hr : A - i ≠ 0 := by omega
      simp only [walkAnns, walkSpec, hr, if_false, hlt, if_true]
      split
      · rfl
      · rename_i hascii
        simp only [List.drop_drop]
        by_cases hstep : 8 + fromBE (List.take 4 (List.drop (i + 4) payload)) > A - i
        · simp only [hstep, if_true]
          -- the source goes on: i' > A, the loop stops, the assert fails
          cases f with
          | zero => simp [walkSpec]; omega
          | succ f' =>
            have : ¬ (i + 8 + fromBE (List.take 4 (List.drop (i + 4) payload)) < A) := by omega
            simp [walkSpec, this]; omega
        · simp only [hstep, if_false]
          have := ih (i + 8 + fromBE (List.take 4 (List.drop (i + 4) payload)))
            (dictSet acc (List.map UInt8.toNat (List.take 4 (List.drop i payload)))
              (List.take (fromBE (List.take 4 (List.drop (i + 4) payload))) (List.drop (i + 8) payload)))
            (by omega) (by omega)
          have e1 : A - (i + 8 + fromBE (List.take 4 (List.drop (i + 4) payload)))
              = A - i - (8 + fromBE (List.take 4 (List.drop (i + 4) payload))) := by omega
          have e2 : i + 8 + fromBE (List.take 4 (List.drop (i + 4) payload))
              = i + (8 + fromBE (List.take 4 (List.drop (i + 4) payload))) := by omega
          rw [e1] at this
          rw [← this]
          congr 1
          rw [e2]
    · have hiA : i = A := by omega
      subst hiA
      simp [walkAnns, walkSpec]

/-! ### the interpreter on the transcription -/

/-- the `while` of the transcription (inside the `if self.annotations_size:` branch) -/
def loopStmt : Stmt :=
  match Gen.C06.addPayloadSrc with
  | .seq _ (.seq _ (.seq (.ite _ (.seq _ (.seq _ (.seq _ (.seq l _)))) _) _)) => l
  | _ => .skip

structure LoopEnv (env : Env) (payload : Bytes) (h : Header) (i : Nat) (acc : List Ann) : Prop where
  hi : env.lookup "v0" = some (.int i)
  hanns : env.lookup "self.annotations" = some (.dict acc)
  hp : env.lookup "p1" = some (.bytes payload)
  hA : env.lookup "self.annotations_size" = some (.int h.annSize)
  hF : env.lookup "self.flags" = some (.int h.flags)

/-- what the rest of `add_payload` needs of the annotation loop `L`: from an environment as `LoopEnv` describes it, with fuel
    `f` enough for the area left, it ends where `walkSpec` ends, or raises UnicodeDecodeError where `walkSpec` gives up -/
def LoopOK (cfg : PyIR.Cfg) (payload : Bytes) (h : Header) (L : Stmt) : Prop :=
  ∀ (f F : Nat) (cur : Option Val) (env : Env) (i : Nat) (acc : List Ann) (w : World),
    f + 1 ≤ F → h.annSize - i ≤ f → LoopEnv env payload h i acc →
    match walkSpec payload h.annSize f i acc with
    | none => ∃ env', exec cfg L F cur env w = .raise (.exc .unicodeDecodeError false none) env' w
    | some (i', acc') => ∃ env', exec cfg L F cur env w = .normal env' w ∧ LoopEnv env' payload h i' acc'

theorem loop_ok (cfg : PyIR.Cfg) (payload : Bytes) (h : Header) : LoopOK cfg payload h loopStmt := by
  intro f
  induction f with
  | zero =>
    intro F cur env i acc w hF hf ok
    obtain ⟨G, rfl⟩ : ∃ G, F = G + 1 := ⟨F - 1, by omega⟩
    have hge : ¬ ((i : Int) < (h.annSize : Int)) := by omega
    simp only [walkSpec]
    refine ⟨env, ?_, ok⟩
    simp [loopStmt, Gen.C06.addPayloadSrc, ok.hi, ok.hA, hge]
  | succ f ih =>
    intro F cur env i acc w hF hf ok
    obtain ⟨G, rfl⟩ : ∃ G, F = G + 1 := ⟨F - 1, by omega⟩
    by_cases hlt : i < h.annSize
    · have hltI : ((i : Int) < (h.annSize : Int)) := by omega
      have h0 : (0 : Int) ≤ ↑i + 4 := by omega
      have h08 : (0 : Int) ≤ ↑i + 8 := by omega
      have h4 : ((i : Int) + 4).toNat = i + 4 := by omega
      have h8 : ((i : Int) + 8).toNat = i + 8 := by omega
      have e4 : i + 4 - i = 4 := by omega
      have e8 : i + 8 - (i + 4) = 4 := by omega
      simp only [walkSpec, hlt, if_true]
      by_cases hany : ((payload.drop i).take 4).any (· ≥ 128) = true
      · simp only [hany, if_true]
        refine ⟨env, ?_⟩
        simp at hany
        simp [loopStmt, Gen.C06.addPayloadSrc, ok.hi, ok.hA, ok.hp, hltI, h0, h4, e4, hany]
      · simp only [hany]
        simp at hany
        have hnot : ¬ ∃ x, x ∈ List.take 4 (List.drop i payload) ∧ 128 ≤ x := by
          rintro ⟨x, hx, hge⟩
          have := hany x hx
          exact absurd hge (by simpa using this)
        generalize hlen : fromBE (List.take 4 (List.drop (i + 4) payload)) = len
        have hl0 : (0 : Int) ≤ ↑i + 8 + ↑len := by omega
        have hl8 : ((i : Int) + 8 + (len : Int)).toNat = i + 8 + len := by omega
        have el : i + 8 + len - (i + 8) = len := by omega
        let env' : Env := ("v0", Val.int ((i : Int) + (8 + (len : Int)))) ::
          ("self.annotations", Val.dict (dictSet acc (List.map UInt8.toNat (List.take 4 (List.drop i payload)))
            (List.take len (List.drop (i + 8) payload)))) ::
          ("v2", Val.int (len : Int)) ::
          ("v1", Val.str (List.map UInt8.toNat (List.take 4 (List.drop i payload)))) :: env
        have ok' : LoopEnv env' payload h (i + 8 + len)
            (dictSet acc (List.map UInt8.toNat (List.take 4 (List.drop i payload))) (List.take len (List.drop (i + 8) payload))) :=
          ⟨by simp [env']; omega, by simp [env'], by simp [env', ok.hp],
           by simp [env', ok.hA], by simp [env', ok.hF]⟩
        have step : exec cfg loopStmt (G + 1) cur env w = exec cfg loopStmt G cur env' w := by
          simp [loopStmt, Gen.C06.addPayloadSrc, ok.hi, ok.hA, ok.hp, ok.hanns, hltI, h0, h08, h4, h8, e4, e8, hnot, hlen,
            hl0, hl8, el, dictPut_eq, env']
        rw [step]
        exact ih G cur env' (i + 8 + len) _ w (by omega) (by omega) ok'
    · have hge : ¬ ((i : Int) < (h.annSize : Int)) := by omega
      simp only [walkSpec, hlt, if_false]
      refine ⟨env, ?_, ok⟩
      simp [loopStmt, Gen.C06.addPayloadSrc, ok.hi, ok.hA, hge]

/-- the last statement of the transcription: the decompression `if` -/
def tailStmt : Stmt :=
  match Gen.C06.addPayloadSrc with
  | .seq _ (.seq _ (.seq _ z)) => z
  | _ => .skip

/-- the transcription with `L` for the loop and `Z` for the decompression step, so that the statements around them are run
    without unfolding either -/
def withParts (L Z : Stmt) : Stmt :=
  match Gen.C06.addPayloadSrc with
  | .seq a (.seq b (.seq (.ite c (.seq p1 (.seq p2 (.seq p3 (.seq _ rest)))) e) _)) =>
    .seq a (.seq b (.seq (.ite c (.seq p1 (.seq p2 (.seq p3 (.seq L rest)))) e) Z))
  | s => s

theorem src_shape : Gen.C06.addPayloadSrc = withParts loopStmt tailStmt := by rfl

/-- what the message is after the decompression step, given data / annotations / flags before it -/
def tailSpec (z : Zlib) (h : Header) (d : Bytes) (a : List Ann) (flags : Nat) : Except DecErr Decoded :=
  if hasBit flags FLAGS_COMPRESSED then
    match z.decompress d with
    | none => .error .zlib
    | some d' => .ok { type := h.type, serId := h.serId, flags := clearBit flags FLAGS_COMPRESSED, seq := h.seq, data := d',
                       anns := a, corr := h.corr }
  else .ok { type := h.type, serId := h.serId, flags := flags, seq := h.seq, data := d, anns := a, corr := h.corr }

def TailOK (z : Zlib) (cfg : PyIR.Cfg) (h : Header) (Z : Stmt) : Prop :=
  ∀ (F : Nat) (cur : Option Val) (env : Env) (w : World) (d : Bytes) (a : List Ann) (flags : Nat),
    env.lookup "self.data" = some (.bytes d) → env.lookup "self.annotations" = some (.dict a) →
    env.lookup "self.flags" = some (.int flags) →
    toDecoded h (exec cfg Z F cur env w) = some (tailSpec z h d a flags)

theorem tail_ok (z : Zlib) (cfg : PyIR.Cfg) (hz : cfg.unzip = z.decompress) (h : Header) : TailOK z cfg h tailStmt := by
  intro F cur env w d a flags hd ha hf
  have hl := land_two flags
  by_cases hb : flags / 2 % 2 = 1
  · have hc : (((flags &&& 2 : Nat) : Int) != 0) = true := by rw [hl]; simp [hb]
    cases hu : z.decompress d with
    | none =>
      simp [tailStmt, Gen.C06.addPayloadSrc, hd, hf, hc, hz, hu, toDecoded, tailSpec, hasBit, FLAGS_COMPRESSED, hb]
    | some d' =>
      simp [tailStmt, Gen.C06.addPayloadSrc, hd, ha, hf, hz, hu, toDecoded, tailSpec, hasBit, FLAGS_COMPRESSED, hb, clearBit, hl]
  · have hc : (((flags &&& 2 : Nat) : Int) != 0) = false := by rw [hl]; simp [hb]
    simp [tailStmt, Gen.C06.addPayloadSrc, hd, ha, hf, hc, toDecoded, tailSpec, hasBit, FLAGS_COMPRESSED, hb]

theorem addPayload_gen (z : Zlib) (cfg : PyIR.Cfg) (h : Header) (payload : Bytes)
    (L Z : Stmt) (hL : LoopOK cfg payload h L) (hZ : TailOK z cfg h Z) :
    toDecoded h (runAddPayload cfg (withParts L Z) h payload) = some (Wire.addPayload z h payload) := by
  unfold runAddPayload
  generalize hF : h.annSize + 2 = F
  by_cases hlen : payload.length = h.dataSize + h.annSize
  · have hI : (((payload.length : Int) != (h.dataSize : Int) + (h.annSize : Int))) = false := by
      simp only [bne_eq_false_iff_eq]; omega
    by_cases hA : h.annSize = 0
    · have hI' : (((payload.length : Int) != (h.dataSize : Int))) = false := by
        simp only [bne_eq_false_iff_eq]; omega
      have := hZ F none (("self.data", .bytes payload) :: initEnv h payload) ⟨[], [], [], []⟩ payload [] h.flags
        (by simp) (by simp [initEnv]) (by simp [initEnv])
      simp [withParts, Gen.C06.addPayloadSrc, initEnv, hI', hA] at this ⊢
      rw [this]
      simp [Wire.addPayload, hlen, hA, walkAnns, tailSpec]
      rfl
    · have hA0 : ((h.annSize : Int) != 0) = true := by simp; omega
      have ok0 : LoopEnv (("v0", Val.int 0) :: ("self.annotations", Val.dict []) :: ("p1", Val.bytes payload) :: initEnv h payload)
          payload h 0 [] :=
        ⟨by simp, by simp, by simp, by simp [initEnv], by simp [initEnv]⟩
      have hloop := hL h.annSize F none _ 0 [] ⟨[], [], [], []⟩ (by omega) (by omega) ok0
      have hspec := walkAnns_spec payload h.annSize h.annSize 0 [] (by omega) (by omega)
      simp only [List.drop_zero, Nat.sub_zero] at hspec
      rcases hw : walkSpec payload h.annSize h.annSize 0 [] with _ | ⟨i', acc'⟩
      · rw [hw] at hloop hspec
        obtain ⟨env', he⟩ := hloop
        simp [initEnv] at he
        simp [withParts, Gen.C06.addPayloadSrc, initEnv, hA0, he, toDecoded, Wire.addPayload, hlen, hspec]
      · rw [hw] at hloop hspec
        obtain ⟨env', he, ok'⟩ := hloop
        simp [initEnv] at he
        by_cases hi' : i' = h.annSize
        · subst hi'
          have h0A : (0 : Int) ≤ (h.annSize : Int) := by omega
          have := hZ F none (("self.data", .bytes (payload.drop h.annSize)) :: env') ⟨[], [], [], []⟩ (payload.drop h.annSize) acc' h.flags
            (by simp) (by simp [ok'.hanns]) (by simp [ok'.hF])
          simp at hspec
          simp [withParts, Gen.C06.addPayloadSrc, initEnv, hI, hA0, he, ok'.hi, ok'.hA, ok'.hp, h0A] at this ⊢
          rw [this]
          simp [Wire.addPayload, hlen, hspec, tailSpec]
          rfl
        · have hne : (((i' : Int) == (h.annSize : Int))) = false := by simp; omega
          simp [hi'] at hspec
          simp [withParts, Gen.C06.addPayloadSrc, initEnv, hA0, he, toDecoded, Wire.addPayload, hlen, hspec, ok'.hi, ok'.hA, hne]
  · have hI : (((payload.length : Int) != (h.dataSize : Int) + (h.annSize : Int))) = true := by
      simp only [bne_iff_ne, ne_eq]; omega
    simp [withParts, Gen.C06.addPayloadSrc, initEnv, hI, toDecoded, Wire.addPayload, hlen]

/-- **`ReceivingMessage.add_payload`, as written now, is the model's `addPayload`** — for every header, payload and zlib -/
theorem addPayload_translated (z : Zlib) (cfg : PyIR.Cfg) (hz : cfg.unzip = z.decompress) (h : Header) (payload : Bytes) :
    toDecoded h (runAddPayload cfg Gen.C06.addPayloadSrc h payload) = some (Wire.addPayload z h payload) := by
  rw [src_shape]
  exact addPayload_gen z cfg h payload loopStmt tailStmt (loop_ok cfg payload h) (tail_ok z cfg hz h)

/-- C06's "accepts only what tiles exactly", stated about the source as it is written now: if the transcribed
    `add_payload` returns normally, the annotation area of the payload is tiled exactly by (id, length, value) chunks,
    the message's annotations are those chunks (later duplicate wins) and its data is the rest (decompressed if flagged) -/
theorem C06_source_accepts_tiled (z : Zlib) (cfg : PyIR.Cfg) (hz : cfg.unzip = z.decompress) (h : Header) (payload : Bytes)
    (env : Env) (w : World) (hrun : runAddPayload cfg Gen.C06.addPayloadSrc h payload = .normal env w) :
    ∃ d : Decoded, toDecoded h (.normal env w) = some (.ok d) ∧
      payload.length = h.dataSize + h.annSize ∧
      ∃ chunks : List (Bytes × Bytes),
        payload.take h.annSize = rawChunks chunks ∧
        d.anns = chunks.foldl (fun a c => dictSet a (c.1.map UInt8.toNat) c.2) [] := by
  have ht := addPayload_translated z cfg hz h payload
  rw [hrun] at ht
  cases hm : Wire.addPayload z h payload with
  | error e =>
    rw [hm] at ht
    simp only [toDecoded] at ht
    split at ht <;> simp at ht
  | ok d =>
    rw [hm] at ht
    obtain ⟨hl, chunks, hc, ha, _⟩ := addPayload_ok z h payload d hm
    exact ⟨d, ht, hl, chunks, hc, ha⟩

/-- ... and it never leaves the fragment or runs out of fuel: the outcome is a message or one of the four documented errors -/
theorem C06_source_outcomes (z : Zlib) (cfg : PyIR.Cfg) (hz : cfg.unzip = z.decompress) (h : Header) (payload : Bytes) :
    (toDecoded h (runAddPayload cfg Gen.C06.addPayloadSrc h payload)).isSome := by
  rw [addPayload_translated z cfg hz]; rfl

/-- non-vacuity: a concrete run of the transcription (two chunks, the second key repeats the first: later one wins) -/
example :
    let z : Zlib := { compress := id, decompress := fun _ => none }
    let cfg : PyIR.Cfg := { useWaitall := false, peercert := false, blocking := true, isSub := fun _ _ => false, unzip := z.decompress }
    let h : Header := { type := 4, serId := 2, flags := 0, seq := 7, dataSize := 2, annSize := 19, corr := [] }
    sameOutcome (toDecoded h (runAddPayload cfg Gen.C06.addPayloadSrc h
      ([65,66,67,68, 0,0,0,1, 9] ++ [65,66,67,68, 0,0,0,2, 8,7] ++ [1,2])))
      (.ok { type := 4, serId := 2, flags := 0, seq := 7, data := [1,2], anns := [([65,66,67,68], [8,7])], corr := [] }) = true := by
  intro z cfg h
  rw [addPayload_translated z cfg rfl]
  decide +kernel

/-! ### header parsing: `ReceivingMessage.__init__` and `ReceivingMessage.validate` -/

theorem int_bne_502 (v : Nat) : (((v : Int) != 502)) = (v != 502) := by
  rw [Bool.eq_iff_iff]; simp only [bne_iff_ne, ne_eq]; omega

theorem int_bne_19909 (v : Nat) : (((v : Int) != 19909)) = (v != 19909) := by
  rw [Bool.eq_iff_iff]; simp only [bne_iff_ne, ne_eq]; omega

/-- **`ReceivingMessage.__init__(header)`, as written now, is the model's `parseHeader`** on every 40-byte header and
    every MAX_MESSAGE_SIZE (the struct format is the extracted one, field by field) -/
theorem init_translated (cfg : PyIR.Cfg) (wcfg : Wire.Cfg) (hm : cfg.maxSize = wcfg.maxSize) (header : Bytes)
    (h40 : header.length = 40) :
    toHeader (runInit cfg Gen.C06.initSrc header) = some (Wire.parseHeader wcfg header) := by
  unfold runInit
  have hd : header.drop 40 = [] := List.drop_eq_nil_of_le (by omega)
  -- the source's test of tag, version and magic number, as the interpreter evaluates it
  cases hb : (List.take 4 header != [80, 89, 82, 79] || fromBE (List.take 2 (List.drop 4 header)) != 502 ||
      fromBE (List.take 2 (List.drop 38 header)) != 19909)
  · have hP : ¬ (List.take 4 header ≠ tagPYRO ∨ fromBE (List.take 2 (List.drop 4 header)) ≠ protocolVersion ∨
        fromBE (List.take 2 (List.drop 38 header)) ≠ magicNumber) := by
      simpa [tagPYRO, protocolVersion, magicNumber, and_assoc] using hb
    have hsI : (wcfg.maxSize : Int) < (fromBE (List.take 4 (List.drop 12 header)) : Int) + (fromBE (List.take 4 (List.drop 16 header)) : Int) ↔
        wcfg.maxSize < fromBE (List.take 4 (List.drop 12 header)) + fromBE (List.take 4 (List.drop 16 header)) := by omega
    by_cases hs : wcfg.maxSize < fromBE (List.take 4 (List.drop 12 header)) + fromBE (List.take 4 (List.drop 16 header)) <;>
      simp [Gen.C06.initSrc, unpackFields, fldSize, bindAll, h40, List.drop_drop, List.length_drop, hd, int_bne_502,
        int_bne_19909, hb, hs, hsI, hm, toHeader, Wire.parseHeader, hP]
  · have hP : List.take 4 header ≠ tagPYRO ∨ fromBE (List.take 2 (List.drop 4 header)) ≠ protocolVersion ∨
        fromBE (List.take 2 (List.drop 38 header)) ≠ magicNumber := by
      simpa [tagPYRO, protocolVersion, magicNumber, or_assoc] using hb
    simp [Gen.C06.initSrc, unpackFields, fldSize, bindAll, h40, List.drop_drop, List.length_drop, hd, int_bne_502,
      int_bne_19909, hb, toHeader, Wire.parseHeader, hP]

/-- what `validate` decides on the 6 bytes `recv_stub` reads first (the model's test in `recvStub`) -/
def prefixBad (h6 : Bytes) : Bool := (h6.take 4 != tagPYRO) || (h6.drop 4 != toBE 2 protocolVersion)

/-- **`ReceivingMessage.validate`, as written now, on the 6-byte prefix**: ProtocolError exactly when the tag is not
    `PYRO` or the version bytes differ; otherwise it returns -/
theorem validate_translated (cfg : PyIR.Cfg) (h6 : Bytes) (hl : h6.length = 6) :
    (prefixBad h6 = true → ∃ env w, runValidate cfg Gen.C06.validateSrc h6 = .raise (.exc .protocolError false none) env w) ∧
    (prefixBad h6 = false → ∃ env w, runValidate cfg Gen.C06.validateSrc h6 = .normal env w) := by
  have hv : toBE 2 protocolVersion = [1, 246] := by decide
  have hd : List.take 2 (List.drop 4 h6) = List.drop 4 h6 := List.take_of_length_le (by simp [hl])
  have htB : (List.take 4 h6 != [80, 89, 82, 79]) = !decide (List.take 4 h6 = [80, 89, 82, 79]) := by
    by_cases h : List.take 4 h6 = [80, 89, 82, 79] <;> simp [h]
  have hpB : (List.drop 4 h6 != [1, 246]) = !decide (List.drop 4 h6 = [1, 246]) := by
    by_cases h : List.drop 4 h6 = [1, 246] <;> simp [h]
  have hsw : (List.take 4 h6 == [80, 89, 82, 79]) = decide (List.take 4 h6 = [80, 89, 82, 79]) := by
    by_cases h : List.take 4 h6 = [80, 89, 82, 79] <;> simp [h]
  unfold runValidate prefixBad
  rw [hv]
  simp only [tagPYRO]
  by_cases ht : List.take 4 h6 = [80, 89, 82, 79] <;> by_cases hp : List.drop 4 h6 = [1, 246] <;>
    simp [Gen.C06.validateSrc, hl, ht, hp, hd, htB, hpB, hsw]

/-! ### the whole decode path, assembled from the transcribed functions

`recv_stub` itself is twelve lines of glue: read 6 bytes, `validate`, read the other 34, construct the message (`__init__`),
filter the message type, read `annotations_size + data_size` bytes, `add_payload`.  `recvStubSrc` is that glue written in Lean
around the three *transcribed* functions (run by the PyIR interpreter); the theorem says the assembly is the model's `recvStub`
for every stream, so every C06 theorem about `recvStub` is a theorem about the transcriptions composed this way.  (That the glue
itself reads in this order and nothing else is checked on the real `recv_stub` by the correspondence run: requested-byte
counts and outcomes, per input.) -/

def recvStubSrc (cfg : PyIR.Cfg) (accepted : List Nat) (stream : Bytes) : Option StubResult :=
  match recvN 6 stream with
  | none => some ⟨.error .closed, 6, []⟩
  | some (h6, s1) =>
    match runValidate cfg Gen.C06.validateSrc h6 with
    | .raise (.exc .protocolError _ _) _ _ => some ⟨.error .protocol, 6, s1⟩
    | .normal _ _ =>
      match recvN (headerSize - 6) s1 with
      | none => some ⟨.error .closed, headerSize, []⟩
      | some (h34, s2) =>
        match toHeader (runInit cfg Gen.C06.initSrc (h6 ++ h34)) with
        | some (.error e) => some ⟨.error e, headerSize, s2⟩
        | some (.ok hdr) =>
          if !accepted.isEmpty && !accepted.contains hdr.type then some ⟨.error .badType, headerSize, s2⟩
          else match recvN (hdr.annSize + hdr.dataSize) s2 with
            | none => some ⟨.error .closed, headerSize + hdr.annSize + hdr.dataSize, []⟩
            | some (body, s3) =>
              match toDecoded hdr (runAddPayload cfg Gen.C06.addPayloadSrc hdr body) with
              | some out => some ⟨out, headerSize + hdr.annSize + hdr.dataSize, s3⟩
              | none => none
        | none => none
    | _ => none

theorem recvN_length {n : Nat} {s a b : Bytes} (h : recvN n s = some (a, b)) : a.length = n := by
  unfold recvN at h
  split at h
  · cases h; simp; omega
  · cases h

/-- **C06_source_recvStub.**  The transcribed `validate`, `__init__` and `add_payload`, assembled the way `recv_stub` calls
    them, decode every stream exactly as the model's `recvStub` does (same outcome, same bytes requested, same rest). -/
theorem C06_source_recvStub (cfg : PyIR.Cfg) (wcfg : Wire.Cfg) (z : Zlib) (hm : cfg.maxSize = wcfg.maxSize)
    (hz : cfg.unzip = z.decompress) (accepted : List Nat) (stream : Bytes) :
    recvStubSrc cfg accepted stream = some (recvStub wcfg z accepted stream) := by
  unfold recvStubSrc recvStub
  cases h6e : recvN 6 stream with
  | none => rfl
  | some p =>
    obtain ⟨h6, s1⟩ := p
    have hl6 := recvN_length h6e
    obtain ⟨hbad, hgood⟩ := validate_translated cfg h6 hl6
    dsimp only
    cases hb : prefixBad h6 with
    | true =>
      obtain ⟨env, w, hv⟩ := hbad hb
      rw [hv]
      simp only [prefixBad, Bool.or_eq_true, bne_iff_ne, ne_eq] at hb
      rcases hb with hb | hb
      · simp [hb]
      · by_cases ht : List.take 4 h6 = tagPYRO
        · simp [ht, hb]
        · simp [ht]
    | false =>
      obtain ⟨env, w, hv⟩ := hgood hb
      rw [hv]
      simp only [prefixBad, Bool.or_eq_false_iff, bne_eq_false_iff_eq] at hb
      simp only [hb.1, hb.2, ne_eq, not_true_eq_false, if_false]
      cases h34e : recvN (headerSize - 6) s1 with
      | none => rfl
      | some q =>
        obtain ⟨h34, s2⟩ := q
        have hl34 := recvN_length h34e
        have h40 : (h6 ++ h34).length = 40 := by simp [hl6, hl34, headerSize]
        dsimp only
        rw [init_translated cfg wcfg hm (h6 ++ h34) h40]
        simp only [recvStage2]
        cases hp : parseHeader wcfg (h6 ++ h34) with
        | error e => rfl
        | ok hdr =>
          dsimp only
          split
          · rfl
          · simp only [recvStage3]
            cases hbe : recvN (hdr.annSize + hdr.dataSize) s2 with
            | none => rfl
            | some r =>
              obtain ⟨body, s3⟩ := r
              dsimp only
              rw [addPayload_translated z cfg hz hdr body]

/-- **"accepts only what is well formed", about the assembled transcriptions**: whatever byte string they accept is a 40-byte
    header that parses, an annotation area tiled exactly by chunks, exactly `data_size` data bytes and the untouched rest, and
    exactly the message's bytes were requested (the conclusion of `C06_accepts_only_wellformed`, transferred). -/
theorem C06_source_accepts_only_wellformed (cfg : PyIR.Cfg) (wcfg : Wire.Cfg) (z : Zlib) (hm : cfg.maxSize = wcfg.maxSize)
    (hz : cfg.unzip = z.decompress) (accepted : List Nat) (stream : Bytes) (d : Decoded) (n : Nat) (rest : Bytes)
    (h : recvStubSrc cfg accepted stream = some ⟨.ok d, n, rest⟩) :
    ∃ (hdr : Bytes) (H : Header) (chunks : List (Bytes × Bytes)) (data : Bytes),
      stream = hdr ++ (rawChunks chunks ++ (data ++ rest)) ∧
      hdr.length = headerSize ∧ parseHeader wcfg hdr = .ok H ∧
      (rawChunks chunks).length = H.annSize ∧ data.length = H.dataSize ∧
      n = headerSize + H.annSize + H.dataSize ∧
      d.anns = chunks.foldl (fun a c => dictSet a (c.1.map UInt8.toNat) c.2) [] := by
  rw [C06_source_recvStub cfg wcfg z hm hz] at h
  have h' : recvStub wcfg z accepted stream = ⟨.ok d, n, rest⟩ := by injection h
  obtain ⟨hdr, H, chunks, data, h1, h2, h3, h4, h5, h6, _, h8, _⟩ :=
    Pyro.C06.C06_accepts_only_wellformed wcfg z accepted stream d n rest h'
  exact ⟨hdr, H, chunks, data, h1, h2, h3, h4, h5, h6, h8⟩

end Pyro.C06Ast
