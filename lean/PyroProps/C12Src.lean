/-
  C12, client on the wire — `Proxy._pyroInvoke` transcribed from the source on every run
  (`Pyro.Gen.C12Src.pyroInvokeSrc`, harness/props/c12_tr.py) equals the hand-written model
  `Pyro.Context.pyroInvoke` on every state and every call; the client half of the property is proved
  about the model and restated about the transcription.  `wcall_eq` splits a call into what happens before the `try`
  block (`atSend`) and the block itself, whose effect is `invokeBody_state`.
-/
import PyroModel.Context
import PyroModel.Gen.C12Src

namespace Pyro.C12

open Pyro.Context Pyro.Gen.C12Src

/-- the `except` clause of the source catches exactly the classes the model says (CommunicationError and its
    subclasses, KeyboardInterrupt; not an application exception) -/
theorem C12_handler_translated : handlerCatchesSrc = handlerCatchesModel := by
  funext e; cases e <;> rfl

/-- **C12_pyroInvoke_translated.**  For every client state and every call (whatever the peer sends, whatever is
    still unread on the connection) the transcription of `_pyroInvoke` computes the state the model computes. -/
theorem C12_pyroInvoke_translated (s : CState) (c : WCall) : pyroInvokeSrc s c = pyroInvoke s c := by
  unfold pyroInvokeSrc pyroInvoke invokeBody
  rw [C12_handler_translated]
  rfl

theorem C12_wcall_translated (s : CState) (c : WCall) : wcallSrc s c = wcall s c := by
  unfold wcallSrc wcall; rw [C12_pyroInvoke_translated]

theorem C12_wrun_translated (cs : List WCall) : ∀ s, wrunSrc s cs = wrun s cs := by
  induction cs with
  | nil => intro s; rfl
  | cons c cs ih => intro s; simp only [wrunSrc, wrun, C12_wcall_translated, ih]

theorem tryRelease_cases (f : ExcCls → Bool) (x : CState × Exit) :
    tryRelease f x = x.1 ∨ tryRelease f x = releaseOp x.1 := by
  obtain ⟨s, e⟩ := x
  cases e with
  | ret => exact Or.inl rfl
  | raised e =>
    simp only [tryRelease]
    split
    · exact Or.inr rfl
    · exact Or.inl rfl

theorem tryRelease_ra (f : ExcCls → Bool) (x : CState × Exit) : (tryRelease f x).ra = x.1.ra := by
  rcases tryRelease_cases f x with h | h <;> rw [h] <;> rfl

theorem tryRelease_seq (f : ExcCls → Bool) (x : CState × Exit) : (tryRelease f x).seq = x.1.seq := by
  rcases tryRelease_cases f x with h | h <;> rw [h] <;> rfl

theorem tryRelease_inbox (f : ExcCls → Bool) (x : CState × Exit) : (tryRelease f x).inbox ⊆ x.1.inbox := by
  rcases tryRelease_cases f x with h | h <;> rw [h]
  · exact List.Subset.refl _
  · exact List.nil_subset _

theorem mem_sendOp_inbox {s : CState} {c : WCall} {r : PeerReply} (h : r ∈ (sendOp s c).inbox) :
    r ∈ s.inbox ∨ ∃ p, c.peer = some p ∧ r = mkReply s.seq p := by
  rcases List.mem_append.mp h with h | h
  · exact Or.inl h
  · obtain ⟨p, hp, hr⟩ := Option.map_eq_some_iff.mp (Option.mem_toList.mp h)
    exact Or.inr ⟨p, hp, hr.symm⟩

theorem recvOp_cases (s : CState) (c : WCall) :
    (∃ e, recvOp s c = (s, .raised e)) ∨
    ∃ r rest, s.inbox = r :: rest ∧ c.interrupted = false ∧ r.typeOk = true ∧
      recvOp s c = ({ s with inbox := rest }, .msg r) := by
  unfold recvOp
  cases c.interrupted
  · cases hl : s.inbox with
    | nil => exact Or.inl ⟨_, rfl⟩
    | cons r rest =>
      cases ht : r.typeOk
      · exact Or.inl ⟨_, by simp only [ht]; rfl⟩
      · exact Or.inr ⟨r, rest, rfl, rfl, ht, by simp only [ht]; rfl⟩
  · exact Or.inl ⟨_, rfl⟩

/-- A message that is read leaves the inbox whether or not it is accepted; only an accepted one sets the annotations. -/
theorem invokeBody_state (s : CState) (c : WCall) :
    (invokeBody s c).1 = sendOp s c ∨
    ∃ r rest, (sendOp s c).inbox = r :: rest ∧ c.oneway = false ∧ c.interrupted = false ∧ r.typeOk = true ∧
      ((invokeBody s c).1 = { sendOp s c with inbox := rest } ∨
       r.forCall = s.seq ∧ r.serOk = true ∧ (invokeBody s c).1 = { sendOp s c with inbox := rest, ra := r.anns }) := by
  unfold invokeBody
  cases c.oneway
  · dsimp only
    rcases recvOp_cases (sendOp s c) c with ⟨e, h⟩ | ⟨r, rest, hl, hi, ht, h⟩
    · left; rw [h]; rfl
    · right
      refine ⟨r, rest, hl, rfl, hi, ht, ?_⟩
      rw [h]
      -- whatever follows the validation of the message, it returns or raises in the same state
      simp only [apply_ite Prod.fst, ite_self]
      cases hf : r.forCall != (sendOp s c).seq
      · cases hs : r.serOk
        · exact Or.inl rfl
        · cases he : r.anns.isEmpty
          · exact Or.inr ⟨bne_eq_false_iff_eq.mp hf, rfl, rfl⟩
          · exact Or.inl rfl
      · exact Or.inl rfl
  · exact Or.inl rfl

/-- the message a call reads: the head of what is unread plus the peer's answer to this very request -/
def readMsg (s : CState) (c : WCall) : Option PeerReply :=
  (s.inbox ++ (c.peer.map (mkReply s.seq)).toList).head?

/-- the `try` block changes the annotations only by accepting the message it read -/
theorem invokeBody_ra (s : CState) (c : WCall) :
    ∀ k ∈ (invokeBody s c).1.ra, k ∈ s.ra ∨
      (∃ r, readMsg s c = some r ∧ r.forCall = s.seq ∧ r.typeOk = true ∧ r.serOk = true ∧
            c.oneway = false ∧ c.interrupted = false ∧ k ∈ r.anns) := by
  intro k hk
  rcases invokeBody_state s c with h | ⟨r, rest, hl, how, hi, ht, h | ⟨hf, hs, h⟩⟩ <;> rw [h] at hk
  · exact Or.inl hk
  · exact Or.inl hk
  · exact Or.inr ⟨r, congrArg List.head? hl, hf, ht, hs, how, hi, hk⟩

theorem invokeBody_seq (s : CState) (c : WCall) : (invokeBody s c).1.seq = s.seq := by
  rcases invokeBody_state s c with h | ⟨_, _, _, _, _, _, h | ⟨_, _, h⟩⟩ <;> rw [h] <;> rfl

theorem invokeBody_inbox (s : CState) (c : WCall) : (invokeBody s c).1.inbox ⊆ (sendOp s c).inbox := by
  rcases invokeBody_state s c with h | ⟨r, rest, hl, _, _, _, h | ⟨_, _, h⟩⟩ <;> rw [h]
  · exact List.Subset.refl _
  · exact hl ▸ List.subset_cons_self r rest
  · exact hl ▸ List.subset_cons_self r rest

/-- the state in which the body of `_pyroInvoke` sends: after release / reset / connect / sequence increment -/
def atSend (s : CState) (c : WCall) : CState :=
  let s := if c.releaseFirst then releaseOp s else s
  let s := { s with ra := [] }
  let s := if s.connected then s else (connectOp s c).1
  { s with seq := nextSeq s.seq 65535 }

/-- a handshake happens inside this call and is accepted -/
def handshakes (s : CState) (c : WCall) : Bool :=
  (c.releaseFirst || !s.connected) && c.hsOk

/-- `nextSeq` does not wrap around in the model, whatever its mask -/
theorem atSend_seq (s : CState) (c : WCall) : (atSend s c).seq = s.seq + 1 := by
  obtain ⟨conn, seq, inbox, ra⟩ := s
  unfold atSend connectOp
  cases c.releaseFirst <;> cases conn <;> cases c.hsOk <;> rfl

theorem atSend_inbox (s : CState) (c : WCall) : (atSend s c).inbox ⊆ s.inbox := by
  obtain ⟨conn, seq, inbox, ra⟩ := s
  unfold atSend connectOp
  cases c.releaseFirst with
  | true => cases c.hsOk <;> exact List.nil_subset _
  | false =>
    cases conn with
    | true => exact List.Subset.refl _
    | false =>
      cases c.hsOk with
      | true => exact List.nil_subset _
      | false => exact List.Subset.refl _

theorem atSend_ra (s : CState) (c : WCall) : ∀ k ∈ (atSend s c).ra, handshakes s c = true ∧ k ∈ c.hsAnns := by
  obtain ⟨conn, seq, inbox, ra⟩ := s
  unfold atSend connectOp handshakes
  cases c.releaseFirst with
  | true => cases c.hsOk <;> simp [releaseOp]
  | false =>
    cases conn with
    | true => exact fun _ hk => nomatch hk
    | false => cases c.hsOk <;> simp

/-- a refused handshake leaves the state that `atSend` computes, but for the sequence number -/
theorem wcall_eq (s : CState) (c : WCall) :
    wcall s c =
      if (c.releaseFirst || !s.connected) && !c.hsOk then { atSend s c with seq := s.seq }
      else tryRelease handlerCatchesModel (invokeBody (atSend s c) c) := by
  obtain ⟨conn, seq, inbox, ra⟩ := s
  unfold wcall pyroInvoke atSend connectOp
  cases c.releaseFirst <;> cases conn <;> cases c.hsOk <;> rfl

/-- **C12_client_wire.**  For EVERY client state (connected or not, any unread replies of earlier calls on the
    connection, any annotations left behind) and every call: each annotation the client observes afterwards
    is on the CONNECTOK answer of a handshake made inside this call, or on the message this call read —
    and then that message was accepted: a MSG_RESULT carrying this call's own sequence number and serializer,
    the call was not oneway and its wait was not interrupted.  A rejected, stale or unread reply contributes
    nothing. -/
theorem C12_client_wire (s : CState) (c : WCall) :
    ∀ k ∈ (wcall s c).ra,
      (handshakes s c = true ∧ k ∈ c.hsAnns) ∨
      (∃ r, readMsg (atSend s c) c = some r ∧ r.forCall = (atSend s c).seq ∧ r.typeOk = true ∧ r.serOk = true ∧
            c.oneway = false ∧ c.interrupted = false ∧ k ∈ r.anns) := by
  intro k hk
  have h := wcall_eq s c
  split at h <;> rw [h] at hk
  · exact Or.inl (atSend_ra s c k hk)
  · rw [tryRelease_ra] at hk
    exact (invokeBody_ra _ c k hk).imp_left (atSend_ra s c k)

/-- **C12_source_client_wire.**  The same statement about the TRANSCRIPTION of `Proxy._pyroInvoke`: whatever state the
    client is in and whatever the peer does, after the call the client observes only annotations of the handshake answer of
    this call or of the reply this call read and accepted (own sequence number, own serializer, MSG_RESULT). -/
theorem C12_source_client_wire (s : CState) (c : WCall) :
    ∀ k ∈ (wcallSrc s c).ra,
      (handshakes s c = true ∧ k ∈ c.hsAnns) ∨
      (∃ r, readMsg (atSend s c) c = some r ∧ r.forCall = (atSend s c).seq ∧ r.typeOk = true ∧ r.serOk = true ∧
            c.oneway = false ∧ c.interrupted = false ∧ k ∈ r.anns) := by
  rw [C12_wcall_translated]; exact C12_client_wire s c

/-- what is observed after a call does not depend on what earlier calls left in `response_annotations`
    (model and transcription) -/
theorem C12_client_wire_fresh (s : CState) (c : WCall) (x : List Nat) :
    wcall { s with ra := x } c = wcall s c ∧ wcallSrc { s with ra := x } c = wcallSrc s c := by
  have h : wcall { s with ra := x } c = wcall s c := by
    unfold wcall pyroInvoke releaseOp
    cases c.releaseFirst <;> rfl
  exact ⟨h, by rw [C12_wcall_translated, C12_wcall_translated, h]⟩

/-- "old": every unread reply is at most as new as the last request.  Every call to an honest peer keeps that. -/
theorem wcall_old (s : CState) (c : WCall) (hold : ∀ r ∈ s.inbox, r.forCall ≤ s.seq)
    (hp : ∀ p, c.peer = some p → p.seqDelta = 0) :
    ∀ r ∈ (wcall s c).inbox, r.forCall ≤ (wcall s c).seq := by
  intro r hr
  have h := wcall_eq s c
  split at h <;> rw [h] at hr ⊢
  · exact hold r (atSend_inbox s c hr)
  · rw [tryRelease_seq, invokeBody_seq, atSend_seq]
    rcases mem_sendOp_inbox (invokeBody_inbox _ c (tryRelease_inbox _ _ hr)) with hin | ⟨p, hpe, rfl⟩
    · exact Nat.le_succ_of_le (hold r (atSend_inbox s c hin))
    · simp only [mkReply, hp p hpe, atSend_seq]; omega

/-- **C12_client_own_reply.**  In every client state in which the unread replies are not newer than the last request
    (kept by every call to a peer that answers with the request's sequence number: `wcall_old`), whatever the peer sends
    now: what the client observes after the call is on this call's handshake answer or on the peer's answer to THIS
    request — never on an unread reply of an earlier call. -/
theorem C12_client_own_reply (s : CState) (c : WCall)
    (hold : ∀ r ∈ s.inbox, r.forCall ≤ s.seq) :
    ∀ k ∈ (wcall s c).ra,
      (handshakes s c = true ∧ k ∈ c.hsAnns) ∨ (∃ p, c.peer = some p ∧ k ∈ p.anns) := by
  intro k hk
  rcases C12_client_wire s c k hk with h | ⟨r, hr, hf, _, _, _, _, hka⟩
  · exact Or.inl h
  · rcases mem_sendOp_inbox (List.mem_of_head? hr) with hin | ⟨p, hp, rfl⟩
    · have := hold r (atSend_inbox s c hin)
      rw [atSend_seq] at hf; omega
    · exact Or.inr ⟨p, hp, hka⟩

/-- pointwise relation between the calls of a history and the states after them -/
def AllCalls (P : WCall → CState → Prop) : List WCall → List CState → Prop
  | [], [] => True
  | c :: cs, s :: ss => P c s ∧ AllCalls P cs ss
  | _, _ => False

/-- **C12_client_history.**  For all histories of calls of one proxy to a peer that answers each request with the request's
    sequence number (any replies lost, unread, rejected for their type or serializer, any releases, reconnects, refused
    handshakes, oneway calls, interrupted waits): after EVERY call the client observes only annotations of that call's own
    handshake answer or of the peer's answer to that very call. -/
theorem C12_client_history (cs : List WCall) (hp : ∀ c ∈ cs, ∀ p, c.peer = some p → p.seqDelta = 0) :
    ∀ (s : CState), (∀ r ∈ s.inbox, r.forCall ≤ s.seq) →
    AllCalls (fun c s' => ∀ k ∈ s'.ra, k ∈ c.hsAnns ∨ ∃ p, c.peer = some p ∧ k ∈ p.anns) cs (wrun s cs) := by
  induction cs with
  | nil => intro s _; exact True.intro
  | cons c cs ih =>
    intro s hold
    simp only [wrun]
    refine ⟨?_, ih (fun c' hc' => hp c' (List.mem_cons_of_mem _ hc')) _
      (wcall_old s c hold (hp c List.mem_cons_self))⟩
    intro k hk
    rcases C12_client_own_reply s c hold k hk with h | h
    · exact Or.inl h.2
    · exact Or.inr h

/-- `C12_client_history` for the transcription, from a connected proxy with nothing unread -/
theorem C12_source_client_history (cs : List WCall) (hp : ∀ c ∈ cs, ∀ p, c.peer = some p → p.seqDelta = 0) :
    AllCalls (fun c s' => ∀ k ∈ s'.ra, k ∈ c.hsAnns ∨ ∃ p, c.peer = some p ∧ k ∈ p.anns) cs
      (wrunSrc { connected := true } cs) := by
  rw [C12_wrun_translated]
  exact C12_client_history cs hp _ (fun _ h => by simp at h)

/-! ### non-vacuity: the history of the seeded defect /verif/seeded/C12-r5m1 — call 1 is interrupted while waiting
    (the last field of a `WCall`), its reply (annotation 4) stays unread; call 2 reads it, rejects it (sequence),
    observes nothing and drops the connection -/
example : (wrun { connected := true } [
      ⟨false, true, [], false, false, some { seqDelta := 0, typeOk := true, serOk := true, anns := [4] }, true⟩,
      ⟨false, true, [], false, false, some { seqDelta := 0, typeOk := true, serOk := true, anns := [5] }, false⟩,
      ⟨false, true, [9], false, false, some { seqDelta := 0, typeOk := true, serOk := true, anns := [6] }, false⟩]).map (fun s => (s.connected, s.ra))
    = [(true, []), (false, []), (true, [6])] := by decide
example : (wrunSrc { connected := true } [
      ⟨false, true, [], false, false, some { seqDelta := 0, typeOk := true, serOk := true, anns := [4] }, true⟩,
      ⟨false, true, [], false, false, some { seqDelta := 0, typeOk := true, serOk := true, anns := [5] }, false⟩]).map (fun s => (s.connected, s.ra))
    = [(true, []), (false, [])] := by decide

end Pyro.C12
