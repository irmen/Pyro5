/-
  C09 — "dropped when the connection ends", at full strength: a session instance never survives its connection.
  `C09_session_dropped` says that the NEXT call on the closed connection creates a new instance (if its creation
  succeeds); the theorems here say that the old instance never serves ANY later call — on whatever connection, for
  whatever class, in whatever mode, whether creations in between fail or not.
-/
import PyroModel.Instances
import PyroProofs.Instances
import PyroProps.C09

namespace Pyro.C09

open Pyro Pyro.Inst

/-- an index used up before event `i` and held then by no slot other than `sess c k`: once connection `c` (not
    keep_open) is closed, no slot holds it, and it is never handed out again -/
theorem gone_after_close {ts : Tests} {spec : Nat → ClassSpec} {x c k : Nat} {h : List Event} {s : State}
    {i m j c' k' : Nat} {o : Outcome} {b : Instance} {cr cc : Bool} (him : i ≤ m)
    (hx : x < (before ts spec s h i).next)
    (hP : ∀ sl, sl ≠ .sess c k → ∀ b, (before ts spec s h i).tab sl = some b → b.idx ≠ x)
    (hk : (before ts spec s h i).keep c = false) (hno : ∀ n, i ≤ n → n < m → h[n]? ≠ some (.openConn c true))
    (hm : h[m]? = some (.close c)) (hmj : m < j) (hj : h[j]? = some (.call c' k' o))
    (ht : (trace ts spec s h)[j]? = some (.served b cr cc)) : b.idx ≠ x := by
  obtain ⟨hx', hP', hk'⟩ := before_inv
    (fun s' => x < s'.next ∧ (∀ sl, sl ≠ .sess c k → ∀ b, s'.tab sl = some b → b.idx ≠ x) ∧ s'.keep c = false)
    him ⟨hx, hP, hk⟩
    fun n e h1 h2 he hp => ⟨Nat.lt_of_lt_of_le hp.1 (next_mono ts spec _ e), avoid_step (· ≠ .sess c k) hp.1 hp.2.1,
      keep_step hp.2.2 fun heq => hno n h1 h2 (heq ▸ he)⟩
  have hs := (before_step ts spec h s m _ hm).2
  refine avoid (fun _ => True) (x := x) (i := m + 1) hmj ?_ ?_ hj (fun _ _ => trivial) ht
  · rw [hs]; exact Nat.lt_of_lt_of_le hx' (next_mono ts spec _ _)
  · intro sl _ b' hb'
    rw [hs] at hb'
    simp only [stepEv, hk', Bool.false_eq_true, if_false] at hb'
    by_cases hsl : sl = .sess c k
    · subst hsl; rw [clearConn_own] at hb'; cases hb'
    · exact hP' sl hsl b' (kept_of_some (clearConn_cases _ c sl _ (.inl rfl)) hb')

theorem never_survives_general {ts : Tests} {spec : Nat → ClassSpec} {c k : Nat} {a : Instance} {h : List Event}
    {s : State} {i m j c' k' : Nat} {o o' : Outcome} {x y : Bool} {b : Instance} {cr cc : Bool}
    (hwf : WF s) (hk : s.keep c = false) (hno : ∀ n, n < m → h[n]? ≠ some (.openConn c true))
    (hmode : (spec k).mode = .session) (hi : h[i]? = some (.call c k o))
    (hti : (trace ts spec s h)[i]? = some (.served a x y)) (him : i < m) (hm : h[m]? = some (.close c))
    (hmj : m < j) (hj : h[j]? = some (.call c' k' o'))
    (htj : (trace ts spec s h)[j]? = some (.served b cr cc)) : b.idx ≠ a.idx := by
  obtain ⟨h1, h2⟩ := before_step ts spec h s i _ hi
  rw [h1] at hti
  have hti := Option.some.inj hti
  have hwfi := wf_before ts spec h s i hwf
  have hki := before_inv (ts := ts) (spec := spec) (h := h) (fun s' => s'.keep c = false) (Nat.zero_le i) hk
    fun n e _ hn he hp => keep_step hp fun heq => hno n (Nat.lt_trans hn him) (heq ▸ he)
  -- after call `i` the instance sits in `sess c k` and, the tables being well-formed, nowhere else
  have hst := served_stored (sl := .sess c k) (by rw [hmode]; rfl) hti
  have hwf' := wf_step ts spec _ (.call c k o) hwfi
  have hb := served_bound hwfi hti
  have hke := keep_step (ts := ts) (spec := spec) (e := .call c k o) hki (by intro heq; cases heq)
  rw [← h2] at hst hwf' hb hke
  exact gone_after_close him hb
    (fun sl hsl b' hb' heq => hsl (hwf'.inj sl (.sess c k) b' a hb' hst heq)) hke (fun n _ hn => hno n hn) hm hmj hj htj

/-- **C09_session_never_survives.**  (Either operator.)  In every history: an instance that served a `session` call on
    connection `c` serves NO call at all after `c` (not `keep_open`) has been closed — not on a new connection under the
    same label, not on any other connection, not for any other class or mode; whatever user code does in between. -/
theorem C09_session_never_survives (ts : Tests) (spec : Nat → ClassSpec) (h : List Event) (i m j c k c' k' : Nat)
    (o o' : Outcome) (a b : Instance) (x y cr cc : Bool)
    (hno : ∀ n, n < m → h[n]? ≠ some (.openConn c true))
    (hmode : (spec k).mode = .session) (hi : h[i]? = some (.call c k o))
    (hti : (trace ts spec State.init h)[i]? = some (.served a x y))
    (him : i < m) (hm : h[m]? = some (.close c)) (hmj : m < j) (hj : h[j]? = some (.call c' k' o'))
    (htj : (trace ts spec State.init h)[j]? = some (.served b cr cc)) : b.idx ≠ a.idx :=
  never_survives_general wf_init rfl hno hmode hi hti him hm hmj hj htj

/-- non-vacuity: session instance #0 serves connection 0 twice, the connection is closed, and the calls after that — on
    the same label, on another connection, on a `single` class — are served by #1, #2, #3 -/
example :
    trace fixed (fun k => if k = 0 then ⟨.session, .none⟩ else ⟨.single, .callable⟩) State.init
      [.call 0 0 (.ok false 7), .call 0 0 (.ok true 7), .close 0, .call 0 0 (.ok false 7), .call 1 0 (.ok false 7),
       .call 0 1 (.ok false 7)]
    = [.served ⟨0, false, 7⟩ true false, .served ⟨0, false, 7⟩ false false, .done, .served ⟨1, false, 7⟩ true false,
       .served ⟨2, false, 7⟩ true false, .served ⟨3, false, 7⟩ true true] := by decide +kernel

end Pyro.C09
