/-
  C18 — Thread pool: each connection served once or refused; workers stay bounded.

  Model: PyroModel/Pool.lean (Pool.process / notify_done / close as lists of micro-steps, the
  Worker.run loop statement by statement).  The theorems below are about the *coarse* semantics, in
  which a pool method is one atomic action.  That semantics is the right one exactly when every
  access of `idle` / `busy` / `closed` in the three methods is inside `with self.count_lock:` —
  obligation `C18_gen_shape_ok` on the lock shape that the extractor regenerates from
  svr_threads.py on every run — because then `Lock.atomic` applies (`C18_methods_atomic`).
  All theorems quantify over every pool size `min ≤ max`, every list of actions (any interleaving
  of the accept loop, job endings, `close` calls and worker statements, of any length) and every
  choice `set.pop()` can make.
  The code before the fix took no lock: `C18_race_overlimit` / `C18_race_close` exhibit, on the
  same micro-steps interleaved freely, the schedules that the scheduler exploration finds on the
  real unfixed code (corpus/C18).
-/
import PyroModel.Pool
import PyroProofs.Lock
import PyroProofs.Pool
import PyroProofs.PoolProbe
import PyroProofs.PoolConn
import PyroModel.Gen.C18

namespace Pyro.C18

open Pyro Pyro.Lock Pyro.Pool

/-! ### obligations on facts extracted from the current source -/

/-- **C18_gen_shape_ok.**  In the current source `Pool.process`, `Pool.notify_done` and `Pool.close`
    (with the helper methods of `Pool` they call expanded at the call site) touch `self.idle`, `self.busy`,
    `self.closed` only inside `with self.count_lock:` (0 accesses outside, and they do access them inside);
    while the real methods were executed on every small pool state no access happened without the lock held;
    the lock is a plain `threading.Lock`; nothing inside the lock can block (no join / wait / sleep / acquire,
    lexically or observed); every `join` that `close` performed had a timeout; no other class of the module
    touches the pool's sets, flag, lock or a worker's event; the default sizes satisfy `1 ≤ min ≤ max`. -/
theorem C18_gen_shape_ok :
    (∀ m ∈ Pyro.Gen.C18.poolShape, m.2.2 = 0 ∧ 0 < m.2.1) ∧
    Pyro.Gen.C18.poolShape.map (·.1) = ["process", "notify_done", "close"] ∧
    Pyro.Gen.C18.unlockedAccesses = 0 ∧
    Pyro.Gen.C18.lockKind = "Lock" ∧
    Pyro.Gen.C18.blockingInsideLock = 0 ∧
    Pyro.Gen.C18.untimedJoins = 0 ∧
    Pyro.Gen.C18.foreignAccesses = 0 ∧
    1 ≤ Pyro.Gen.C18.defaultMin ∧ Pyro.Gen.C18.defaultMin ≤ Pyro.Gen.C18.defaultMax := by decide +kernel

/-- **C18_gen_source.**  The sequences of EFFECTS of `Worker.process` and `Worker.run` in the current source —
    effects on the event, the job slot and the pool, in evaluation order, with private helper methods of the
    class expanded in place, loop spelling / locals / helper names / docstrings / hints / log calls ignored —
    are exactly the ones the model's `signal` and `wstep` follow: store the job, then set the event; and
    per loop round wait, clear, read the slot (leave if empty), inside a try that catches Exception read the
    slot and call it, then empty the slot, then `notify_done`.  The ORDER of these effects is the concurrency
    fact (no sequential probe can observe it), so this obligation is about order, not about spelling. -/
theorem C18_gen_source :
    Pyro.Gen.C18.workerProcess = ["slot:=arg0", "set"] ∧
    Pyro.Gen.C18.workerRun =
      ["loop[", "wait", "clear", "read-slot", "exit-if isnone(slot)", "try[", "read-slot", "call-job",
       "]except Exception[", "]", "slot:=None", "notify_done(self)", "]", "pool:=None"] := ⟨rfl, rfl⟩

/-- **C18_gen_behaviour.**  The real `Pool.__init__`, `Pool.process`, `Pool.notify_done` and `Pool.close` were
    *called* (no thread started) on every small pool state — sizes min 1..2, max min..min+1, open / closed,
    0..2 idle and 0..2 busy workers, every worker as argument of `notify_done`, and `process` once more with a
    failing `Thread.start()` — and on every row the model's atomic method (`Pool.call`) has exactly the observed
    effect on `idle`, `busy`, `closed`, every worker's job slot and event, and raises / returns the same; `Pool()`
    builds `min` idle workers after creating the lock and refuses sizes outside `1 ≤ min ≤ max`; a failing
    `Thread.start()` comes out of `process` as RuntimeError and leaves the pool untouched.  How the methods are
    spelled (helpers, early returns, locals, constants) is irrelevant to this obligation. -/
theorem C18_gen_behaviour :
    (Pyro.Gen.C18.initTable.all checkInit = true ∧ Pyro.Gen.C18.initTable.length = 16) ∧
    (Pyro.Gen.C18.processTable.all (checkRow 0) = true ∧ Pyro.Gen.C18.processTable.length = 72) ∧
    (Pyro.Gen.C18.startFailTable.all checkStartFail = true ∧ Pyro.Gen.C18.startFailTable.length = 72) ∧
    (Pyro.Gen.C18.notifyTable.all (checkRow 1) = true ∧ 72 ≤ Pyro.Gen.C18.notifyTable.length) ∧
    (Pyro.Gen.C18.closeTable.all (checkRow 2) = true ∧ Pyro.Gen.C18.closeTable.length = 72) := by
  decide +kernel

/-! ### the pool methods are atomic under every schedule -/

/-- **C18_methods_atomic.**  For every pool state, every collection of concurrent calls of
    `process` / `notify_done` / `close` (by the accept loop, by any number of workers, by whoever
    closes) and every schedule of their micro-steps under `count_lock`: the calls completed so far took
    effect one at a time in lock-release order, each returned (or raised) what the sequential execution
    returns at its position, and nobody else is inside a method body.  The coarse actions `submit`,
    `close` and the last statement of the worker loop are by definition that sequential execution
    (`rfl`), which is what the remaining theorems reason about. -/
theorem C18_methods_atomic (mn mx : Nat) (s0 : St) (calls : List Call) (schedule : List Nat) :
    (let c := Lock.run (Config.init s0 (calls.map (toOp mn mx))) schedule
     Lock.Inv s0 c ∧ Book (calls.map (toOp mn mx)) c) ∧
    (∀ s pick, step mn mx s (.submit pick) = ((toOp mn mx (.process pick)).run s).1) ∧
    (∀ s, step mn mx s .close = ((toOp mn mx .close).run s).1) :=
  ⟨⟨atomic s0 _ schedule, book s0 _ schedule⟩, fun _ _ => rfl, fun _ => rfl⟩

/-! ### workers stay bounded -/

/-- **C18_bounded.**  Under any timing, for all sizes `min ≤ max`: the pool never has more than `max`
    workers (`|idle| + |busy| ≤ THREADPOOL_SIZE`), `idle` and `busy` are sets and disjoint, their
    members are existing workers, and in an open pool a worker thread that is in neither set is on its
    way out: it has been told to exit (empty job slot) and only has to wake up, or has left its loop. -/
theorem C18_bounded (mn mx : Nat) (hm : mn ≤ mx) (acts : List Act) :
    let s := run mn mx (init mn) acts
    s.idle.length + s.busy.length ≤ mx ∧ s.idle.Nodup ∧ s.busy.Nodup ∧ (∀ w, w ∈ s.idle → w ∉ s.busy) ∧
    (∀ w, w ∈ s.idle ∨ w ∈ s.busy → w < s.ws.length) ∧
    (∀ w x, s.ws[w]? = some x → s.closed = false → w ∉ s.idle → w ∉ s.busy →
      x.slot = none ∧ ((x.phase = .waiting ∧ x.ev = true) ∨ x.phase = .woken ∨ x.phase = .cleared ∨ x.phase = .exited)) := by
  intro s
  have h : Inv mx s := inv_run mn mx (init mn) acts (inv_init mn mx hm)
  exact ⟨h.bound, h.idle_nodup, h.busy_nodup, h.disj, fun w hw => hw.elim (h.idle_lt w) (h.busy_lt w),
    fun w x hx hc hi hb => WInv_out hi hb (hc ▸ h.wk w x hx)⟩

/-! ### every job is run once, or refused exactly when the pool is full -/

/-- **C18_once_or_refused.**  Under any timing: every job submitted so far got exactly one answer
    (accepted for one worker, refused with NoFreeWorkersError, or refused because the pool is closed);
    a job's body is entered at most once, only if the job was accepted, and by the worker it was handed
    to; refused jobs never run; a job ends only after it started; and an accepted job that has not
    started yet sits in the slot of its worker, which has not yet reached the call (it is not lost). -/
theorem C18_once_or_refused (mn mx : Nat) (hm : mn ≤ mx) (acts : List Act) :
    let s := run mn mx (init mn) acts
    (∀ j, j < s.nextJob ↔ j ∈ ids s) ∧
    (s.accepted.map (·.1)).Nodup ∧ s.refusedFull.Nodup ∧ s.refusedClosed.Nodup ∧
    (∀ j, (j ∈ s.accepted.map (·.1) → j ∉ s.refusedFull ∧ j ∉ s.refusedClosed) ∧ (j ∈ s.refusedFull → j ∉ s.refusedClosed)) ∧
    s.started.Nodup ∧ (∀ p, p ∈ s.started → p ∈ s.accepted) ∧
    (∀ j w w', (j, w) ∈ s.started → (j, w') ∈ s.started → w = w') ∧
    (∀ j w, (j, w) ∈ s.started → j ∉ s.refusedFull ∧ j ∉ s.refusedClosed) ∧
    (∀ j, j ∈ s.ended → ∃ w, (j, w) ∈ s.started) ∧
    (∀ p, p ∈ s.accepted → p ∈ s.started ∨ ∃ x, s.ws[p.2]? = some x ∧ x.slot = some p.1 ∧ preStart x.phase) := by
  intro s
  have h : Inv mx s := inv_run mn mx (init mn) acts (inv_init mn mx hm)
  refine ⟨fun j => ⟨h.ids_all j, h.ids_lt j⟩, h.acc_nodup, h.rf_nodup, h.rc_nodup, h.excl, h.started_nodup,
    h.started_acc, ?_, ?_, h.ended_started, h.pending⟩
  · intro j w w' h1 h2
    have := inj_of_nodup_map (·.1) s.accepted h.acc_nodup (j, w) (j, w') (h.started_acc _ h1) (h.started_acc _ h2) rfl
    exact (Prod.mk.inj this).2
  · intro j w h1
    have hm' : j ∈ s.accepted.map (·.1) := List.mem_map.mpr ⟨(j, w), h.started_acc _ h1, rfl⟩
    exact (h.excl j).1 hm'

/-- **C18_refused_iff_full.**  In every reachable state, whatever `set.pop()` would choose: the next
    `process(job)` raises NoFreeWorkersError exactly when the pool is open and all `THREADPOOL_SIZE`
    workers are busy; it raises the closed-pool error exactly when the pool is closed; otherwise it
    hands the job over; it never fails in any other way. -/
theorem C18_refused_iff_full (mn mx : Nat) (hm : mn ≤ mx) (acts : List Act) (pick : Nat) :
    let s := run mn mx (init mn) acts
    ((call mn mx (.process pick) s).2 = .noFreeWorkers ↔ (s.closed = false ∧ s.busy.length = mx)) ∧
    ((call mn mx (.process pick) s).2 = .poolClosed ↔ s.closed = true) ∧
    ((call mn mx (.process pick) s).2 = .ok ↔ (s.closed = false ∧ s.busy.length < mx)) ∧
    (call mn mx (.process pick) s).2 ≠ .internalError := by
  intro s
  have h : Inv mx s := inv_run mn mx (init mn) acts (inv_init mn mx hm)
  have hb := h.bound
  cases hc : s.closed with
  | true => rw [call_process_closed mn mx pick s hc]; simp
  | false =>
    cases hi : s.idle with
    | nil =>
      rw [hi] at hb
      simp only [List.length_nil, Nat.zero_add] at hb
      by_cases hlt : s.busy.length < mx
      · rw [call_process_new mn mx pick s hc hi hlt]
        simp [hlt, Nat.ne_of_lt hlt]
      · have heq : s.busy.length = mx := by omega
        rw [call_process_full mn mx pick s hc hi hlt]
        simp [heq]
    | cons a l =>
      have hpos : 0 < s.idle.length := by rw [hi]; simp
      obtain ⟨w, hw⟩ : ∃ w, s.idle[pick % s.idle.length]? = some w :=
        ⟨_, List.getElem?_eq_getElem (Nat.mod_lt _ hpos)⟩
      have hlt : s.busy.length < mx := by omega
      rw [call_process_idle mn mx pick s w hc hw]
      simp [hlt, Nat.ne_of_lt hlt]

/-! ### no lost wake-up -/

/-- **C18_no_lost_wakeup.**  Under any timing, a worker that is blocked in `job_available.wait()` (event
    clear) is an idle worker of an open pool: its slot is empty, it is in `idle`, and every job ever
    handed to it has been started.  So no worker sleeps on a job, and none sleeps in a closed pool. -/
theorem C18_no_lost_wakeup (mn mx : Nat) (hm : mn ≤ mx) (acts : List Act) (w : Wid) (x : Worker) :
    let s := run mn mx (init mn) acts
    s.ws[w]? = some x → x.phase = .waiting → x.ev = false →
      x.slot = none ∧ w ∈ s.idle ∧ s.closed = false ∧ ∀ j, (j, w) ∈ s.accepted → (j, w) ∈ s.started := by
  intro s hx hp he
  have h : Inv mx s := inv_run mn mx (init mn) acts (inv_init mn mx hm)
  have hw := h.wk w x hx
  unfold WInv at hw
  simp only [hp, he] at hw
  -- the two other disjuncts of `.waiting` have the event set
  obtain ⟨_, hs, hi, hc⟩ := hw.resolve_right fun h0 => nomatch h0.elim (·.1) (·.1)
  refine ⟨hs, hi, hc, fun j hj => (h.pending (j, w) hj).resolve_right fun ⟨y, hy, h2, _⟩ => ?_⟩
  cases hx.symm.trans hy
  exact nomatch hs.symm.trans h2

/-- **C18_pending_runs.**  Under any timing, an accepted job that has not started is started by at most
    four further statements of its worker (wake up, clear, test the slot, call) — none of which can
    block: no accepted job is left waiting. -/
theorem C18_pending_runs (mn mx : Nat) (hm : mn ≤ mx) (acts : List Act) (j : Jid) (w : Wid) :
    let s := run mn mx (init mn) acts
    (j, w) ∈ s.accepted → (j, w) ∉ s.started →
      ∃ k, k ≤ 4 ∧ (j, w) ∈ (iter (fun t => wstep mn mx t w) k s).started := by
  intro s hacc hns
  have h : Inv mx s := inv_run mn mx (init mn) acts (inv_init mn mx hm)
  rcases h.pending (j, w) hacc with h1 | ⟨y, hy, hs, hp⟩
  · exact absurd h1 hns
  · simp only at hy hs
    have hw := h.wk w y hy
    rcases hp with hp | hp | hp | hp
    · -- waiting: the event is set
      have he : y.ev = true := by
        unfold WInv at hw
        simp only [hp] at hw
        -- the disjunct with a clear event has an empty slot
        exact hw.elim (fun h0 => nomatch hs.symm.trans h0.2.1) fun h0 => h0.elim (·.1) (·.1)
      refine ⟨4, Nat.le_refl _, ?_⟩
      simp only [iter]
      have e1 := wstep_waiting mn mx s w y hy hp he
      have e2 := wstep_woken mn mx _ w _ e1 rfl
      have e3 := wstep_cleared mn mx _ w _ j e2 rfl hs
      exact wstep_checked mn mx _ w _ j e3 rfl hs
    · refine ⟨3, by omega, ?_⟩
      simp only [iter]
      have e2 := wstep_woken mn mx s w y hy hp
      have e3 := wstep_cleared mn mx _ w _ j e2 rfl hs
      exact wstep_checked mn mx _ w _ j e3 rfl hs
    · refine ⟨2, by omega, ?_⟩
      simp only [iter]
      have e3 := wstep_cleared mn mx s w y j hy hp hs
      exact wstep_checked mn mx _ w _ j e3 rfl hs
    · refine ⟨1, by omega, ?_⟩
      simp only [iter]
      exact wstep_checked mn mx s w y j hy hp hs

/-! ### closing -/

/-- **C18_close.**  `close()` always leaves the pool closed; and from any reachable closed state, under
    any further timing: the pool stays closed, both sets are empty, no further job is handed to a worker
    (the list of accepted jobs never grows again) and every further `process` is refused with the
    closed-pool error. -/
theorem C18_close (mn mx : Nat) (hm : mn ≤ mx) (acts more : List Act) (pick : Nat) :
    let s := run mn mx (init mn) acts
    (step mn mx s .close).closed = true ∧
    (s.closed = true →
      s.idle = [] ∧ s.busy = [] ∧ (run mn mx s more).closed = true ∧ (run mn mx s more).accepted = s.accepted ∧
      (call mn mx (.process pick) s).2 = .poolClosed) := by
  intro s
  have h : Inv mx s := inv_run mn mx (init mn) acts (inv_init mn mx hm)
  constructor
  · simp only [Pool.step]
    cases hc : s.closed with
    | true => rw [call_close_closed mn mx s hc]; exact hc
    | false => rw [call_close_open mn mx s hc]; rfl
  · intro hc
    obtain ⟨h1, h2⟩ := closed_run mn mx s more h hc
    refine ⟨(h.closed_empty hc).1, (h.closed_empty hc).2, h1, h2, ?_⟩
    rw [call_process_closed mn mx pick s hc]

/-- **C18_close_exits.**  From any reachable closed state in which the accepted jobs have been allowed to
    end, and under any further timing (more submissions, more `close` calls, other workers' statements in
    any order): once worker `w` has been scheduled for ten statements its thread has left the loop —
    closing lets every worker exit after its current job, and no worker waits for anything but the end
    of its job. -/
theorem C18_close_exits (mn mx : Nat) (hm : mn ≤ mx) (acts more : List Act) (w : Wid) :
    let s := run mn mx (init mn) acts
    s.closed = true → w < s.ws.length → (∀ p, p ∈ s.accepted → p.1 ∈ s.fin) → 10 ≤ more.count (.wstep w) →
      ∃ x, (run mn mx s more).ws[w]? = some x ∧ x.phase = .exited := by
  intro s hc hw hfin hcnt
  have h : Inv mx s := inv_run mn mx (init mn) acts (inv_init mn mx hm)
  obtain ⟨x, hx⟩ : ∃ x, s.ws[w]? = some x := ⟨_, List.getElem?_eq_getElem hw⟩
  exact close_exits_aux mn mx w more s x h hc hfin hx (Nat.le_trans (rank_le x) hcnt)

/-! ### one connection: served until it ends and then closed, or refused — in bounded time — and closed -/

/-- **C18_gen_conn.**  The real `ClientConnectionJob.__call__`, `denyConnection` and one accept step
    `SocketServer_Threadpool.events()` were RUN on in-memory fakes for every script (handshake ok / refused /
    raising × disconnect hook ok / raising × 0..2 served requests followed by each way a request can end;
    refusing handshake ok / raising; COMMTIMEOUT set or not × pool full or not) and the sequence of effects on the
    connection's socket is on every row exactly the model's (`PoolConn.jobCall / deny / acceptStep`); no exception
    came out of any of them; and whenever the pool was full and COMMTIMEOUT is configured the socket already had
    its timeout when the refusing handshake began to read. -/
theorem C18_gen_conn :
    (Pyro.Gen.C18.connJobTable.all PoolConn.checkJobRow = true ∧ Pyro.Gen.C18.connJobTable.length = 68) ∧
    (Pyro.Gen.C18.connDenyTable.all PoolConn.checkDenyRow = true ∧ Pyro.Gen.C18.connDenyTable.length = 4) ∧
    (Pyro.Gen.C18.acceptTable.all PoolConn.checkAcceptRow = true ∧ Pyro.Gen.C18.acceptTable.length = 8) := by
  decide +kernel

/-- **C18_conn_closed.**  A connection handed to a worker, for every way the handshake, each request and the
    disconnect hook can end (any number of requests): as long as every request is served it is still being served
    and its socket is not closed; as soon as the handshake fails or one request ends in any exception the
    job ends, and then the socket has been closed exactly once, as the very last effect — also when the
    disconnect hook raises — and the hook ran exactly once after a successful handshake.  A refused connection
    (`deny`) is closed right after the refusing handshake, also when that handshake raises.  No accepted
    connection is left open by the server once it stops serving it. -/
theorem C18_conn_closed (hs : PoolConn.Hs) (reqs : List PoolConn.Req) (hookRaises hsRaises : Bool) :
    let p := PoolConn.jobCall hs reqs hookRaises
    (p.2 = true → hs = .ok ∧ (∀ r ∈ reqs, r = .served) ∧ PoolConn.Eff.close ∉ p.1) ∧
    (p.2 = false → p.1.count .close = 1 ∧ p.1.getLast? = some .close ∧
        (hs = .ok → (∃ r ∈ reqs, r ≠ .served) ∧ p.1.count .hook = 1)) ∧
    (p.2 = false ↔ (hs ≠ .ok ∨ ∃ r ∈ reqs, r ≠ .served)) ∧
    PoolConn.deny hsRaises = [.handshakeDenied, .close] := by
  intro p
  cases hs with
  | ok =>
    have hp : p = (PoolConn.Eff.handshake :: (PoolConn.serve hookRaises reqs).1, (PoolConn.serve hookRaises reqs).2) := rfl
    refine ⟨?_, ?_, ?_, rfl⟩
    · intro h; rw [hp] at h ⊢
      obtain ⟨h1, h2⟩ := PoolConn.serve_still hookRaises reqs h
      exact ⟨rfl, h1, by simp only [List.mem_cons, not_or]; exact ⟨by decide, h2⟩⟩
    · intro h; rw [hp] at h ⊢
      obtain ⟨h1, h2, h3, h4⟩ := PoolConn.serve_done hookRaises reqs h
      refine ⟨?_, ?_, fun _ => ⟨h1, ?_⟩⟩
      · simp only [List.count_cons]; rw [h2]; decide
      · show (PoolConn.Eff.handshake :: (PoolConn.serve hookRaises reqs).1).getLast? = _
        rw [List.getLast?_cons, h4]; rfl
      · simp only [List.count_cons]; rw [h3]; decide
    · rw [hp]
      constructor
      · intro h; exact Or.inr (PoolConn.serve_done hookRaises reqs h).1
      · intro h
        rcases h with h | ⟨r, hr, hne⟩
        · exact absurd rfl h
        · cases hst : (PoolConn.serve hookRaises reqs).2 with
          | false => rfl
          | true => exact absurd ((PoolConn.serve_still hookRaises reqs hst).1 r hr) hne
  | refused | raises =>
    have hp : p = ([PoolConn.Eff.handshake, PoolConn.Eff.close], false) := rfl
    rw [hp]
    refine ⟨fun h => ?_, fun _ => ⟨by decide, by decide, fun h => ?_⟩, ?_, rfl⟩
    · exact absurd h (by decide)
    · exact absurd h (by decide)
    · exact ⟨fun _ => Or.inl (by decide), fun _ => rfl⟩

/-- **C18_refusal_bounded.**  One accept step, for every configuration: the connection is either handed to the
    pool or — pool full — refused and closed in the accept loop itself; and when COMMTIMEOUT is configured the
    socket's timeout is set BEFORE the only blocking read the accept loop performs on a client socket (the
    refusing handshake), so a client that never sends its CONNECT message cannot park the accept loop: every later
    connection is still accepted, served or refused. -/
theorem C18_refusal_bounded (commtimeout poolFull hsRaises : Bool) :
    let t := PoolConn.acceptStep commtimeout poolFull hsRaises
    (poolFull = false → t.getLast? = some .handOver ∧ PoolConn.Eff.handshakeDenied ∉ t ∧ PoolConn.Eff.close ∉ t) ∧
    (poolFull = true → t.getLast? = some .close ∧ t.count .close = 1 ∧ t.count .handshakeDenied = 1 ∧ PoolConn.Eff.handOver ∉ t) ∧
    (commtimeout = true → poolFull = true →
      ∃ pre post, t = pre ++ [.handshakeDenied] ++ post ∧ PoolConn.Eff.settimeout ∈ pre) := by
  intro t
  -- `deny` does the same whether or not its handshake raises
  have ht : t = PoolConn.acceptStep commtimeout poolFull false := rfl
  rw [ht]
  refine ⟨?_, ?_, ?_⟩
  · cases commtimeout <;> cases poolFull <;> decide
  · cases commtimeout <;> cases poolFull <;> decide
  · rintro rfl rfl
    exact ⟨[.accept, .settimeout], [.close], rfl, by decide⟩

/-! ### the code before the fix: the same micro-steps with no lock -/

/-- pool of size 1/1 in which worker 0 has run job 0 to its end and is about to call `notify_done` -/
def sNotify : St :=
  run 1 1 (init 1) [.submit 0, .wstep 0, .wstep 0, .wstep 0, .wstep 0, .finish 0, .wstep 0, .wstep 0]

/-- **C18_race_overlimit.**  Without the lock, `THREADPOOL_SIZE = 1`: worker 0 in `notify_done` has removed
    itself from `busy` (schedule entries `1,1,1`) when the accept loop runs `process` (`0 ×7`): `idle` is
    empty and `num_workers()` is 0, so a second worker is created; then worker 0 adds itself to `idle`.
    Result: two workers in a pool limited to one, both calls returned normally. -/
theorem C18_race_overlimit :
    let c := freeRun (Config.init sNotify [toOp 1 1 (.process 0), toOp 1 1 (.notifyDone 0)])
      [1, 1, 1, 0, 0, 0, 0, 0, 0, 0, 1, 1, 1, 1]
    c.shared.idle = [0] ∧ c.shared.busy = [1] ∧ c.shared.ws.length = 2 ∧ c.shared.closed = false ∧
    c.log.map (fun e => (e.1, e.2.2)) = [(0, Res.ok), (1, Res.ok)] ∧
    ¬ (c.shared.idle.length + c.shared.busy.length ≤ 1) := by decide +kernel

/-- the old `close` has signalled the idle worker 0 (4 micro-steps); the worker wakes up, finds no job
    and leaves; only then the accept loop's `process` pops worker 0 from `idle` and hands it job 0 -/
def cCloseRace : Config St Local Res :=
  let c1 := freeRun (Config.init (init 1) [toOp 1 1 .closeOrig, toOp 1 1 (.process 0)]) [0, 0, 0, 0]
  let c2 := { c1 with shared := iter (fun t => wstep 1 1 t 0) 3 c1.shared }
  freeRun c2 [1, 1, 1, 1, 1, 1, 1, 0, 0, 0, 0]

/-- **C18_race_close.**  The `close` of the code before the fix loses accepted jobs.
    (a) No race needed: `process(job 0)` returns normally, then `close()` signals the *busy* worker 0 with
    `None`, overwriting the job it has not picked up yet; the worker wakes up, finds no job and leaves:
    job 0 was accepted and is never run.
    (b) `close` racing with `process` (no lock): the job is handed to a worker that has already been told
    to exit and has left; both calls return normally, job 0 is never run. -/
theorem C18_race_close :
    (let s := iter (fun t => wstep 1 1 t 0) 3 (call 1 1 .closeOrig (step 1 1 (init 1) (.submit 0))).1
     (0, 0) ∈ s.accepted ∧ s.started = [] ∧ s.closed = true ∧ s.ws.map (·.phase) = [.exited]) ∧
    ((0, 0) ∈ cCloseRace.shared.accepted ∧ cCloseRace.shared.started = [] ∧
     cCloseRace.shared.ws.map (·.phase) = [.exited] ∧ cCloseRace.shared.closed = true ∧
     cCloseRace.log.map (fun e => (e.1, e.2.2)) = [(1, Res.ok), (0, Res.ok)]) := by decide +kernel

/-- with the lock-protected `close` of the fixed code the same sequential use keeps the job -/
example :
    let s := iter (fun t => wstep 1 1 t 0) 4 (step 1 1 (step 1 1 (init 1) (.submit 0)) .close)
    (0, 0) ∈ s.started ∧ s.closed = true := by decide +kernel

/-! ### non-vacuity: concrete runs of the coarse semantics -/

-- sizes 1/2: two jobs accepted (second by a new worker), third refused with "no free workers";
-- job 0 ends, worker 0 returns to idle; next job accepted by worker 0; close; every later job refused as closed
example :
    let s := run 1 2 (init 1)
      [.submit 0, .submit 0, .submit 0, .wstep 0, .wstep 0, .wstep 0, .wstep 0, .finish 0, .wstep 0, .wstep 0, .wstep 0,
       .submit 0, .close, .submit 0]
    s.accepted = [(0, 0), (1, 1), (3, 0)] ∧ s.refusedFull = [2] ∧ s.refusedClosed = [4] ∧ s.started = [(0, 0)] ∧
    s.ended = [0] ∧ s.closed = true ∧ s.ws.length = 2 := by decide +kernel

-- sizes 1/2, both workers busy, both jobs end: the first to finish goes back to idle, the second retires
example :
    let s := settle 1 2 14 (run 1 2 (settle 1 2 14 (run 1 2 (init 1) [.submit 0, .submit 0])) [.finish 1, .finish 0])
    s.idle.length = 1 ∧ s.busy = [] ∧ (s.ws.map (·.phase)).count .exited = 1 ∧ s.started.length = 2 := by decide +kernel

-- the hypotheses of C18_close_exits are met by a concrete history: after the job has ended and the
-- pool is closed, ten steps of worker 0 bring it to `exited`
example :
    let s := run 1 1 (init 1) [.submit 0, .finish 0, .close]
    s.closed = true ∧ (∀ p, p ∈ s.accepted → p.1 ∈ s.fin) ∧
    ((run 1 1 s (List.replicate 10 (.wstep 0))).ws.map (·.phase)) = [.exited] := by decide +kernel

end Pyro.C18
