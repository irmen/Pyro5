/- C01: `SerializerBase.recreate_classes` transcribed from the source on every run
   (harness/props/c01_tr.py -> PyroModel/Gen/C01Src.lean) computes exactly the hand-written `recreate`
   of the model, for every serializer and every value; the main theorems restated about the transcription. -/
import PyroModel.Gen.C01Src
import PyroProps.C01

namespace Pyro.C01
open Pyro.Values Pyro.Gen.C01Src

mutual
/-- the transcription of `recreate_classes`, with the model's `dict_to_class` as its collaborator, is the model's `recreate` -/
theorem C01_recreate_classes_translated (s : Ser) : ∀ v : Val, recreateSrc (dictToClass s) v = recreate s v
  | .set xs | .list xs | .tuple xs => by
    simp only [recreateSrc, recreate, recreateSrcItems_eq s xs]
  | .dict kvs => by simp only [recreateSrc, recreate, recreateSrcValues_eq s kvs, classKey, sClass]; rfl
  | .none | .bool _ | .int _ | .float _ | .str _ | .bytes _ | .bytearray _ | .frozenset _ | .complex _ _
  | .uuid _ | .decimal _ | .date _ | .ext _ _ | .inst _ _ => by
    simp only [recreateSrc, recreate]
theorem recreateSrcItems_eq (s : Ser) : ∀ xs : Vals, recreateSrcItems (dictToClass s) xs = recList s xs
  | .nil => by simp only [recreateSrcItems, recList]
  | .cons x xs => by
    simp only [recreateSrcItems, recList, C01_recreate_classes_translated s x, recreateSrcItems_eq s xs]
theorem recreateSrcValues_eq (s : Ser) : ∀ kvs : Pairs, recreateSrcValues (dictToClass s) kvs = recVals s kvs
  | .nil => by simp only [recreateSrcValues, recVals]
  | .cons k v rest => by
    simp only [recreateSrcValues, recVals, C01_recreate_classes_translated s v, recreateSrcValues_eq s rest]
end

/-- the result path with the transcribed `recreate_classes` is the model's result path -/
theorem C01_source_resPath (s : Ser) (v : Val) : resSrc srcCfg s v = resPath s v := by
  cases s <;> simp only [resSrc, resPath, resRT, C01_recreate_classes_translated]

/-- **C01_lossless, about the transcription**: on the lossless core `loads(dumps(v))`, with `recreate_classes` as it is
    written in the source now, delivers exactly `v` under every serializer. -/
theorem C01_source_lossless (s : Ser) (v : Val) (h : lossless v = true) : resSrc srcCfg s v = .ok v :=
  (C01_source_resPath s v).trans (C01_lossless s v h).1

/-- **C01_symmetric, about the transcription**: an argument (positional or keyword) arrives as what the source's
    result path delivers, values and error classes alike. -/
theorem C01_source_symmetric (s : Ser) (v : Val) :
    argPath srcCfg s v = resSrc srcCfg s v ∧ kwPath srcCfg s v = resSrc srcCfg s v := by
  rw [C01_source_resPath]; exact C01_symmetric s v

/-- **C01_idempotent / normal form, about the transcription**: what the source's result path delivers for a Python value
    is a normal form, and sending that again delivers it unchanged. -/
theorem C01_source_idempotent (s : Ser) (v w : Val) (hv : pyval v = true) (h : resSrc srcCfg s v = .ok w) :
    nf s w = true ∧ resSrc srcCfg s w = .ok w := by
  rw [C01_source_resPath] at h
  exact ⟨C01_delivers_normal_form s v w hv h, (C01_source_resPath s w).trans (C01_idempotent s v w hv h).1⟩

/-- non-vacuity: a nan inside a list inside a dict travels as serpent's class dict and is re-created by the transcription -/
example : resSrc srcCfg .serpent (.dict (.cons (.str [107]) (.list (.cons (.float nanBits) .nil)) .nil))
    = .ok (.dict (.cons (.str [107]) (.list (.cons (.float nanBits) .nil)) .nil)) := by decide +kernel

end Pyro.C01
