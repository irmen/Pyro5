/-
  C04 — the transcription of the source (PyroModel/Gen/C04Src.lean, regenerated from Pyro5/serializers.py on every run by
  harness/props/c04_tr.py) computes exactly what the hand-written model (PyroModel/Classes.lean) computes, for all inputs;
  the main C04 theorems restated about the transcription.
-/
import PyroProps.C04
import PyroModel.Gen.C04Src

namespace Pyro.C04

open Pyro.Classes Pyro.Classes.Src Pyro.Gen.C04 Pyro.Gen.C04Src

/-! ### the monad `M` is lawful -/

theorem M_pure_bind {α β : Type} (a : α) (f : α → M β) : (pure a >>= f) = f a := rfl

theorem M_bind_pure {α : Type} (x : M α) : (x >>= pure) = x := by
  rcases x with ⟨r, l⟩
  cases r with
  | error e => rfl
  | ok a =>
    show (Except.ok a, l ++ []) = (Except.ok a, l)
    rw [List.append_nil]

theorem M_bind_assoc {α β γ : Type} (x : M α) (f : α → M β) (g : β → M γ) :
    ((x >>= f) >>= g) = (x >>= fun a => f a >>= g) := by
  show M.bind (M.bind x f) g = M.bind x (fun a => M.bind (f a) g)
  rcases x with ⟨r, l⟩
  cases r with
  | error e => rfl
  | ok a =>
    rcases hfa : f a with ⟨r2, l2⟩
    cases r2 with
    | error e =>
      simp only [M.bind, hfa]
      rfl
    | ok b =>
      simp only [M.bind, hfa, List.append_assoc]
      rfl

theorem M_fail_bind {α β : Type} (e : Err) (f : α → M β) : ((M.fail e : M α) >>= f) = M.fail e := rfl

/-! ### make_exception -/

/-- **C04_makeException_translated.**  The transcription of `SerializerBase.make_exception` applied to an exception class
    computes what the model's `makeException` computes — result and effect log, for every class dict and every outcome of
    the external calls. -/
theorem C04_makeException_translated (E : Env) (q : Str) (ks : List Key) (vs : List Val) :
    makeExceptionSrc E (.exc q) ks vs = makeException E (.exc q) ks vs := by
  unfold makeExceptionSrc makeException
  simp only [kArgs, kAttributes, pyCallStar, hasKey, M_bind_assoc, M_pure_bind]
  congr 1; funext args
  congr 1; funext xs
  congr 1; funext _
  congr 1; funext _
  unfold need
  rcases Option.eq_none_or_eq_some (lookup (cs "attributes") ks vs) with h | ⟨a, h⟩ <;> simp only [h]
  · rfl
  · cases a with
    | dict aks avs => rfl
    | _ => rfl

/-! ### recreate_classes -/

theorem mapMV_recreate (E : Env) (ser : Ser) (fuel : Nat) :
    ∀ xs, mapMV (recreate E ser fuel) xs = recreateList E ser fuel xs
  | [] => rfl
  | x :: xs => by
    simp only [mapMV, recreateList, mapMV_recreate E ser fuel xs]

/-- One step of the transcribed `recreate_classes` is the model's `recreate` at a value `v`, provided the recursive call
    `rc` agrees with the model on the lists less deep than `v` (all that the step calls it on; an induction on depth can
    supply exactly this). -/
theorem recreateSrc_eq (E : Env) (ser : Ser) (fuel : Nat) {rc : Val → M Val} (v : Val)
    (h : ∀ xs, depthList xs < depth v → mapMV rc xs = recreateList E ser fuel xs) :
    recreateSrc rc (dictEntry E ser fuel) v = recreate E ser fuel v := by
  cases v with
  | set xs | list xs | tuple xs => rw [recreate, ← h xs (Nat.lt_succ_self _)]; rfl
  | dict ks vs => rw [recreate, ← h vs (Nat.lt_succ_self _)]; rfl
  | _ => rfl

/-- **C04_recreate_translated.**  The model's `recreate` satisfies the transcribed defining equation of
    `SerializerBase.recreate_classes` (recursive call = `recreate` itself, `self.dict_to_class` = `dictEntry`) on every
    value: result and effect log. -/
theorem C04_recreate_translated (E : Env) (ser : Ser) (fuel : Nat) (v : Val) :
    recreateSrc (recreate E ser fuel) (dictEntry E ser fuel) v = recreate E ser fuel v :=
  recreateSrc_eq E ser fuel v fun xs _ => mapMV_recreate E ser fuel xs

/-- Stated for a family `F` so that a solution of the equation (`fun _ => f`) and `recreateFix` are both instances. -/
theorem recreate_of_unfolding (E : Env) (ser : Ser) (fuel : Nat) (F : Nat → Val → M Val)
    (hF : ∀ k v, F (k + 1) v = recreateSrc (F k) (dictEntry E ser fuel) v) :
    ∀ k v, depth v < k → F k v = recreate E ser fuel v
  | 0, _, hd => absurd hd (Nat.not_lt_zero _)
  | k + 1, v, hd => by
    have hlist : ∀ xs, depthList xs < k → mapMV (F k) xs = recreateList E ser fuel xs := by
      intro xs
      induction xs with
      | nil => intro _; rfl
      | cons x xs ih =>
        intro hdl
        simp only [depthList, Nat.max_lt] at hdl
        simp only [mapMV, recreateList, recreate_of_unfolding E ser fuel F hF k x hdl.1, ih hdl.2]
    rw [hF]
    exact recreateSrc_eq E ser fuel v fun xs hxs => hlist xs (Nat.lt_of_lt_of_le hxs (Nat.le_of_lt_succ hd))

/-- **C04_recreate_unique.**  Every function that satisfies the transcribed equation of `recreate_classes` IS the model's
    `recreate` (the equation has exactly one solution on finite trees): whatever the Python function computes when it
    terminates, the model computes. -/
theorem C04_recreate_unique (E : Env) (ser : Ser) (fuel : Nat) (f : Val → M Val)
    (hf : ∀ v, f v = recreateSrc f (dictEntry E ser fuel) v) : ∀ v, f v = recreate E ser fuel v :=
  fun v => recreate_of_unfolding E ser fuel (fun _ => f) (fun _ => hf) (depth v + 1) v (Nat.lt_succ_self _)

theorem recreateList_unique (E : Env) (ser : Ser) (fuel : Nat) (f : Val → M Val)
    (hf : ∀ v, f v = recreateSrc f (dictEntry E ser fuel) v) : ∀ xs, mapMV f xs = recreateList E ser fuel xs := by
  rw [funext (C04_recreate_unique E ser fuel f hf)]
  exact mapMV_recreate E ser fuel

/-! ### dict_to_class -/

theorem isInfixB_iff (needle : Str) : ∀ s : Str, isInfixB needle s = true ↔ needle <:+: s
  | [] => by rw [isInfixB, List.isEmpty_iff, List.infix_nil]
  | c :: rest => by
    rw [isInfixB, Bool.or_eq_true, List.isPrefixOf_iff_prefix, isInfixB_iff needle rest, List.infix_cons_iff]

theorem isInfixB_dunder (s : Str) : isInfixB (cs "__") s = hasDunder s :=
  Bool.eq_iff_iff.mpr ((isInfixB_iff _ s).trans (hasDunder_iff s).symm)

theorem splitAt1_dot : ∀ s : Str, splitAt1 '.' s = splitDot s
  | [] => rfl
  | c :: rest => by
    unfold splitAt1 splitDot
    rw [splitAt1_dot rest]
    rfl

/-- One rung of the decision list: the transcription binds a computed Boolean and tests it, the model tests the
    proposition the Boolean decides. -/
theorem rung {α : Type} {c : Prop} [Decidable c] {x : M Bool} {a a' b b' : M α} (hx : x = pure (decide c))
    (ha : c → a = a') (hb : ¬ c → b = b') :
    (x >>= fun t => if t = true then a else b) = if c then a' else b' := by
  subst hx
  exact ite_congr decide_eq_true_eq ha hb

theorem rungEq {α : Type} {cn s : Str} {a a' b b' : M α} (ha : cn = s → a = a') (hb : cn ≠ s → b = b') :
    (if pyEqStr (.str cn) s = true then a else b) = if cn = s then a' else b' :=
  rung (x := pure _) rfl ha hb

theorem pyStrIn_dunder (cn : Str) : pyStrIn (cs "__") (.str cn) = pure (decide (hasDunder cn = true)) := by
  rw [Bool.decide_eq_true, ← isInfixB_dunder]; rfl

theorem pyStartsWith_str (cn pre : Str) : pyStartsWith (.str cn) pre = pure (decide (startsWith cn pre = true)) := by
  rw [Bool.decide_eq_true]; rfl

theorem resolve_eq (E : Env) (m : ModId) (name : Str) (ks : List Key) (vs : List Val) :
    (do let k ← pyGetattr m name
        let b ← pyIssubclass k
        if b = true then makeExceptionSrc E k ks vs
        else do
          pyLog
          M.fail Err.serialize) = resolveExc E (modName m) (modTable m) name ks vs := by
  unfold pyGetattr resolveExc
  simp only [M_bind_assoc]
  congr 1; funext _
  cases assoc name (modTable m) with
  | none => rfl
  | some k =>
    cases k with
    | exc q => exact C04_makeException_translated E q ks vs
    | cls => rfl
    | other => rfl

theorem flag_eq (ks : List Key) (vs : List Val) :
    truthy (dGet ks vs (cs "__exception__") (.atom false "False")) = excFlag ks vs := by
  unfold dGet excFlag
  show truthy (match lookup kExcFlag ks vs with | some v => v | none => _) = _
  cases lookup kExcFlag ks vs <;> rfl

theorem split_errors (cn : Str) (h : startsWith cn (cs "Pyro5.errors.") = true) :
    pySplitIdx (.str cn) '.' 2 2 = pure (cn.drop (cs "Pyro5.errors.").length) := by
  have he := startsWith_eq h
  generalize cn.drop (cs "Pyro5.errors.").length = rest at he ⊢
  subst he
  rw [show cs "Pyro5.errors." = ['P','y','r','o','5','.','e','r','r','o','r','s','.'] from String.toList_ofList]
  rfl

theorem pySplit2_dot (cn : Str) :
    pySplit2 (.str cn) '.' 1 = match splitDot cn with | none => M.fail .value | some p => pure p := by
  simp only [pySplit2, splitN, splitAt1_dot]
  cases splitDot cn with
  | none => rfl
  | some p => rfl

/-- `ex = SerializerBase.dict_to_class(ex)` under its `isinstance(ex, dict) and "__class__" in ex` guard -/
theorem wrapped_eq (self : List Key → List Val → M Val) (ex : Val) :
    (if (pyIsDict ex && pyHasKeyV (cs "__class__") ex) = true then pyCallDict self ex else pure ex) =
    match ex with
    | .dict ks' vs' => if hasKey kClass ks' vs' then self ks' vs' else pure ex
    | _ => pure ex := by
  cases ex <;> rfl

/-- the transcription agrees with the model whenever the tag is (or decodes to) the text `cn` -/
theorem dtc_core (E : Env) (fuel : Nat) (ks : List Key) (vs : List Val) (cn : Str) (v : Val)
    (hd : dGet ks vs (cs "__class__") (.str (cs "<unknown>")) = v)
    (hdec : (if pyIsBytes v = true then pyDecodeUtf8 v else pure v) = (pure (.str cn) : M Val))
    (ht : tagOf ks vs = .ok cn) :
    dictToClassSrc E (dictToClass E fuel) ks vs = dictToClass E (fuel + 1) ks vs := by
  unfold dictToClassSrc
  rw [dictToClass]
  simp only [ht, hd, flag_eq]
  rw [hdec, M_pure_bind]
  refine rung rfl (fun _ => rfl) fun _ => ?_                         -- registered converter
  refine rung (pyStrIn_dunder cn) (fun _ => rfl) fun _ => ?_         -- double underscore
  refine rungEq (fun _ => rfl) fun _ => ?_                           -- URI
  refine rungEq (fun _ => rfl) fun _ => ?_                           -- Proxy
  refine rungEq (fun _ => rfl) fun _ => ?_                           -- Daemon
  refine rung (pyStartsWith_str cn _) (fun _ => ?_) fun _ => ?_      -- Pyro5.util.
  · refine rungEq (fun _ => rfl) fun _ => ?_
    refine rungEq (fun _ => rfl) fun _ => ?_
    refine rungEq (fun _ => rfl) fun _ => ?_
    exact rungEq (fun _ => rfl) fun _ => rfl
  refine rung (pyStartsWith_str cn _) (fun h => ?_) fun _ => ?_      -- Pyro5.errors.
  · rw [split_errors cn h, M_pure_bind]
    exact resolve_eq E .errors _ ks vs
  refine rungEq (fun _ => C04_makeException_translated E _ ks vs) fun _ => ?_    -- struct.error
  refine rungEq (fun _ => ?_) fun _ => ?_                            -- _ExceptionWrapper
  · congr 1; funext ex
    rw [wrapped_eq]; rfl
  refine ite_congr rfl (fun _ => ?_) fun _ => rfl                    -- `__exception__` flag
  simp only [pyInAllExc, pyAllExcGet]
  rcases Option.eq_none_or_eq_some (assoc cn allExceptions) with hall | ⟨q, hall⟩ <;> simp only [hall]
  · -- not a name of `all_exceptions`: split at the first dot
    show (pySplit2 (.str cn) '.' 1 >>= _) = _
    rw [pySplit2_dot]
    cases splitDot cn with
    | none => rfl
    | some p =>
      simp only [M_pure_bind, Bool.or_eq_true, Bool.and_eq_true, decide_eq_true_eq]
      refine ite_congr rfl (fun _ => resolve_eq E .builtins p.2 ks vs) fun _ => ?_
      refine ite_congr rfl (fun _ => ?_) fun _ => rfl
      exact congrArg (pyImport (cs "sqlite3") >>= ·) (funext fun _ => resolve_eq E .sqlite3 p.2 ks vs)
  · -- a name of `all_exceptions`
    exact C04_makeException_translated E q ks vs

theorem dictToClass_error {E : Env} {fuel : Nat} {ks : List Key} {vs : List Val} {e : Err}
    (h : tagOf ks vs = .error e) : dictToClass E (fuel + 1) ks vs = M.fail e := by
  rw [dictToClass, h]

/-- **C04_dictToClass_translated.**  The transcription of `SerializerBase.dict_to_class` (recursive call = the model at the
    remaining budget) computes exactly what the model's `dictToClass` computes — result and effect log — for every class
    dict (any tag value: absent, text, bytes with valid or invalid UTF-8, numbers, containers, opaque leaves; any members),
    every registry and every outcome of the external calls. -/
theorem C04_dictToClass_translated (E : Env) (fuel : Nat) (ks : List Key) (vs : List Val) :
    dictToClassSrc E (dictToClass E fuel) ks vs = dictToClass E (fuel + 1) ks vs := by
  rcases Option.eq_none_or_eq_some (lookup (cs "__class__") ks vs) with hl | ⟨v, hl⟩
  · have hl2 : lookup kClass ks vs = none := hl
    exact dtc_core E fuel ks vs tUnknown _ (by rw [dGet, hl]) rfl (by rw [tagOf, hl2])
  · have hl2 : lookup kClass ks vs = some v := hl
    have hd : dGet ks vs (cs "__class__") (.str (cs "<unknown>")) = v := by rw [dGet, hl]
    cases v with
    | str cn => exact dtc_core E fuel ks vs cn _ hd rfl (by rw [tagOf, hl2])
    | bytes b =>
      rcases Option.eq_none_or_eq_some (utf8Decode b) with hu | ⟨cn, hu⟩
      · rw [dictToClass_error (e := .value) (by simp only [tagOf, hl2, hu]), dictToClassSrc, hd]
        simp only [pyIsBytes, pyDecodeUtf8, hu]
        rfl
      · exact dtc_core E fuel ks vs cn _ hd (by simp only [pyIsBytes, pyDecodeUtf8, hu]; rfl)
          (by simp only [tagOf, hl2, hu])
    | tuple xs =>
      rw [dictToClass_error (by rw [tagOf, hl2]), dictToClassSrc, hd]
      simp only [pyIsBytes, Bool.false_eq_true, ↓reduceIte, M_pure_bind, pyInRegistry, pyStrIn]
      -- an unhashable tuple fails at the registry look-up, a hashable one at `.startswith` or at the `+` of the
      -- refusal message, whatever the `"__" in` test said: a TypeError / AttributeError in all four cases
      generalize hashableListB xs = hashable
      generalize xs.any (strEqB (cs "__")) = dunder
      cases hashable <;> cases dunder <;> rfl
    | blob _ _ | inst _ _ => rw [dictToClass_error (e := .unmodelled) (by rw [tagOf, hl2]), dictToClassSrc, hd]; rfl
    | _ => rw [dictToClass_error (e := .typeAttr) (by rw [tagOf, hl2]), dictToClassSrc, hd]; rfl

/-! ### the transcription with its recursive call unfolded, and the property theorems restated about it -/

/-- **C04_dictToClassFix_translated.**  The transcribed `dict_to_class`, with its recursive call unfolded any number of
    times, is the model's `dictToClass` at that budget. -/
theorem C04_dictToClassFix_translated (E : Env) : ∀ n, dictToClassFix E n = dictToClass E n
  | 0 => by
    funext ks vs
    rfl
  | n + 1 => by
    funext ks vs
    rw [dictToClassFix, C04_dictToClassFix_translated E n]
    exact C04_dictToClass_translated E n ks vs

/-- **C04_source_dunder.**  The transcribed `dict_to_class` refuses every class dict whose tag (text, or bytes decoding
    to text) contains a double underscore and has no registered converter with SecurityError, before any effect. -/
theorem C04_source_dunder (E : Env) (n : Nat) (ks : List Key) (vs : List Val) (tag : Str)
    (ht : tagOf ks vs = .ok tag) (hr : tag ∉ E.reg) (hd : ['_', '_'] <:+: tag) :
    dictToClassFix E (n + 1) ks vs = (.error .security, []) := by
  rw [C04_dictToClassFix_translated]
  exact C04_dunder E n ks vs tag ht hr hd

/-- **C04_source_unknown.**  The transcribed `dict_to_class` returns a value only for a tag with a registered converter or
    a dunder-free tag of the closed set; every other tag ends in an error. -/
theorem C04_source_unknown (E : Env) (n : Nat) (ks : List Key) (vs : List Val) (w : Val) (log : List Effect)
    (h : dictToClassFix E n ks vs = (.ok w, log)) :
    ∃ tag, tagOf ks vs = .ok tag ∧ (tag ∈ E.reg ∨ (hasDunder tag = false ∧ KnownTag (excFlag ks vs) tag)) := by
  rw [C04_dictToClassFix_translated] at h
  exact C04_unknown E n ks vs w log h

/-- **C04_source_closed.**  Closed world, stated about the source: ANY function satisfying the transcribed defining
    equation of `recreate_classes` (with `self.dict_to_class` = the serializer's entry over the transcribed
    `dict_to_class`) maps a value whose instances are of the closed set — in particular every literal tree, however
    nested — to a value all of whose instances are of the closed set, whenever it returns. -/
theorem C04_source_closed (E : Env) (ser : Ser) (n : Nat) (f : Val → M Val)
    (hf : ∀ v, f v = recreateSrc f (dictEntry E ser n) v) (v w : Val) (log : List Effect)
    (hv : Closed E.reg v) (h : f v = (.ok w, log)) : Closed E.reg w := by
  rw [C04_recreate_unique E ser n f hf v] at h
  exact C04_closed E ser n v w log hv h

/-- **C04_source_effects.**  … and everything it does besides building data is an allowed effect. -/
theorem C04_source_effects (E : Env) (ser : Ser) (n : Nat) (f : Val → M Val)
    (hf : ∀ v, f v = recreateSrc f (dictEntry E ser n) v) (v : Val) (hv : Closed E.reg v) :
    ∀ e ∈ (f v).2, Allowed E.reg e := by
  rw [C04_recreate_unique E ser n f hf v]
  exact C04_effects E ser n v hv

/-- **C04_source_closed_fix.**  The transcribed `recreate_classes` unfolded `k` times agrees with the model on every
    value less deep than `k` (`recreate_of_unfolding`) — the unfolding computes nothing the model does not — so it maps
    such a value with instances of the closed set only to a value with instances of the closed set only. -/
theorem C04_source_closed_fix (E : Env) (ser : Ser) (n k : Nat) (v w : Val) (log : List Effect)
    (hv : Closed E.reg v) (hk : depth v < k)
    (h : recreateFix (dictEntry E ser n) k v = (.ok w, log)) : Closed E.reg w := by
  rw [recreate_of_unfolding E ser n (recreateFix (dictEntry E ser n)) (fun _ _ => rfl) k v hk] at h
  exact C04_closed E ser n v w log hv h

/-! ### non-vacuity: the TRANSCRIPTION (not the model) decodes a plain payload into real instances of the closed set with a
    non-empty effect log, satisfies its own equation's hypothesis there, and refuses unknown / dunder tags -/

example : okClosedNotPlain [] (recreateFix (dictToClassFix E0 9) 9 vGood) = true
    ∧ (recreateFix (dictToClassFix E0 9) 9 vGood).2 ≠ []
    ∧ depth vGood < 9
    ∧ failsWith (dictToClassFix E0 3 [.str kClass] [.str (cs "os.system")]) .serialize = true
    ∧ failsWith (dictToClassFix E0 3 [.str kClass] [.bytes [0x61, 0x5f, 0x5f, 0x62]]) .security = true
    ∧ failsWith (dictToClassFix E0 3 [.str kClass] [.tuple [.str (cs "__")]]) .typeAttr = true := by
  decide +kernel

end Pyro.C04
