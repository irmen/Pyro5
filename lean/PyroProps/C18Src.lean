/-
  C18Src — the transcription of `Pool.process`, `Pool.notify_done`, `Pool.close` that harness/props/c18_tr.py
  regenerates from Pyro5/svr_threads.py on every run (PyroModel/Gen/C18Src.lean, vocabulary PyroModel/PoolSrc.lean)
  computes, FOR EVERY pool state (reachable or not), every `pick`, every size, exactly what the hand-written
  micro-step bodies of PyroModel/Pool.lean compute when run atomically (`Pool.call`) — theorems `C18_*_translated`.
  Consequently the coarse semantics with the pool methods taken from the source (`PoolSrc.runSrc Gen.C18Src.impl`)
  IS `Pool.run` (`C18_source_run`), and the main theorems are restated about it (`C18_source_*`).
  The lock discipline of the same three functions is discharged from generated lock skeletons with the shared
  checker `LockSkeleton.allLocked` + `allLocked_sound` (`C18_source_locked`).
-/
import PyroModel.PoolSrc
import PyroModel.LockSkeleton
import PyroModel.Gen.C18Src
import PyroProofs.Pool
import PyroProps.C18

namespace Pyro.C18

open Pyro Pyro.Pool Pyro.PoolSrc Pyro.Gen.C18Src

set_option linter.unusedSimpArgs false
set_option linter.unusedVariables false

-- the transcription vocabulary: every combinator is one update of `St` followed by the rest of the method
attribute [local simp] acquire release ifc ret raiseClosed raiseNoFree enterProcess popIdle newWorker startW busyAdd
  idleAdd busyDiscard handJob tellExit tellExitAll setClosed swapIdle swapBusy sleepStep joinAllTimed

/-- **C18_process_translated.**  For every pool state, `THREADPOOL_SIZE`, and choice of `set.pop()`: the
    transcription of the source's `Pool.process` returns / raises the same and leaves the same state (sets, flag,
    every worker's slot and event, ghost logs) as the model's `procBody` run atomically. -/
theorem C18_process_translated (mn mx pick : Nat) (s : St) :
    processSrc mx pick s = call mn mx (.process pick) s := by
  cases hc : s.closed with
  | true =>
    rw [call_process_closed mn mx pick s hc]
    simp [processSrc, hc]
  | false =>
    cases hi : s.idle with
    | nil =>
      by_cases hlt : s.busy.length < mx
      · rw [call_process_new mn mx pick s hc hi hlt]
        simp [processSrc, hc, hi, hlt, St.signal, St.setW]
      · rw [call_process_full mn mx pick s hc hi hlt]
        simp [processSrc, hc, hi, hlt]
    | cons a l =>
      have hpos : 0 < s.idle.length := by rw [hi]; simp
      obtain ⟨w, hw⟩ : ∃ w, s.idle[pick % s.idle.length]? = some w :=
        ⟨_, List.getElem?_eq_getElem (Nat.mod_lt _ hpos)⟩
      rw [call_process_idle mn mx pick s w hc hw]
      have hne : s.idle.isEmpty = false := by rw [hi]; rfl
      simp [processSrc, hc, hne, hw, St.signal, St.setW]

/-- **C18_notify_translated.**  For every pool state, `THREADPOOL_SIZE_MIN` and worker (also one that is not in
    `busy`, also in a closed pool): the transcription of `Pool.notify_done` = the model's `notifyBody` run atomically. -/
theorem C18_notify_translated (mn mx : Nat) (w : Wid) (s : St) :
    notifySrc mn w s = call mn mx (.notifyDone w) s := by
  rw [call_notify]
  by_cases hc : s.closed = true <;> by_cases hge : mn ≤ s.idle.length <;>
    simp [notifySrc, hc, hge]

/-- **C18_close_translated.**  For every pool state: the transcription of `Pool.close` (the locked part, then the
    sleep and the timed joins over the two local snapshots) = the model's `closeBody` run atomically. -/
theorem C18_close_translated (mn mx : Nat) (s : St) :
    closeSrc s = call mn mx .close s := by
  cases hc : s.closed with
  | true => rw [call_close_closed mn mx s hc]; simp [closeSrc, hc]
  | false =>
    rw [call_close_open mn mx s hc]
    simp [closeSrc, hc, St.signalAll]

/-! ### the coarse semantics with the methods taken from the source is the model's -/

theorem wstepSrc_eq (mn mx : Nat) (s : St) (w : Wid) : wstepSrc impl mn mx s w = wstep mn mx s w := by
  unfold wstepSrc wstep
  cases hx : s.ws[w]? with
  | none => rfl
  | some x =>
    simp only []
    by_cases hp : x.phase = .notifying
    · rw [if_pos hp]; simp only [hp, impl]; rw [C18_notify_translated mn mx]
    · rw [if_neg hp]

theorem stepSrc_eq (mn mx : Nat) (s : St) (a : Act) : stepSrc impl mn mx s a = step mn mx s a := by
  cases a with
  | submit pick => simp only [stepSrc, step, impl]; rw [C18_process_translated mn mx]
  | finish j => rfl
  | wstep w => simp only [stepSrc, step]; exact wstepSrc_eq mn mx s w
  | close => simp only [stepSrc, step, impl]; rw [C18_close_translated mn mx]

/-- **C18_source_run.**  Any history (any interleaving of submissions, job endings, worker statements and closes,
    of any length, from any state) executed with the pool methods AS TRANSCRIBED FROM THE SOURCE reaches exactly
    the state the model reaches. -/
theorem C18_source_run (mn mx : Nat) (s : St) (acts : List Act) :
    runSrc impl mn mx s acts = run mn mx s acts := by
  unfold runSrc run
  induction acts generalizing s with
  | nil => rfl
  | cons a rest ih => simp only [List.foldl_cons]; rw [stepSrc_eq]; exact ih _

/-! ### the main theorems restated about the transcription -/

/-- **C18_source_bounded.**  `C18_bounded` about the source's methods: under any timing the transcribed pool never
    has more than `THREADPOOL_SIZE` workers in `idle ∪ busy`, the two are duplicate-free and disjoint. -/
theorem C18_source_bounded (mn mx : Nat) (hm : mn ≤ mx) (acts : List Act) :
    let s := runSrc impl mn mx (init mn) acts
    s.idle.length + s.busy.length ≤ mx ∧ s.idle.Nodup ∧ s.busy.Nodup ∧ (∀ w, w ∈ s.idle → w ∉ s.busy) ∧
    (∀ w, w ∈ s.idle ∨ w ∈ s.busy → w < s.ws.length) := by
  intro s
  have h := C18_bounded mn mx hm acts
  simp only [s, C18_source_run]
  exact ⟨h.1, h.2.1, h.2.2.1, h.2.2.2.1, h.2.2.2.2.1⟩

/-- **C18_source_refused_iff_full.**  In every state reachable with the source's methods, the source's `process`
    raises NoFreeWorkersError iff the pool is open and all `THREADPOOL_SIZE` workers are busy, the closed-pool error
    iff the pool is closed, hands the job over iff open and `|busy| < THREADPOOL_SIZE`, and never fails otherwise. -/
theorem C18_source_refused_iff_full (mn mx : Nat) (hm : mn ≤ mx) (acts : List Act) (pick : Nat) :
    let s := runSrc impl mn mx (init mn) acts
    ((processSrc mx pick s).2 = .noFreeWorkers ↔ (s.closed = false ∧ s.busy.length = mx)) ∧
    ((processSrc mx pick s).2 = .poolClosed ↔ s.closed = true) ∧
    ((processSrc mx pick s).2 = .ok ↔ (s.closed = false ∧ s.busy.length < mx)) ∧
    (processSrc mx pick s).2 ≠ .internalError := by
  intro s
  simp only [s, C18_source_run, C18_process_translated mn mx]
  exact C18_refused_iff_full mn mx hm acts pick

/-- **C18_source_once_or_refused.**  `C18_once_or_refused` about the source's methods: every submitted job got exactly
    one answer; a job is started at most once, only if accepted, by the worker it was handed to; refused jobs never
    run; an accepted job that has not started sits in its worker's slot before the call. -/
theorem C18_source_once_or_refused (mn mx : Nat) (hm : mn ≤ mx) (acts : List Act) :
    let s := runSrc impl mn mx (init mn) acts
    (∀ j, j < s.nextJob ↔ j ∈ ids s) ∧
    (s.accepted.map (·.1)).Nodup ∧ s.refusedFull.Nodup ∧ s.refusedClosed.Nodup ∧
    (∀ j, (j ∈ s.accepted.map (·.1) → j ∉ s.refusedFull ∧ j ∉ s.refusedClosed) ∧ (j ∈ s.refusedFull → j ∉ s.refusedClosed)) ∧
    s.started.Nodup ∧ (∀ p, p ∈ s.started → p ∈ s.accepted) ∧
    (∀ j w w', (j, w) ∈ s.started → (j, w') ∈ s.started → w = w') ∧
    (∀ j w, (j, w) ∈ s.started → j ∉ s.refusedFull ∧ j ∉ s.refusedClosed) ∧
    (∀ j, j ∈ s.ended → ∃ w, (j, w) ∈ s.started) ∧
    (∀ p, p ∈ s.accepted → p ∈ s.started ∨ ∃ x, s.ws[p.2]? = some x ∧ x.slot = some p.1 ∧ preStart x.phase) := by
  intro s
  simp only [s, C18_source_run]
  exact C18_once_or_refused mn mx hm acts

/-- **C18_source_close.**  After the source's `close()` (from any reachable state, followed by any further history
    with the source's methods) the pool is closed and stays closed, both sets are empty, nothing more is accepted, and
    the source's `process` refuses with the closed-pool error. -/
theorem C18_source_close (mn mx : Nat) (hm : mn ≤ mx) (acts more : List Act) (pick : Nat) :
    let s1 := (closeSrc (runSrc impl mn mx (init mn) acts)).1
    let s2 := runSrc impl mn mx s1 more
    s1.closed = true ∧ s2.closed = true ∧ s2.idle = [] ∧ s2.busy = [] ∧ s2.accepted = s1.accepted ∧
    (processSrc mx pick s2).2 = .poolClosed := by
  intro s1 s2
  simp only [s2, s1, C18_source_run, C18_close_translated mn mx, C18_process_translated mn mx]
  have h := inv_close mn mx _ (inv_run mn mx (init mn) acts (inv_init mn mx hm))
  have hc := (C18_close mn mx hm acts [] pick).1
  obtain ⟨h1, h2⟩ := closed_run mn mx _ more h hc
  obtain ⟨hi, hb⟩ := (inv_run mn mx _ more h).closed_empty h1
  exact ⟨hc, h1, hi, hb, h2, by rw [call_process_closed mn mx pick _ h1]⟩

/-! ### lock discipline of the same three functions, from the source -/

/-- the skeleton mentions the protected data at all (so the claim below is not about an empty skeleton) -/
def hasAccess : LockSkeleton.Sk → Bool
  | .access => true
  | .seq a b => hasAccess a || hasAccess b
  | .locked b => hasAccess b
  | .alt a b => hasAccess a || hasAccess b
  | .star b => hasAccess b
  | _ => false

/-- **C18_source_locked.**  In the current source, in EVERY possible execution of `Pool.process`, `Pool.notify_done`
    and `Pool.close` (either side of every `if`, any number of loop rounds, helper methods of the class followed), every
    access of `self.idle` / `self.busy` / `self.closed` happens while `count_lock` is held — the premise under which
    `Lock.atomic` (`C18_methods_atomic`) makes the sequential reading of the three transcriptions the right one;
    and each of the three does access that data (inside the lock). -/
theorem C18_source_locked :
    (∀ sk ∈ [processSk, notifySk, closeSk], ∀ t, LockSkeleton.Exec sk 0 t → ∀ e ∈ t, 0 < e) ∧
    (∀ sk ∈ [processSk, notifySk, closeSk], hasAccess sk = true) := by
  refine ⟨?_, by decide⟩
  intro sk hsk t ht
  have hall : ∀ sk ∈ [processSk, notifySk, closeSk], LockSkeleton.allLocked sk 0 = true := by decide
  exact LockSkeleton.allLocked_sound ht (hall sk hsk)

end Pyro.C18
