/-
C07 — the transcriptions of the source (PyroModel/Gen/C07Src.lean, regenerated on every run by
harness/props/c07_tr.py) compute exactly what the hand-written model functions compute, for all inputs; and the
content statements of the property restated about the transcriptions.
-/
import PyroProofs.Exceptions
import PyroModel.Gen.C07Src

namespace Pyro.C07

open Pyro.Exceptions
open Pyro.Gen.C07Src

/-- the attribute the sender's conversion resets (`if hasattr(obj, "_pyroDaemon"): obj._pyroDaemon = None`) -/
def kPyroDaemon : Str := cs "_pyroDaemon"

theorem cs_args : cs "args" = kArgs := String.toList_ofList
theorem cs_attributes : cs "attributes" = kAttributes := String.toList_ofList
theorem cs_class : cs "__class__" = kClass := String.toList_ofList
theorem cs_exception : cs "__exception__" = kException := String.toList_ofList
theorem cs_wrapped : cs "exception" = kWrapped := String.toList_ofList

theorem foldl_setattr (kv : Dict) (e : Exc) :
    kv.foldl (fun acc p => Src.setattr acc p.1 p.2) e = { e with attrs := setAttrs e.attrs kv } := by
  induction kv generalizing e with
  | nil => rfl
  | cons p rest ih =>
    obtain ⟨k, v⟩ := p
    simp only [List.foldl_cons, setAttrs]
    rw [ih]
    rfl

/-- **`make_exception` as written in the source = the model's `makeException`**, for every class name and every data
    dict (missing `args`, args that are no sequence, a constructor that raises or answers with another class,
    missing / non-dict `attributes` included). -/
theorem C07_make_exception_translated (K : ClientEnv) (q : Str) (data : Dict) :
    makeExceptionSrc K q (.dict data) = makeException K q data := by
  unfold makeExceptionSrc makeException
  simp only [cs_args, cs_attributes, Src.getitem, Src.contains]
  cases h1 : lookup kArgs data with
  | none => rfl
  | some a =>
    cases a with
    | list xs | tuple xs =>
      cases h3 : K.ctor q xs with
      | error x => simp only [Src.construct, h3, bind, Except.bind]
      | ok p =>
        obtain ⟨q', args'⟩ := p
        simp only [Src.construct, h3, bind, Except.bind, pure, Except.pure]
        cases h2 : lookup kAttributes data with
        | none => rfl
        | some at' =>
          cases at' with
          | dict kv => simp only [Option.isSome_some, if_true, Src.items, foldl_setattr]
          | _ => rfl
    | _ => rfl

/-- **the exception branch of `class_to_dict` as written in the source = the model's `excToDict`**, for every exception
    the application registered no converter for and that carries no `_pyroDaemon` attribute. -/
theorem C07_class_to_dict_translated (reg : Str → Bool) (e : Exc) (hreg : reg e.cls = false)
    (hd : lookup kPyroDaemon e.attrs = none) :
    classToDictSrc reg e = .ok (excToDict e) := by
  have hk : cs "_pyroDaemon" = kPyroDaemon := rfl
  simp [classToDictSrc, Src.qualname, Src.hasattr, Src.argsOf, Src.varsOf, hreg, hk, hd, cs_class, cs_exception, cs_args,
    cs_attributes, excToDict, pure, Except.pure]

/-- the branch of `class_to_dict` the hand model does not have: an exception that carries a `_pyroDaemon` attribute is
    sent with that attribute reset to `None` (everything else as `excToDict`). -/
theorem C07_class_to_dict_daemon_attr (reg : Str → Bool) (e : Exc) (hreg : reg e.cls = false) (v : Val)
    (hd : lookup kPyroDaemon e.attrs = some v) :
    classToDictSrc reg e = .ok (excToDict { e with attrs := setKey kPyroDaemon .none e.attrs }) := by
  have hk : cs "_pyroDaemon" = kPyroDaemon := rfl
  simp [classToDictSrc, Src.qualname, Src.hasattr, Src.argsOf, Src.varsOf, Src.setattr, hreg, hk, hd, cs_class,
    cs_exception, cs_args, cs_attributes, excToDict, pure, Except.pure]

/-- an application converter registered for the class: the source hands the object to it — outside the model, never
    silently the built-in dict. -/
theorem C07_class_to_dict_registered (reg : Str → Bool) (e : Exc) (hreg : reg e.cls = true) :
    classToDictSrc reg e = .error .unmodelled := by
  simp [classToDictSrc, Src.qualname, hreg, bind, Except.bind, throw, throwThe, MonadExceptOf.throw]

/-- **`_ExceptionWrapper.__serialized_dict__` as written = `wrapperToDict`** -/
theorem C07_wrapper_to_dict_translated (reg : Str → Bool) (e : Exc) (hreg : reg e.cls = false)
    (hd : lookup kPyroDaemon e.attrs = none) :
    wrapperToDictSrc reg e = .ok (wrapperToDict e) := by
  have h3 : cs "Pyro5.core._ExceptionWrapper" = wrapperTag := rfl
  simp [wrapperToDictSrc, C07_class_to_dict_translated reg e hreg hd, wrapperToDict, cs_class, cs_wrapped, h3, pure,
    Except.pure, bind, Except.bind]

/-- **`_ExceptionWrapper.raiseIt` as written raises exactly the wrapped exception** (never returns) -/
theorem C07_raiseIt_translated (e : Exc) : raiseItSrc e = .error e := rfl

/-- `raiseIt` is what the model's batch result generator does with a wrapper: the outcome of `batchResults` on a
    wrapper at the head is the exception the transcription raises (StopIteration aside, PEP 479). -/
theorem C07_source_raiseIt_batch (K : ClientEnv) (e : Exc) (rest : List PyObj) (hs : (K.info e.cls).isStopIter = false) :
    ∃ x, raiseItSrc e = .error x ∧ (batchResults K (.wrapper e :: rest)).outcome = .raised x := by
  refine ⟨e, rfl, ?_⟩
  simp [batchResults, hs]

/-- **content of the round trip, stated about the source's own functions**: what the transcribed `class_to_dict`
    builds for `e`, after the library turned the argument tuple into `A` (a list or still a tuple), is rebuilt by the
    transcribed `make_exception` into exactly `e` — same class, equal args, equal attributes — whenever the receiver's
    constructor is lawful on these arguments. -/
theorem C07_source_roundtrip_content (K : ClientEnv) (reg : Str → Bool) (e : Exc) (A : Val)
    (hreg : reg e.cls = false) (hd : lookup kPyroDaemon e.attrs = none)
    (hA : A = .list e.args ∨ A = .tuple e.args) (hctor : K.ctor e.cls e.args = .ok (e.cls, e.args))
    (hnd : (keys e.attrs).Nodup) :
    classToDictSrc reg e = .ok (excToDict e) ∧
    makeExceptionSrc K e.cls (.dict (arrivedDict e.cls A e.attrs)) = .ok (.exc e) := by
  refine ⟨C07_class_to_dict_translated reg e hreg hd, ?_⟩
  rw [C07_make_exception_translated]
  exact makeException_arrived K e.cls e.cls A e.args e.attrs hA hctor hnd

/-- "exactly that exception", converse direction: whatever the transcribed `make_exception` returns is an exception
    object (never data, never a wrapper) whose class and args are what the constructor answered. -/
theorem C07_source_make_exception_only_exc (K : ClientEnv) (q : Str) (data : Dict) (o : PyObj)
    (h : makeExceptionSrc K q (.dict data) = .ok o) :
    ∃ xs q' args' attrs, (lookup kArgs data = some (.list xs) ∨ lookup kArgs data = some (.tuple xs)) ∧
      K.ctor q xs = .ok (q', args') ∧ o = .exc ⟨q', args', attrs⟩ := by
  rw [C07_make_exception_translated] at h
  unfold makeException at h
  cases h1 : lookup kArgs data with
  | none => rw [h1] at h; cases h
  | some a =>
    rw [h1] at h
    cases a with
    | list xs | tuple xs =>
      simp only at h
      cases h2 : K.ctor q xs with
      | error x => rw [h2] at h; cases h
      | ok p =>
        obtain ⟨q', args'⟩ := p
        simp only [h2] at h
        split at h <;> cases h <;> exact ⟨xs, q', args', _, by simp, h2, rfl⟩
    | _ => cases h

/-- non-vacuity: a ValueError with two arguments and one attribute goes through both transcriptions -/
example :
    let e : Exc := ⟨cs "builtins.ValueError", [.int 3, .str (cs "bad")], [(cs "detail", .list [.int 1])]⟩
    let K : ClientEnv := ⟨⟨[], [], [], [], []⟩, fun q xs => .ok (q, xs), fun _ => defaultFlags⟩
    classToDictSrc (fun _ => false) e = .ok (excToDict e) ∧
    makeExceptionSrc K e.cls (.dict (arrivedDict e.cls (.list e.args) e.attrs)) = .ok (.exc e) := by
  intro e K
  exact C07_source_roundtrip_content K (fun _ => false) e _ rfl rfl (Or.inl rfl) rfl (by decide)

end Pyro.C07
