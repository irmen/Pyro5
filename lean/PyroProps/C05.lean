/-
  C05 — No client input can stop the daemon or disturb other clients.
  Theorems about `PyroModel.ServerLoop` (the transport loops of the thread-pool and the multiplex
  server around `Server.connEvent`), for every except-ladder configuration whose containment
  layers end in a catch-all for `Exception` (`GoodCfg`); that the ladders extracted from the
  current source are of that kind is the obligation `C05_gen_cfg_good`.
  Quantifiers: every history of events (connects; items = every outcome of reading the next bytes
  of a connection: any message, garbage, cut, timeout; the peer gone or not when the daemon
  answers; methods raising any subclass of `Exception`), on any number of connections, in any
  interleaving, both server types, any pool sizes.
  Outside the statement (and shown reachable in the model, see the last section): exceptions that
  are not subclasses of `Exception`.
-/
import PyroModel.ServerLoop
import PyroModel.Gen.C05
import PyroProofs.ServerLoop

namespace Pyro.C05

open Pyro.Server hiding run step
open Pyro.ServerLoop

/-! ### run-level forms of the single-step lemmas -/

theorem run_induction {P : Loop → Prop} {E : Ev → Prop} (p : Params)
    (hstep : ∀ l ev, E ev → P l → P (step p l ev)) (evs : List Ev) :
    ∀ (l : Loop), (∀ ev ∈ evs, E ev) → P l → P (run p l evs) := by
  induction evs with
  | nil => exact fun _ _ h => h
  | cons ev evs ih =>
    intro l he h
    exact ih (step p l ev) (fun e hm => he e (List.mem_cons_of_mem _ hm)) (hstep l ev (he ev List.mem_cons_self) h)

theorem run_frame (p : Params) (j : Nat) (evs : List Ev) (l : Loop) (h : ∀ ev ∈ evs, ev.conn ≠ j) :
    about (run p l evs) j = about l j :=
  run_induction (P := fun l' => about l' j = about l j) p
    (fun l' ev he h => ((step_spec p l' ev).frame.2 j he).trans h) evs l h rfl

theorem run_tinv (p : Params) (hk : p.kind = .thread) (hg : GoodCfg p.cfg) (evs : List Ev) (l : Loop) (h : TInv p l)
    (hc : ∀ ev ∈ evs, ClientEv ev) : TInv p (run p l evs) :=
  run_induction p (fun l' ev he h => (step_spec p l' ev).tinv hk hg he h) evs l hc h

theorem run_minv (p : Params) (hk : p.kind = .multiplex) (hg : GoodCfg p.cfg) (evs : List Ev) (l : Loop) (h : MInv l)
    (hc : ∀ ev ∈ evs, ClientEv ev) : MInv (run p l evs) :=
  run_induction p (fun l' ev he h => (step_spec p l' ev).minv hk hg he h) evs l hc h

/-! ### the initial state is in order -/

theorem tinv_init (p : Params) (n : Nat) (objs : List Nat) : TInv p (init p n objs) where
  nodup := List.nodup_nil
  live i := by simp [init]
  nozombie := rfl
  idle_le := Nat.le_refl _
  total_ge := by simp [init]

theorem minv_init (p : Params) (n : Nat) (objs : List Nat) : MInv (init p n objs) := by
  refine ⟨List.nodup_nil, fun i => ?_, rfl⟩
  simp only [init, List.not_mem_nil, false_iff, not_exists, not_and]
  intro c hc
  have := List.mem_of_getElem? hc
  rw [List.mem_replicate] at this
  rw [this.2]
  decide

/-! ### the property -/

/-- **C05_loop_survives.**  Whatever clients send, in whatever order, on however many connections
    (garbage, wrong versions, cut messages, timeouts, unknown serializers / objects / members,
    methods raising any `Exception` subclass, serialisable or not, peers that vanish before the
    answer is sent, connections beyond the pool size): the request loop of either server type is
    still running afterwards. -/
theorem C05_loop_survives (p : Params) (hg : GoodCfg p.cfg) (l : Loop) (hr : l.running = true)
    (evs : List Ev) (hc : ∀ ev ∈ evs, ClientEv ev) : (run p l evs).running = true :=
  run_induction (P := fun l' => l'.running = true) p
    (fun l' ev he h => ((step_spec p l' ev).running hg he).trans h) evs l hc hr

/-- **C05_frame.**  Events on other connections never change connection `j`'s record (its replies,
    what was executed for it, its resources), nor whether a worker / the selector holds it — for
    every except-ladder configuration and every event, client-originated or not. -/
theorem C05_frame (p : Params) (l : Loop) (j : Nat) (evs : List Ev) (h : ∀ ev ∈ evs, ev.conn ≠ j) :
    (run p l evs).conns[j]? = l.conns[j]? ∧
    (j ∈ (run p l evs).busy ↔ j ∈ l.busy) ∧ (j ∈ (run p l evs).registered ↔ j ∈ l.registered) := by
  obtain ⟨hc, hb, _, hr, _⟩ := about_eq.1 (run_frame p j evs l h)
  exact ⟨hc, hb, hr⟩

/-- **C05_witness_correct.**  A connection that is being served (handshake done; a worker holds
    it / it is registered) and whose peer stays connected ends up with exactly the record that
    `Server.connEvent` computes from ITS OWN items alone, in their order — its replies, sequence
    numbers, executed calls — whatever is interleaved on any other connections. -/
theorem C05_witness_correct (p : Params) (hg : GoodCfg p.cfg) (w : Nat) (evs : List Ev) :
    ∀ (l : Loop) (c : Conn), l.conns[w]? = some c → c.phase = .active → Served p l w →
      (∀ ev ∈ evs, ClientEv ev) → (∀ it gone raw, Ev.item w it gone raw ∈ evs → gone = false) →
      (run p l evs).conns[w]? = some ((itemsOf w evs).foldl connEvent c) := by
  have gen : ∀ (l : Loop) (c : Conn), Tracked p l w c →
      (∀ ev ∈ evs, ClientEv ev) → (∀ it gone raw, Ev.item w it gone raw ∈ evs → gone = false) →
      Tracked p (run p l evs) w ((itemsOf w evs).foldl connEvent c) := by
    induction evs with
    | nil => exact fun _ _ ht _ _ => ht
    | cons ev evs ih =>
      intro l c ht hcl hst
      have hfold : (itemsOf w (ev :: evs)).foldl connEvent c = (itemsOf w evs).foldl connEvent (evOn w ev c) := by
        cases ev with
        | connect i => rfl
        | item i it gone raw =>
          simp only [itemsOf, evOn]
          split <;> rfl
      rw [hfold]
      exact ih (step p l ev) (evOn w ev c)
        (step_tracked p hg l ev (hcl ev List.mem_cons_self) w c ht
          fun it gone raw e => hst it gone raw (e ▸ List.mem_cons_self))
        (fun e he => hcl e (List.mem_cons_of_mem _ he))
        (fun it gone raw he => hst it gone raw (List.mem_cons_of_mem _ he))
  intro l c hcw hact hs hcl hst
  exact (gen l c ⟨hcw, .inr ⟨hact, hs⟩⟩ hcl hst).1

/-- **C05_no_stranded_worker.**  Thread-pool server: after any client history the workers in
    `Pool.busy` are exactly (no duplicates) the accepted connections that are still open — a
    connection that ended, however it ended, has given its worker back; no connection is abandoned
    unread; `len(idle) ≤ THREADPOOL_SIZE_MIN ≤ len(idle) + len(busy)`. -/
theorem C05_no_stranded_worker (p : Params) (hk : p.kind = .thread) (hg : GoodCfg p.cfg) (l0 : Loop)
    (h0 : TInv p l0) (evs : List Ev) (hc : ∀ ev ∈ evs, ClientEv ev) :
    let l := run p l0 evs
    l.busy.Nodup ∧ (∀ i, i ∈ l.busy ↔ (i ∈ l.seen ∧ ∃ c, l.conns[i]? = some c ∧ c.phase ≠ .closed)) ∧
    l.zombie = [] ∧ l.idle ≤ p.mn ∧ p.mn ≤ l.idle + l.busy.length := by
  have h := run_tinv p hk hg evs l0 h0 hc
  exact ⟨h.nodup, h.live, h.nozombie, h.idle_le, h.total_ge⟩

/-- **C05_selector_exact.**  Multiplex server: after any client history the selector holds exactly
    (no duplicates) the connections that passed the handshake and are still open. -/
theorem C05_selector_exact (p : Params) (hk : p.kind = .multiplex) (hg : GoodCfg p.cfg) (l0 : Loop)
    (h0 : MInv l0) (evs : List Ev) (hc : ∀ ev ∈ evs, ClientEv ev) :
    let l := run p l0 evs
    l.registered.Nodup ∧ (∀ i, i ∈ l.registered ↔ ∃ c, l.conns[i]? = some c ∧ c.phase = .active) ∧
    l.zombie = [] := by
  have h := run_minv p hk hg evs l0 h0 hc
  exact ⟨h.nodup, h.reg, h.nozombie⟩

/-- **C05_accounting_restored.**  Once the attack is over — the connections that are open are
    again exactly those that held a worker before — `Pool.busy` is what it was (same workers'
    connections, same count), and the idle set is within `[len(idle) before, THREADPOOL_SIZE_MIN]`
    when the pool was at its resting size before (`idle + busy ≤ THREADPOOL_SIZE_MIN`; in general
    it is within `[MIN − busy, MIN]`).  Multiplex: the selector's registrations are what they were. -/
theorem C05_accounting_restored (p : Params) (hg : GoodCfg p.cfg) (l0 : Loop) (evs : List Ev)
    (hc : ∀ ev ∈ evs, ClientEv ev) :
    let l := run p l0 evs
    (p.kind = .thread → TInv p l0 →
      (∀ i, (i ∈ l.seen ∧ ∃ c, l.conns[i]? = some c ∧ c.phase ≠ .closed) ↔ i ∈ l0.busy) →
      l.busy.Perm l0.busy ∧ l.busy.length = l0.busy.length ∧ l.idle ≤ p.mn ∧
      p.mn ≤ l.idle + l0.busy.length ∧ (l0.idle + l0.busy.length ≤ p.mn → l0.idle ≤ l.idle)) ∧
    (p.kind = .multiplex → MInv l0 →
      (∀ i, (∃ c, l.conns[i]? = some c ∧ c.phase = .active) ↔ i ∈ l0.registered) →
      l.registered.Perm l0.registered ∧ l.registered.length = l0.registered.length) := by
  constructor
  · intro hk h0 hsame
    have h := run_tinv p hk hg evs l0 h0 hc
    have hperm : (run p l0 evs).busy.Perm l0.busy :=
      (List.perm_ext_iff_of_nodup h.nodup h0.nodup).2 (fun i => (h.live i).trans (hsame i))
    have hlen := hperm.length_eq
    refine ⟨hperm, hlen, h.idle_le, by have := h.total_ge; omega, ?_⟩
    intro hrest
    have := h.total_ge
    omega
  · intro hk h0 hsame
    have h := run_minv p hk hg evs l0 h0 hc
    have hperm : (run p l0 evs).registered.Perm l0.registered :=
      (List.perm_ext_iff_of_nodup h.nodup h0.nodup).2 (fun i => (h.reg i).trans (hsame i))
    exact ⟨hperm, hperm.length_eq⟩

/-- the handshake of a new connection on a running loop with a worker to spare succeeds -/
theorem accept_step (p : Params) (l : Loop) (hr : l.running = true) (j : Nat)
    (hj : l.conns[j]? = some {}) (hs : j ∉ l.seen)
    (hinv : (p.kind = .thread → TInv p l ∧ l.busy.length < p.mx) ∧ (p.kind = .multiplex → MInv l))
    (it : Item) (hok : (handshake it).2 = true) (raw : Cls) :
    ∃ c r, (step p l (.item j it false raw)).conns[j]? = some c ∧ c.phase = .active ∧
      c.outbox = [r] ∧ r.type = MSG_CONNECTOK ∧ c.execs = [] := by
  obtain ⟨r, hr1, hr2⟩ := (handshake_reply it).1 hok
  have hdo : doHandshake {} it false = { conn := { outbox := [r] }, ok := true } := by
    simp [doHandshake, hr1, hok]
  refine ⟨{ phase := .active, outbox := [r], slot := true }, r, ?_, rfl, rfl, hr2, rfl⟩
  obtain ⟨kind, mn, mx, cfg⟩ := p
  cases kind with
  | thread =>
    obtain ⟨hti, hroom⟩ := hinv.1 rfl
    obtain ⟨l', ht⟩ := poolTake_isSome _ l j hroom
    show (threadStep _ l _).conns[j]? = _
    rw [threadStep_new _ (hc := hj) (hz := by simp [hti.nozombie]) (hb := fun hb => hs ((hti.live j).1 hb).1)
      (hs := hs) (hr := hr) (hp := rfl) (ht := ht)]
    simp only [threadItem, hdo]
    exact setConn_get_self (c0 := {}) _ (by rw [poolTake_some _ l j ht]; exact hj)
  | multiplex =>
    show (muxStep _ l _).conns[j]? = _
    rw [muxStep_fresh _ hj (by simp [(hinv.2 rfl).nozombie]) hr rfl hs, (doHandshake_connEvent {} it rfl).2, hdo]
    rfl

/-- **C05_accepts_after.**  After any client history, on a daemon that was running and in order
    before, a new connection `j` (nothing happened on it so far) that sends an acceptable handshake
    gets CONNECTOK and becomes active — on the multiplex server always, on the thread-pool server
    whenever fewer than THREADPOOL_SIZE connections are open at that moment. -/
theorem C05_accepts_after (p : Params) (hg : GoodCfg p.cfg) (l0 : Loop) (hr : l0.running = true)
    (h0 : (p.kind = .thread → TInv p l0) ∧ (p.kind = .multiplex → MInv l0))
    (evs : List Ev) (hc : ∀ ev ∈ evs, ClientEv ev) (j : Nat) (hj : l0.conns[j]? = some {}) (hs : j ∉ l0.seen)
    (hne : ∀ ev ∈ evs, ev.conn ≠ j)
    (hroom : p.kind = .thread → (run p l0 evs).busy.length < p.mx)
    (it : Item) (hok : (handshake it).2 = true) (raw : Cls) :
    ∃ c r, (step p (run p l0 evs) (.item j it false raw)).conns[j]? = some c ∧ c.phase = .active ∧
      c.outbox = [r] ∧ r.type = MSG_CONNECTOK ∧ c.execs = [] := by
  obtain ⟨hfc, _, _, _, hfs⟩ := about_eq.1 (run_frame p j evs l0 hne)
  apply accept_step p (run p l0 evs) (C05_loop_survives p hg l0 hr evs hc) j (by rw [hfc]; exact hj)
    (fun h => hs (hfs.1 h)) _ it hok raw
  exact ⟨fun hk => ⟨run_tinv p hk hg evs l0 (h0.1 hk) hc, hroom hk⟩, fun hk => run_minv p hk hg evs l0 (h0.2 hk) hc⟩

/-- **C05_objects_kept.**  No event removes or replaces a registered object. -/
theorem C05_objects_kept (p : Params) (l : Loop) (evs : List Ev) : (run p l evs).objects = l.objects :=
  run_induction (E := fun _ => True) (P := fun l' => l'.objects = l.objects) p
    (fun l' ev _ h => (step_spec p l' ev).frame.1.trans h) evs l (fun _ _ => trivial) rfl

/-- the loop model is `Server.connEvent` per connection when the peer stays: what C08 / C13 prove
    about a connection's record holds under the transports' loops too (multiplex form: a new
    connection never meets a full pool) -/
theorem C05_refines_server (p : Params) (hk : p.kind = .multiplex) (hg : GoodCfg p.cfg) (l : Loop)
    (hr : l.running = true) (hm : MInv l) (i : Nat) (c : Conn) (hci : l.conns[i]? = some c)
    (hfresh : c.phase = .fresh → i ∉ l.seen) (it : Item) (raw : Cls) (hraw : isException raw = true) :
    (step p l (.item i it false raw)).conns[i]? = some (connEvent c it) := by
  obtain ⟨kind, mn, mx, cfg⟩ := p
  obtain rfl : kind = .multiplex := hk
  show (muxStep _ l _).conns[i]? = _
  have hz : i ∉ l.zombie := by simp [hm.nozombie]
  cases hp : c.phase with
  | closed =>
    rw [(muxStep_spec _ rfl l (.item i it false raw)).eq_self hci (by rw [hp]; decide) (fun _ _ _ _ _ => hp),
      connEvent_closed it hp]
    exact hci
  | fresh => exact muxStep_fresh _ hci hz hr hp (hfresh hp)
  | active => exact (step_served _ hg l i c it raw hraw hci hp ⟨hr, (hm.reg i).2 ⟨c, hci, hp⟩, hz⟩).1

/-! ### obligations about the facts extracted from the current source -/

/-- **C05_gen_cfg_good.**  In the current source every containment layer the theorems rest on — a
    connection job's handshake, the denied-connection handshake run by the acceptor, Worker.run,
    the multiplex request handler and its handshake — ends in `except Exception`. -/
theorem C05_gen_cfg_good : GoodCfg Pyro.Gen.C05.cfg := by
  constructor
  all_goals
    intro c hc
    cases c with
    | keyboardInterrupt | baseOther => cases hc
    | _ => decide

def allCls : List Cls :=
  [.connClosed, .pyroTimeout, .protocol, .serialize, .security, .osError, .sockTimeout, .other, .keyboardInterrupt, .baseOther]

/-- **C05_gen_classes.**  The model's `isException` is `issubclass(·, Exception)` of the real classes
    the extractor raises as representatives (Pyro5.errors / builtins / socket). -/
theorem C05_gen_classes : allCls.filter isException = Pyro.Gen.C05.exceptionClasses := by decide +kernel

/-- **C05_gen_shape.**  Source shape the model relies on: the connection job runs the disconnect
    hook and the close in a `finally`; Worker.run notifies the pool after (outside) its try; the
    multiplex server handles an inactive connection by hook, unregister, close; `denyConnection`
    closes the socket on every path (all measured by running the layers with stand-ins whose
    auxiliary socket methods fail as after a reset: the model's handlers never raise); with COMMTIMEOUT configured the accepted socket is given its timeout in the accept
    loop before the job exists (so the refusal path, run by the acceptor, cannot block for ever on a
    stalling peer) resp. before the multiplex handshake; `recv_stub` validates the first six bytes
    before it reads on (`Item.garbage` is refused at once, also from a peer that stays connected and
    silent); the fallback for an exception that cannot be serialised is `except Exception` (what
    `Outcome.raises _ false` = "reported, connection stays" rests on). -/
theorem C05_gen_shape :
    Pyro.Gen.C05.threadFinally = ["_clientDisconnect", "close"] ∧
    Pyro.Gen.C05.workerNotifiesAfterTry = true ∧
    Pyro.Gen.C05.multiplexInactive = ["_clientDisconnect", "unregister", "close"] ∧
    Pyro.Gen.C05.denyAlwaysCloses = true ∧
        Pyro.Gen.C05.threadTimeoutBeforeJob = true ∧
    Pyro.Gen.C05.multiplexTimeoutBeforeHandshake = true ∧
    Pyro.Gen.C05.headerPrefixValidatedFirst = true ∧
    Pyro.Gen.C05.exceptionFallbackCatchesAll = true := by decide +kernel

/-- **C05_current_source.**  The property for the ladders of the current source, from a daemon
    that has just started: the loop is running, no worker is stranded / the selector is exact. -/
theorem C05_current_source (kind : Kind) (mn mx n : Nat) (objs : List Nat) (evs : List Ev)
    (hc : ∀ ev ∈ evs, ClientEv ev) :
    let p : Params := { kind, mn, mx, cfg := Pyro.Gen.C05.cfg }
    let l := run p (init p n objs) evs
    l.running = true ∧ l.zombie = [] ∧ l.objects = objs ∧
    (kind = .thread → ∀ i, i ∈ l.busy ↔ (i ∈ l.seen ∧ ∃ c, l.conns[i]? = some c ∧ c.phase ≠ .closed)) ∧
    (kind = .multiplex → ∀ i, i ∈ l.registered ↔ ∃ c, l.conns[i]? = some c ∧ c.phase = .active) := by
  intro p l
  have hg : GoodCfg p.cfg := C05_gen_cfg_good
  refine ⟨C05_loop_survives p hg _ rfl evs hc, ?_, C05_objects_kept p _ evs, ?_, ?_⟩
  · cases kind with
    | thread => exact (run_tinv p rfl hg evs _ (tinv_init p n objs) hc).nozombie
    | multiplex => exact (run_minv p rfl hg evs _ (minv_init p n objs) hc).nozombie
  · rintro rfl
    exact (run_tinv p rfl hg evs _ (tinv_init p n objs) hc).live
  · rintro rfl
    exact (run_minv p rfl hg evs _ (minv_init p n objs) hc).reg

/-! ### what the model exhibits when a layer is missing, and where the statement ends -/

private def okShake : Item := .msg { type := 1, serId := 2, seq := 7, body := .handshake true true .accept }
private def call (tok : Nat) (o : Outcome) : Item :=
  .msg { type := 4, serId := 2, seq := 8, body := .call (.method { token := tok, outcome := o }) }

/-- the ladders of the tree BEFORE fixes/C05-deny-contained.patch: `denyConnection` had no try -/
def cfgUnguardedDeny : Cfg := { Pyro.Gen.C05.cfg with thrDeny := [] }

/-- **C05_unguarded_deny_stops.**  With the denied-connection handshake uncontained (the source
    before the fix), one client history stops the thread-pool server's request loop: the pool
    (size 1) is busy with connection 0, connection 1 sends garbage and is gone when the acceptor
    answers.  The oracle replays exactly this on the real code. -/
theorem C05_unguarded_deny_stops :
    let p : Params := { kind := .thread, mn := 1, mx := 1, cfg := cfgUnguardedDeny }
    (run p (init p 2 []) [.item 0 okShake false .other, .item 1 .garbage true .other]).running = false := by
  decide +kernel

/-- the same history on the current ladders: contained -/
example :
    let p : Params := { kind := .thread, mn := 1, mx := 1, cfg := Pyro.Gen.C05.cfg }
    let l := run p (init p 2 []) [.item 0 okShake false .other, .item 1 .garbage true .other]
    l.running = true ∧ l.busy = [0] ∧ (l.conns[1]?.map (·.phase)) = some .closed := by decide +kernel

/-- where the statement ends (`ClientEv` excludes exactly this): a BaseException that is not an Exception.
    Raised by a method that is not a callback it goes no further than `handleRequest` … -/
example :
    let p : Params := { kind := .thread, mn := 1, mx := 2, cfg := Pyro.Gen.C05.cfg }
    let l := run p (init p 1 []) [.item 0 okShake false .other,
      .item 0 (call 5 (.raises .generic true)) false .baseOther]
    -- not re-raised by handleRequest (not a callback), so nothing happens …
    l.busy = [0] ∧ l.zombie = [] := by decide +kernel
/-- … behind a `garbage` item it strands the worker (thread-pool server) … -/
example :
    let p : Params := { kind := .thread, mn := 1, mx := 2, cfg := Pyro.Gen.C05.cfg }
    let l := run p (init p 1 []) [.item 0 okShake false .other, .item 0 .garbage false .baseOther]
    l.busy = [0] ∧ l.zombie = [0] ∧ (l.conns[0]?.map (·.phase)) = some .closed := by decide +kernel
/-- … and stops the request loop (multiplex server) -/
example :
    let p : Params := { kind := .multiplex, mn := 1, mx := 2, cfg := Pyro.Gen.C05.cfg }
    (run p (init p 1 []) [.item 0 okShake false .other, .item 0 .garbage false .keyboardInterrupt]).running = false := by
  decide +kernel

/-! ### non-vacuity: a witness among hostile connections, both server types -/
private def history : List Ev :=
  [ .item 0 okShake false .other,                                   -- witness connects
    .item 1 .garbage false .protocol,                                -- garbage before the handshake
    .item 0 (call 1 (.returns .ok)) false .other,
    .item 2 okShake false .other,
    .item 2 (call 2 (.raises .generic false)) false .other,          -- unserialisable exception: reported, stays
    .item 2 (.msg { type := 4, serId := 42, seq := 1, body := .undecodable false }) true .other,  -- unknown serializer, peer gone
    .connect 3, .item 3 .cut false .other,                           -- disconnect during the handshake
    .item 0 (call 3 (.returns .ok)) false .other,
    .item 4 okShake true .other ]                                    -- handshake, gone before the answer

example :
    let p : Params := { kind := .thread, mn := 2, mx := 3, cfg := Pyro.Gen.C05.cfg }
    let l := run p (init p 6 [1, 2]) history
    l.running = true ∧ l.busy = [0] ∧ l.idle = 1 ∧ l.objects = [1, 2] ∧
    (l.conns[0]?.map (·.execs)) = some [1, 3] ∧ (l.conns[0]?.map (·.outbox.length)) = some 3 ∧
    (l.conns[2]?.map (·.execs)) = some [2] ∧ (l.conns[2]?.map (·.phase)) = some .closed := by decide +kernel

example :
    let p : Params := { kind := .multiplex, mn := 2, mx := 3, cfg := Pyro.Gen.C05.cfg }
    let l := run p (init p 6 [1, 2]) history
    l.running = true ∧ l.registered = [0] ∧
    (l.conns[0]?.map (·.execs)) = some [1, 3] ∧ (l.conns[4]?.map (·.phase)) = some .closed := by decide +kernel

example : ∀ ev ∈ history, ClientEv ev := by decide +kernel
example : itemsOf 0 history = [okShake, call 1 (.returns .ok), call 3 (.returns .ok)] := by decide +kernel

end Pyro.C05
