/-
  C13 — Every connection is cleaned up exactly once, however it ends.
  Theorems about `PyroModel.Server` (per-connection life cycle of both transports and
  SocketConnection.close).  Quantifiers: every sequence of items on a connection (every ending:
  orderly/abrupt close at any point, malformed request, timeout, security error, re-raised errors),
  any numbers of resources tracked / untracked before, any interleaving with other connections.
  Reading fixed in DESIGN.md: "accepted" = passed the handshake; a connection that fails the
  handshake is closed once and gets no disconnect-hook call.
-/
import PyroProofs.Server
import PyroModel.Gen.C13

namespace Pyro.C13

open Pyro.Server

def Accepted (c : Conn) : Prop := ∃ r rest, c.outbox = r :: rest ∧ r.type = MSG_CONNECTOK

/-- the accounting invariant of one connection record -/
structure Inv (c : Conn) : Prop where
  fresh : c.phase = .fresh → c.outbox = [] ∧ c.hookCalls = 0 ∧ c.closeCalls = 0 ∧ c.resClosed = [] ∧
            c.tracked = [] ∧ c.slot = false
  active : c.phase = .active → Accepted c ∧ c.hookCalls = 0 ∧ c.closeCalls = 0 ∧ c.resClosed = [] ∧
            c.tracked.Nodup ∧ c.slot = true
  closed : c.phase = .closed → c.closeCalls = 1 ∧ c.tracked = [] ∧ c.slot = false ∧ c.sessionInst = false ∧
            c.resClosed.Nodup ∧ (Accepted c → c.hookCalls = 1) ∧ (¬ Accepted c → c.hookCalls = 0 ∧ c.resClosed = [])

theorem addTracked_nodup (cur add : List Nat) (h : cur.Nodup) : (addTracked cur add).Nodup := by
  unfold addTracked
  induction add generalizing cur with
  | nil => simpa using h
  | cons a as ih =>
    simp only [List.foldl_cons]
    apply ih
    by_cases hc : cur.contains a = true
    · rw [if_pos hc]
      exact h
    · rw [if_neg hc]
      rw [List.nodup_append]
      refine ⟨h, by simp, ?_⟩
      intro x hx y hy
      simp only [List.mem_singleton] at hy
      subst hy
      intro heq
      subst heq
      exact hc (by simpa using hx)

theorem delTracked_nodup (cur del : List Nat) (h : cur.Nodup) : (delTracked cur del).Nodup := by
  unfold delTracked
  exact h.sublist List.filter_sublist

theorem inv_event (c : Conn) (it : Item) (h : Inv c) : Inv (connEvent c it) := by
  cases hp : c.phase with
  | closed =>
    rw [connEvent_closed it hp]
    exact h
  | fresh =>
    obtain ⟨ho, hh, hc, hr, ht, hs⟩ := h.fresh hp
    obtain ⟨hok, hfail⟩ := handshake_reply it
    cases hsk : handshake it with | mk reply ok =>
    rw [hsk] at hok hfail
    cases ok with
    | true =>
      rw [connEvent_accept hp hsk]
      obtain ⟨r, rfl, hr2⟩ := hok rfl
      exact ⟨nofun, fun _ => ⟨⟨r, [], congrArg (· ++ [r]) ho, hr2⟩, hh, hc, hr, ht ▸ List.nodup_nil, rfl⟩, nofun⟩
    | false =>
      rw [connEvent_refuse hp hsk]
      have hrc : c.resClosed ++ c.tracked = [] := by
        rw [hr, ht]
        rfl
      refine ⟨nofun, nofun, fun _ => ⟨congrArg (· + 1) hc, rfl, hs, rfl, hrc ▸ List.nodup_nil, ?_, fun _ => ⟨hh, hrc⟩⟩⟩
      -- what a refused handshake sent, if anything, is a CONNECTFAIL
      rintro ⟨r, rest, h1, h2⟩
      replace h1 : c.outbox ++ reply.toList = r :: rest := h1
      rw [ho] at h1
      rcases hfail rfl with ⟨_, rfl⟩ | ⟨r', rfl, hr'⟩
      · cases h1
      · cases h1
        rw [hr'] at h2
        cases h2
  | active =>
    obtain ⟨hacc, hh, hc, hrc, hnd, hs⟩ := h.active hp
    replace hacc := connectOk_first_append hacc
    have hnd' : (delTracked (addTracked c.tracked (handleRequest it).tracks) (handleRequest it).untracks).Nodup :=
      delTracked_nodup _ _ (addTracked_nodup _ _ hnd)
    cases hraised : (handleRequest it).raised with
    | true =>
      rw [connEvent_raised hp hraised]
      exact ⟨nofun, nofun, fun _ => ⟨congrArg (· + 1) hc, rfl, rfl, rfl, by rw [hrc]; exact hnd',
        fun _ => congrArg (· + 1) hh, fun hna => absurd (hacc _) hna⟩⟩
    | false =>
      rw [connEvent_request hp hraised]
      exact ⟨fun h' => absurd (hp.symm.trans h') nofun, fun _ => ⟨hacc _, hh, hc, hrc, hnd', hs⟩,
        fun h' => absurd (hp.symm.trans h') nofun⟩

theorem inv_init : Inv {} :=
  ⟨fun _ => ⟨rfl, rfl, rfl, rfl, rfl, rfl⟩, nofun, nofun⟩

/-- **C13_once.**  For every sequence of items on a connection, once it is closed: if it had been
    accepted, the disconnect hook ran exactly once, the connection was closed exactly once, every
    resource closed by that close was closed exactly once (no resource appears twice), nothing stays
    tracked, its session instances are dropped and its worker / selector slot is released; while it
    is still open none of this has happened yet (no early hook, no early close, slot still held). -/
theorem C13_once (items : List Item) :
    let c := items.foldl connEvent {}
    (c.phase = .closed → c.closeCalls = 1 ∧ c.tracked = [] ∧ c.slot = false ∧ c.sessionInst = false ∧
        c.resClosed.Nodup ∧ (Accepted c → c.hookCalls = 1) ∧ (¬ Accepted c → c.hookCalls = 0 ∧ c.resClosed = [])) ∧
    (c.phase = .active → c.hookCalls = 0 ∧ c.closeCalls = 0 ∧ c.resClosed = [] ∧ c.slot = true) := by
  have h := foldl_inv inv_event items {} inv_init
  exact ⟨h.closed, fun ha => let ⟨_, a, b, c, _, d⟩ := h.active ha; ⟨a, b, c, d⟩⟩

/-- **C13_closes_what_is_tracked.**  The step that ends an accepted connection closes exactly the
    resources tracked at that moment (after the last request's own track / untrack calls): resources
    untracked before are not closed, tracked ones are closed once. -/
theorem C13_closes_what_is_tracked (c : Conn) (it : Item) (hp : c.phase = .active) (hinv : Inv c)
    (hr : (handleRequest it).raised = true) :
    (connEvent c it).resClosed =
      delTracked (addTracked c.tracked (handleRequest it).tracks) (handleRequest it).untracks ∧
    (connEvent c it).phase = .closed ∧ (connEvent c it).hookCalls = 1 := by
  obtain ⟨_, hh, _, hrc, _, _⟩ := hinv.active hp
  rw [connEvent_raised hp hr]
  exact ⟨by rw [hrc]; rfl, rfl, congrArg (· + 1) hh⟩

/-- every way a connection can end does end it: a cut stream, garbage, a timeout, a message of a
    type the request loop does not accept — each closes an active connection (and so, by C13_once,
    cleans it up exactly once) -/
theorem C13_endings_close (c : Conn) (hp : c.phase = .active) :
    (connEvent c .cut).phase = .closed ∧ (connEvent c .garbage).phase = .closed ∧
    (connEvent c .timeout).phase = .closed ∧
    (∀ m, m.type ≠ MSG_INVOKE → m.type ≠ MSG_PING → (connEvent c (.msg m)).phase = .closed) := by
  refine ⟨?_, ?_, ?_, fun m h1 h2 => ?_⟩ <;> rw [connEvent_raised hp]
  · rfl
  · rfl
  · rfl
  · unfold handleRequest
    dsimp only
    rw [if_neg h2, if_pos h1]

/-- **C13_idempotent_close.**  A second `close()` of a connection (Python's `__del__`) closes no
    resource again. -/
theorem C13_idempotent_close (c : Conn) : c.close.close.resClosed = c.close.resClosed ∧ c.close.close.tracked = [] := by
  simp [Conn.close]

/-- **C13_frame.**  An event on one connection leaves every other connection's record — its hook
    count, its tracked resources, its slot — untouched. -/
theorem C13_frame (d : Daemon) (i j : Nat) (it : Item) (h : i ≠ j) : (step d (i, it))[j]? = d[j]? := by
  rw [step_getElem?, if_neg h]

/-- Daemon level: the accounting invariant holds for every connection after any interleaving of
    the events of any number of connections. -/
theorem C13_daemon (evs : List (Nat × Item)) :
    ∀ (d : Daemon), (∀ (j : Nat) (c' : Conn), d[j]? = some c' → Inv c') →
      ∀ (j : Nat) (c' : Conn), (run d evs)[j]? = some c' → Inv c' :=
  run_inv inv_event evs

/-- **C13_gen_facts.**  Source shape the model relies on: the thread server runs the disconnect
    handling and the close in a `finally` around the request loop; the multiplex server runs
    disconnect handling, unregister and close for an inactive connection; SocketConnection.close
    clears the session instances and the tracked resources. -/
theorem C13_gen_facts :
    Pyro.Gen.C13.threadFinally = ["_clientDisconnect", "close"] ∧
    Pyro.Gen.C13.multiplexInactive = ["_clientDisconnect", "unregister", "close"] ∧
    Pyro.Gen.C13.closeClearsInstances = true ∧ Pyro.Gen.C13.closeClearsTracked = true ∧
    Pyro.Gen.C13.closeClosesEachTracked = true := by decide

/-! ### non-vacuity -/
private def okShake : Item := .msg { type := 1, serId := 2, seq := 7, body := .handshake true true .accept }
private def callT (tok : Nat) (tr un : List Nat) : Item :=
  .msg { type := 4, serId := 2, seq := 8, body := .call (.method { token := tok, outcome := .returns .ok, tracks := tr, untracks := un }) }
example : let c := ([okShake, callT 1 [5, 6] [], callT 2 [7] [5], .cut].foldl connEvent {})
    c.phase = .closed ∧ c.hookCalls = 1 ∧ c.closeCalls = 1 ∧ c.resClosed = [6, 7] ∧ c.slot = false := by decide

end Pyro.C13
