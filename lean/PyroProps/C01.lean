/-
  C01 — Values cross the wire unchanged, identically for arguments and results.
  Property theorems about `PyroModel.Values` (model of Pyro5/serializers.py) and, for compression,
  `PyroModel.Wire` (C06).
  Quantifiers: every serializer, every value term (`Val`: nested containers, unbounded ints, every
  float token, arbitrary text, bytes, complex, uuid / decimal / date tokens, class dicts, user
  instances), every position reached through `dumps/loads` or `dumpsCall/loadsCall`, compression
  on and off, every payload length.
  `srcCfg` is the hook configuration extracted from the source on this run (PyroModel/Gen/C01.lean).
-/
import PyroModel.Values
import PyroProofs.Values
import PyroProofs.ValuesNF
import PyroProofs.ValuesPaths
import PyroModel.Gen.C01
import PyroProps.C06

namespace Pyro.C01

open Pyro Pyro.Values

/-- The source as it is now passes `ext_hook` on both msgpack paths, handles class dicts on both
    (object_hook inside `unpackb`, or `recreate_classes` afterwards), `MarshalSerializer.dumpsCall`
    accepts `kwargs=None`, and marshal treats a list argument like a list result.  (On a tree where this
    is false the theorems below do not apply; see `C01_symmetric_needs_ext_hook`,
    `C01_batch_needs_kwargs_guard` and `C01_symmetric_needs_list_items_on_both_paths` for what goes wrong.) -/
theorem src_good : srcCfg.good = true := by decide

/-- what the client receives when the method returned `v` -/
abbrev resPath (s : Ser) (v : Val) : Except Err Val := resRT srcCfg s v

/-- **C01_fixed_point.**  Every value in the image of serializer `s`'s type mapping (`nf s`) is
    delivered exactly, as a result, as a positional argument and as a keyword argument. -/
theorem C01_fixed_point (s : Ser) (w : Val) (h : nf s w = true) :
    resPath s w = .ok w ∧ argPath srcCfg s w = .ok w ∧ kwPath srcCfg s w = .ok w := by
  have hr := res_fixed srcCfg src_good s w h
  obtain ⟨a, b⟩ := sym_good srcCfg src_good s w
  exact ⟨hr, a.trans hr, b.trans hr⟩

/-- **C01_lossless.**  On the lossless core — None, booleans, integers of any size, floats incl.
    inf / nan, text, lists and string-keyed dicts without the reserved key, arbitrarily nested —
    all four serializers deliver exactly the value that was sent: as a method result, as a
    positional argument and as a keyword argument. -/
theorem C01_lossless (s : Ser) (v : Val) (h : lossless v = true) :
    resPath s v = .ok v ∧ argPath srcCfg s v = .ok v ∧ kwPath srcCfg s v = .ok v :=
  C01_fixed_point s v (lossless_nf s v h)

/-- **C01_symmetric.**  For every serializer and every value — supported or not — a positional
    argument and a keyword argument reach the server method as exactly what the same value looks
    like when it comes back as a result (same mapped value, or the same class of error). -/
theorem C01_symmetric (s : Ser) (v : Val) :
    argPath srcCfg s v = resPath s v ∧ kwPath srcCfg s v = resPath s v :=
  sym_good srcCfg src_good s v

/-- **C01_delivers_normal_form.**  Whatever a serializer delivers for a Python value is in the image
    `nf s` of its documented type mapping (lists for tuples and sets under json / msgpack, a base64
    dict for bytes under serpent, text for uuid / decimal, ...). -/
theorem C01_delivers_normal_form (s : Ser) (v w : Val) (hv : pyval v = true) (h : resPath s v = .ok w) :
    nf s w = true :=
  res_range srcCfg src_good s v w hv h

/-- **C01_idempotent.**  The type mapping changes nothing when applied twice: what was delivered
    once is delivered unchanged when sent again — as a result and as an argument. -/
theorem C01_idempotent (s : Ser) (v w : Val) (hv : pyval v = true) (h : resPath s v = .ok w) :
    resPath s w = .ok w ∧ argPath srcCfg s w = .ok w ∧ kwPath srcCfg s w = .ok w :=
  C01_fixed_point s w (C01_delivers_normal_form s v w hv h)

/-- **C01_batch_kwargs_none.**  A call whose `kwargs` is `None` (batch envelope, attribute access)
    is serialized exactly like the same call with empty keyword arguments, for every serializer
    that re-creates classes after loading. -/
theorem C01_batch_kwargs_none (vargs : Val) :
    callRT srcCfg .marshal vargs .none = callRT srcCfg .marshal vargs (.dict .nil) := by
  have hk : srcCfg.kwNoneSafe = true := by decide
  simp only [callRT, hk, marshalTopVals, if_true, bind_ok']

/-- **C01_compression_transparent.**  The payload handed to `loads` is byte-for-byte the payload
    `dumps` produced, whether `config.COMPRESSION` is on or off, for every payload length (both
    sides of the 100-byte threshold) and every zlib satisfying the round-trip law — hence every
    statement above holds with compression on or off.  (Corollary of C06_roundtrip.) -/
theorem C01_compression_transparent {α : Type} (loads : Bytes → α) (z : Wire.Zlib) (hz : z.Lawful)
    (m : Wire.Msg) (hnd : (Wire.keysOf m.anns).Nodup) (maxOn maxOff : Nat) (bsOn bsOff : Bytes)
    (hon : Wire.encode ⟨true, maxOn⟩ z m = .ok bsOn) (hoff : Wire.encode ⟨false, maxOff⟩ z m = .ok bsOff) :
    (Wire.recvStub ⟨true, maxOn⟩ z [] bsOn).out.map (fun d => loads d.data) = .ok (loads m.payload) ∧
    (Wire.recvStub ⟨false, maxOff⟩ z [] bsOff).out.map (fun d => loads d.data) = .ok (loads m.payload) := by
  have h1 := (Pyro.C06.C06_roundtrip ⟨true, maxOn⟩ z m bsOn [] [] hz hnd hon (Or.inl rfl)).1
  have h2 := (Pyro.C06.C06_roundtrip ⟨false, maxOff⟩ z m bsOff [] [] hz hnd hoff (Or.inl rfl)).1
  rw [List.append_nil] at h1 h2
  rw [h1, h2]
  exact ⟨rfl, rfl⟩

/-! ### what goes wrong without the two repairs (hold on every tree; replayed by the oracle) -/

def bigInt : Val := .int 1180591620717411303424      -- 2^70

/-- Without `ext_hook` in `MsgpackSerializer.loadsCall` the argument path and the result path differ:
    `2**70` arrives as `ExtType(0x31, b"1180591620717411303424")` but returns as the integer. -/
theorem C01_symmetric_needs_ext_hook (c : Cfg) (h1 : c.callExtHook = false) (h2 : c.resExtHook = true) :
    argPath c .msgpack bigInt = .ok (.ext 0x31 (intToAscii 1180591620717411303424)) ∧
    resRT c .msgpack bigInt = .ok bigInt ∧ argPath c .msgpack bigInt ≠ resRT c .msgpack bigInt := by
  have ha := argPath_msgpack_bigint c h1 1180591620717411303424 (by decide)
  have hr := resRT_msgpack_int c h2 1180591620717411303424
  refine ⟨ha, hr, ?_⟩
  rw [bigInt, ha, hr]
  intro e; cases e

/-- Without the `kwargs=None` guard in `MarshalSerializer.dumpsCall` every batch / attribute call
    fails on the client with AttributeError, whatever the calls are (unless an argument already
    fails to convert). -/
theorem C01_batch_needs_kwargs_guard (c : Cfg) (h : c.kwNoneSafe = false) (calls : Vals) :
    callRT c .marshal (.list calls) .none = .error .attribute ∨
    ∃ e, marshalTopList c.callListItems calls = .error e := by
  cases hc : marshalTopList c.callListItems calls with
  | error e => exact Or.inr ⟨e, rfl⟩
  | ok vs => left; simp [callRT, hc, h]

def uuidList : Val := .list (.cons (.uuid [53]) .nil)       -- [uuid] whose text is "5"

/-- If only `dumps` converts the items of a list (and `dumpsCall` does not), a list holding a uuid
    returns as a list of text but cannot be sent as an argument at all. -/
theorem C01_symmetric_needs_list_items_on_both_paths (c : Cfg) (h1 : c.resListItems = true) (h2 : c.callListItems = false) :
    resRT c .marshal uuidList = .ok (.list (.cons (.str [53]) .nil)) ∧ argPath c .marshal uuidList = .error .value := by
  obtain ⟨x1, x2, o1, o2, r1, r2, k, l1, l2⟩ := c
  simp only at h1 h2
  subst h1; subst h2
  constructor <;> rfl

/-! ### obligations about facts extracted from the current source (PyroModel/Gen/C01.lean) -/

/-- what the model's `dumps` builds for a value msgpack has no native form for: (ext code, data) -/
def extOf (v : Val) : Option (Nat × List Nat) :=
  match enc .msgpack true v with
  | .ok (.ext code data) => some (code, data.map UInt8.toNat)
  | _ => none

/-- The behaviour the model is written against is the behaviour of the module now (every fact below is
    obtained by calling the real functions at extraction time): hook placement is symmetric, the ext values
    `MsgpackSerializer.default` builds for complex(1.5, 2.0), 2**70 and date(2020, 1, 2) are byte for byte the
    ones the model's `enc` builds, and the probe tables of the hooks, of `recreate_classes`, `class_to_dict`,
    `dict_to_class` and `convert_obj_into_marshallable` are the ones the model's case analysis follows. -/
theorem C01_gen_facts :
    srcCfg.good = true ∧
    Pyro.Gen.C01.serializerIds = [1, 2, 3, 4] ∧
    Pyro.Gen.C01.extProbe = [extOf (.complex 0x3FF8000000000000 0x4000000000000000), extOf bigInt,
      extOf (.date 737426)].filterMap id ∧
    Pyro.Gen.C01.extProbe.length = 3 ∧
    Pyro.Gen.C01.extDatetimeCode = extDatetime ∧
    Pyro.Gen.C01.extHookTable = [("complex", "complex"), ("long", "int"), ("datetime", "datetime"), ("date", "date"),
      ("unknown-code", "SerializeError")] ∧
    Pyro.Gen.C01.msgpackBinStr = ["bytes", "str"] ∧
    Pyro.Gen.C01.marshalConvTable = [("str", "same"), ("int", "same"), ("float", "same"), ("NoneType", "same"),
      ("bool", "same"), ("complex", "same"), ("bytes", "same"), ("bytearray", "same"), ("tuple", "same"), ("set", "same"),
      ("frozenset", "same"), ("list", "same"), ("dict", "same"),
      ("uuid.UUID", "str:00000000-0000-0000-0000-000000000005"), ("decimal.Decimal", "SerializeError"),
      ("datetime.date", "SerializeError"), ("object", "dict:__class__,x")] ∧
    Pyro.Gen.C01.recreateDescends = ["set", "list", "tuple", "dict"] ∧
    Pyro.Gen.C01.recreateNotDescended = ["frozenset", "OrderedDict", "namedtuple", "bytearray"] ∧
    Pyro.Gen.C01.classKeyLiterals = ["__class__"] ∧
    Pyro.Gen.C01.classKey = [95, 95, 99, 108, 97, 115, 115, 95, 95] ∧
    Pyro.Gen.C01.refusesClassDict = [("serpent", [true, true, true]), ("marshal", [true, true, true]),
      ("json", [true, true, true]), ("msgpack", [true, true, true])] ∧
    Pyro.Gen.C01.classToDictRefused = ["set", "dict", "tuple", "list"] ∧
    Pyro.Gen.C01.dictToClassNames = [("a__b", "SecurityError"), ("__a", "SecurityError"), ("a__", "SecurityError"),
      ("a_b", "SerializeError"), ("a._b", "SerializeError"), ("x.Y", "SerializeError")] ∧
    Pyro.Gen.C01.serpentDictToClassValues = ["float:float"] ∧
    Pyro.Gen.C01.jsonCallKeys = ["object", "method", "params", "kwargs"] ∧
    Pyro.Gen.C01.jsonDefaultTable = [("set", "tuple"), ("frozenset", "SerializeError"),
      ("uuid.UUID", "str:00000000-0000-0000-0000-000000000005"), ("datetime", "str:2020-01-02T03:04:05"),
      ("date", "str:2020-01-02"), ("Decimal", "str:1.50"), ("array", "list"), ("bytes", "SerializeError"),
      ("complex", "SerializeError"), ("bigint", "SerializeError"), ("object", "dict:__class__,x")] ∧
    Pyro.Gen.C01.msgpackDefaultTable = [("set", "tuple"), ("frozenset", "SerializeError"),
      ("uuid.UUID", "str:00000000-0000-0000-0000-000000000005"), ("datetime", "ext:50:len8"),
      ("date", "ext:51:92400b0000000000"), ("Decimal", "str:1.50"), ("array", "list"), ("bytes", "SerializeError"),
      ("complex", "ext:48:000000000000f83f0000000000000040"),
      ("bigint", "ext:49:31313830353931363230373137343131333033343234"), ("object", "dict:__class__,x"),
      ("datetime+tz", "SerializeError")] ∧
    Pyro.Gen.C01.serpentModuleInClassname = true ∧ Pyro.Gen.C01.serpentBase64Bytes = true ∧
    dateIso 737426 = [50, 48, 50, 48, 45, 48, 49, 45, 48, 50] ∧
    Pyro.Gen.C06.lenComparisons = ["Gt 100", "NotEq 4"] := by
  and_intros <;> rfl

/-! ### non-vacuity -/

example : hookCfg.good = true ∧ topDownCfg.good = true := by decide

private def str (s : Str) : Val := .str s
/-- `{"a": [2**70, nan, -0.0, "é\x00", None, True], "__class__x": {}}` -/
private def v0 : Val :=
  .dict (.cons (str [97]) (.list (.cons bigInt (.cons (.float nanBits) (.cons (.float negZeroBits)
    (.cons (str [233, 0]) (.cons .none (.cons (.bool true) .nil)))))))
    (.cons (str [95, 95, 99, 108, 97, 115, 115, 95, 95, 120]) (.dict .nil) .nil))
example : lossless v0 = true ∧ pyval v0 = true := by decide +kernel
example : resRT hookCfg .msgpack v0 = .ok v0 ∧ resRT topDownCfg .msgpack v0 = .ok v0 ∧
    resRT hookCfg .serpent v0 = .ok v0 ∧ argPath hookCfg .json v0 = .ok v0 := by decide +kernel
/-- `((1, {2.5}), uuid, date(2020,1,2))` under json: tuples and the set become lists, uuid and date text -/
private def v1 : Val :=
  .tuple (.cons (.tuple (.cons (.int 1) (.cons (.set (.cons (.float 0x4004000000000000) .nil)) .nil)))
    (.cons (.uuid [97, 98]) (.cons (.date 737426) .nil)))
example : pyval v1 = true ∧ nf .json v1 = false := by decide +kernel
example : resRT hookCfg .json v1 =
    .ok (.list (.cons (.list (.cons (.int 1) (.cons (.list (.cons (.float 0x4004000000000000) .nil)) .nil)))
      (.cons (str [97, 98]) (.cons (str [50, 48, 50, 48, 45, 48, 49, 45, 48, 50]) .nil)))) := by decide +kernel
example : resRT hookCfg .msgpack (.date 737426) = .ok (.date 737426) ∧
    resRT hookCfg .msgpack (.complex 5 negZeroBits) = .ok (.complex 5 negZeroBits) := by decide +kernel

end Pyro.C01
