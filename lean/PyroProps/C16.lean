/-
  C16 — Daemon registry: an id reaches exactly its object, for as long as registered.

  Model: PyroModel/Registry.lean (`step cfg`), one function per method of Pyro5/server.py, with the five
  repairs of findings F16a–e as switches of `Cfg`.  `Pyro.Gen.C16` holds the switches as the extractor
  reads them from the current source; `C16_gen_fixes` demands that they are all on, so every theorem
  below about `Cfg.fixed` is a theorem about the code at hand (and stops building when a repair is lost).
  Specification: `Spec` (PyroProofs/Registry.lean) — a partial map id ↦ entity, nothing else.

  Histories: `List Op` from `init` (a new daemon), all ids/objects/flags/serializers arbitrary.
  `noAliasHist` excludes exactly one thing: giving an object that is registered under another id a
  second id with `force=True` (known finding F16f, see `C16_not_return_Statement`).
-/
import PyroProofs.Registry
import PyroModel.Gen.C16

namespace Pyro.C16

open Pyro Pyro.Registry

/-! ### obligations about the extracted facts -/

/-- **C16_gen_fixes.** In the current code all five repairs are present (each switch is the observed outcome of
    the witness history of its finding on a real Daemon, so a refactoring that keeps the behaviour keeps the switch): the type-replacement hook
    checks that the object owns its entry (F16a), `register` dereferences weak registrations in its
    identity test (F16b) and refuses the daemon's id (F16c), `unregister(obj)` checks the owner (F16d),
    the weak finalizer checks the owner (F16e).  Hence `Cfg.fixed` is the model of the current source. -/
theorem C16_gen_fixes :
    (⟨Pyro.Gen.C16.autoProxyChecksEntry, Pyro.Gen.C16.identityUnpacksWeak, Pyro.Gen.C16.refuseDaemonName,
      Pyro.Gen.C16.unregChecksOwner, Pyro.Gen.C16.finalizerChecksOwner⟩ : Cfg) = Cfg.fixed := by decide +kernel

/-- **C16_gen_shape.** Facts the model copies unconditionally, each obtained by probing the current code
    (not by matching its spelling): `unregister` leaves the daemon's own entry alone (by id and when given the
    DaemonObject), `DaemonObject.registered()` is the key list of the table (order and weak registrations
    included), a new daemon's table holds exactly its DaemonObject, `class_to_dict` clears `_pyroDaemon`;
    from the source: `handleRequest` finds the object through the table and the weak-reference unpacking, and
    the serializers with a working type-replacement hook are among the three the model distinguishes
    (serpent and json always). -/
theorem C16_gen_shape :
    Pyro.Gen.C16.unregisterGuardsDaemonName = true ∧
    Pyro.Gen.C16.registeredIsKeys = true ∧
    Pyro.Gen.C16.dispatchLookup = true ∧ Pyro.Gen.C16.initDirect = true ∧
    Pyro.Gen.C16.classToDictClearsDaemon = true ∧
    (∀ n ∈ Pyro.Gen.C16.hookSerializers, n ∈ ["serpent", "json", "msgpack"]) ∧
    "serpent" ∈ Pyro.Gen.C16.hookSerializers ∧ "json" ∈ Pyro.Gen.C16.hookSerializers := by decide +kernel

/-- **C16_gen_order.** The *effects* of `Daemon.register`, observed on instrumented arguments (a table that
    records lookups and insertions, an object that records attribute assignments, recording serializers and
    a recording `weakref.finalize`), happen in the order the model assumes: the checks' table lookups, then
    the attribute assignments (which may raise for objects that cannot carry attributes), then the hook
    installation, and only then the table insertion and the finalizer — so a registration that fails has not
    touched the table (`C16_failed_register_unchanged`).  And for json and msgpack, for each builtin base type
    that `default()` converts (set, UUID, Decimal, datetime, date, array), a registered type replacement wins
    over the conversion, and for serpent (which dispatches on `isinstance`) an instance of a subclass still gets
    the replacement when one was installed for its base class first — so a registered object of such a class
    is proxied like any other (the model's `returnObj` runs the hook first for every object and serializer). -/
theorem C16_gen_order :
    Pyro.Gen.C16.registerEffects = ["lookup", "attrs", "hooks", "insert", "finalize", "return"] ∧
    (∀ p ∈ Pyro.Gen.C16.defaultHookFirst, p.2 = true) ∧
    ("json:set", true) ∈ Pyro.Gen.C16.defaultHookFirst ∧ ("json:array", true) ∈ Pyro.Gen.C16.defaultHookFirst ∧
    ("serpent:subclass-after-base", true) ∈ Pyro.Gen.C16.defaultHookFirst := by decide +kernel

/-! ### the property -/

/-- **C16_failed_register_unchanged.** In every state of every variant, for every object (also one that
    cannot carry the pyro attributes), id argument and flags: a `register` that does not return a URI
    (it raised) has changed nothing — the id it asked for is as free, or as taken by its holder, as before. -/
theorem C16_failed_register_unchanged (cfg : Cfg) (s : State) (e : Ent) (ia : IdArg) (force weak : Bool)
    (hfail : ∀ i, (step cfg s (.register e ia force weak)).2 ≠ .uri i) :
    (step cfg s (.register e ia force weak)).1 = s := by
  simp only [step] at hfail ⊢
  rcases register_cases cfg s e ia force weak with ⟨r, _, h⟩ | ⟨_, h⟩
  · rw [h]
  · rw [h] at hfail
    exact absurd rfl (hfail _)

/-- an object whose class has no room for the attributes is refused with AttributeError whenever all
    other checks pass — e.g. with `force=True` on an id held by another object, which keeps it -/
example : regCheck .fixed (run .fixed init [.register (.obj 0) (.str (.name 0)) false false])
    (.obj 6) (.str (.name 0)) true false = some (.err .attributeError) := by decide +kernel
example : call (step .fixed (run .fixed init [.register (.obj 0) (.str (.name 0)) false false])
    (.register (.obj 6) (.str (.name 0)) true false)).1 (.name 0) = .reached (.ent (.obj 0)) := by decide +kernel

/-- **C16_refines (partial: no forced second id).** For every history, the daemon's table after it is
    exactly the specification's map after the same history: registrations, unregistrations (by id or by
    object), refusals and garbage collections have precisely the specified effect and no other. -/
theorem C16_refines_partial (h : List Op) (hA : noAliasHist init h = true) :
    abs (run .fixed init h) = specRun Spec.init h := by
  have := (reach h invW_init back_init hA).2.2
  rwa [abs_init] at this

/-- **C16_call_exact.** After every such history a call addressed to id `i` runs on exactly the entity
    the specification has under `i` (an instance of it for a class), and is answered "unknown object"
    exactly when the specification has nothing under `i`. -/
theorem C16_call_exact (h : List Op) (hA : noAliasHist init h = true) (i : Id) :
    call (run .fixed init h) i = specCall (specRun Spec.init h) i := by
  obtain ⟨hI, _, ha⟩ := reach h invW_init back_init hA
  rw [call_eq_specCall hI, ha, abs_init]

/-- **C16_registered_exact.** `DaemonObject.registered()` lists exactly the ids the specification has,
    each once. -/
theorem C16_registered_exact (h : List Op) (hA : noAliasHist init h = true) :
    ∃ l, (step .fixed (run .fixed init h) .registered).2 = .ids l ∧ l.Nodup ∧
      ∀ i, i ∈ l ↔ ((specRun Spec.init h).m i).isSome = true := by
  obtain ⟨hI, _, ha⟩ := reach h invW_init back_init hA
  refine ⟨keys (run .fixed init h).objs, rfl, hI.nodup, ?_⟩
  intro i
  rw [mem_keys_iff, ← abs_init, ← ha]
  rfl

/-- **C16_double_refused.** Without `force`, registering an object that is registered already, or under
    an id that is taken, is refused (no URI is returned) and changes nothing — whatever the id argument
    (explicit, generated, the daemon's) and the weak flag. -/
theorem C16_double_refused (h : List Op) (hA : noAliasHist init h = true) (e : Ent) (ia : IdArg) (w : Bool)
    (hdup : (specRun Spec.init h).has e ∨ ((specRun Spec.init h).m ((specRun Spec.init h).resolve ia)).isSome = true) :
    (step .fixed (run .fixed init h) (.register e ia false w)).1 = run .fixed init h ∧
    ∀ i, (step .fixed (run .fixed init h) (.register e ia false w)).2 ≠ .uri i := by
  obtain ⟨hI, hB, ha⟩ := reach h invW_init back_init hA
  rw [← abs_init, ← ha] at hdup
  simp only [step]
  rcases register_cases .fixed (run .fixed init h) e ia false w with ⟨r, hc, hr⟩ | ⟨hc, _⟩
  · rw [hr]
    exact ⟨rfl, fun i => regCheck_some_not_uri hc i⟩
  · exfalso
    apply regCheck_none_not_refuses rfl rfl hI hB hc
    right; right; right; right; left
    exact ⟨rfl, hdup⟩

/-- **C16_daemon_fixed.** For *every* history (forced aliasing included) of every variant of the code
    that refuses the daemon's id in `register`, the entry `Pyro.Daemon` is the daemon's own object:
    it can be neither unregistered (by id, by object, by a finalizer) nor replaced. -/
theorem C16_daemon_fixed (cfg : Cfg) (hC : cfg.refuseDaemonName = true) (h : List Op) :
    lookup .daemon (run cfg init h).objs = some ⟨.daemonObj, false⟩ :=
  (invW_run hC h invW_init).daemon

/-- **C16_attrs_of_registered.** Every registered pool object or class carries `_pyroId` = the id it is
    registered under and `_pyroDaemon` = this daemon, and is registered under that id only.
    (The converse does not hold and is not needed any more: `unregister(id)` and a forced take-over of
    the id leave the attributes behind — the existing unit tests rely on that — but the repaired hook and
    `unregister` compare with the table instead of trusting them.) -/
theorem C16_attrs_of_registered (h : List Op) (hA : noAliasHist init h = true) (i : Id) (e : Ent) (w : Bool)
    (hr : lookup i (run .fixed init h).objs = some ⟨.ent e, w⟩) :
    (run .fixed init h).pid e = some i ∧ (run .fixed init h).pdm e = .this ∧
    ∀ j w', lookup j (run .fixed init h).objs = some ⟨.ent e, w'⟩ → j = i := by
  obtain ⟨_, hB, _⟩ := reach h invW_init back_init hA
  exact ⟨(hB i e w hr).1, (hB i e w hr).2, fun j w' hj => back_unique hB hj hr⟩

/-- the full statement about returned registered objects, for *all* histories -/
def C16_return_Statement : Prop :=
  ∀ (h : List Op) (k : Nat) (i : Id) (w : Bool) (ser : Ser),
    lookup i (run .fixed init h).objs = some ⟨.ent (.obj k), w⟩ →
    ∃ j, (returnObj .fixed (run .fixed init h) k ser).2 = .proxy j ∧
         call (run .fixed init h) j = .reached (.ent (.obj k))

/-- **C16_return (partial: no forced second id).** A registered object returned from a remote method
    arrives — with serpent, json and msgpack alike — as a proxy for the id it is registered under, a call
    through that proxy runs on that very object, and returning it changes nothing. -/
theorem C16_return_partial (h : List Op) (hA : noAliasHist init h = true) (k : Nat) (i : Id) (w : Bool) (ser : Ser)
    (hr : lookup i (run .fixed init h).objs = some ⟨.ent (.obj k), w⟩) :
    returnObj .fixed (run .fixed init h) k ser = (run .fixed init h, .proxy i) ∧
    call (run .fixed init h) i = .reached (.ent (.obj k)) := by
  obtain ⟨hI, hB, _⟩ := reach h invW_init back_init hA
  refine ⟨returnObj_registered hI hB hr ser, ?_⟩
  simp [call, hr, deref_entry hI hr]

/-- **C16_not_return_Statement** (known finding F16f). The full statement fails: register `o0` as `n0`,
    again as `n1` with `force=True`, `unregister(o0)` — `n0` still reaches `o0`, but `o0` has lost its
    attributes and travels by value. -/
theorem C16_not_return_Statement : ¬ C16_return_Statement := by
  intro H
  obtain ⟨j, hj, _⟩ := H [.register (.obj 0) (.str (.name 0)) false false,
                           .register (.obj 0) (.str (.name 1)) true false,
                           .unregister (.byObj (.obj 0))] 0 (.name 0) false .serpent (by decide)
  have hv : (returnObj .fixed (run .fixed init [.register (.obj 0) (.str (.name 0)) false false,
      .register (.obj 0) (.str (.name 1)) true false, .unregister (.byObj (.obj 0))]) 0 .serpent).2 = .byValue := by decide +kernel
  rw [hv] at hj
  exact Res.noConfusion hj

/-- **C16_return_unregistered.** In *any* state of any variant whose hook checks the entry: an object
    that is not registered, and whose class is not registered, travels by value — whatever attributes
    earlier registrations, `unregister(id)`, forced take-overs or collections left on it — and the
    daemon's table is untouched.  (An instance of a registered class arrives as a proxy of the class
    registration, by design: tests/test_server.py testAutoProxy.) -/
theorem C16_return_unregistered (cfg : Cfg) (hA : cfg.autoProxyChecksEntry = true) (s : State) (k : Nat) (ser : Ser)
    (hd : s.dead k = false)
    (hk : ∀ i w, lookup i s.objs ≠ some ⟨.ent (.obj k), w⟩)
    (hc : ∀ i w, lookup i s.objs ≠ some ⟨.ent (.cls (classOf k)), w⟩) :
    (returnObj cfg s k ser).2 = .byValue ∧ (returnObj cfg s k ser).1.objs = s.objs := by
  have : returnObj cfg s k ser = byValue s k ser := by
    simp [returnObj, hd, hA, ownsEntry_unregistered hk hc]
  rw [this]
  exact ⟨byValue_res s k ser, (byValue_frame s k ser).1⟩

/-- **C16_no_dead_weak.** For every history of every variant that refuses the daemon's id, the
    dispatch lookup never meets a dead weak reference: a collected object's registrations are gone
    before the next request (synchronous finalizers; asynchronous collection is the *partial* part). -/
theorem C16_no_dead_weak (cfg : Cfg) (hC : cfg.refuseDaemonName = true) (h : List Op) (i : Id) :
    call (run cfg init h) i ≠ .deadWeak := by
  have hI := invW_run hC h invW_init
  rw [call_eq_specCall hI]
  unfold specCall
  split <;> simp

/-! ### each repair is necessary: the same model with one switch off violates the property -/

/-- the registry holds the daemon's own entry and nothing else -/
def onlyDaemon : Objs := [(.daemon, ⟨.daemonObj, false⟩)]

/-- **F16a.** Without the ownership check in the hook: register `o0` as `n0`, `unregister("n0")`; the
    table is empty again but returning `o0` raises DaemonError instead of sending it by value. -/
theorem C16_F16a_needs_fix (cfg : Cfg) (hoff : cfg.autoProxyChecksEntry = false) :
    ∃ h, (run cfg init h).objs = onlyDaemon ∧ (run cfg init h).dead 0 = false ∧
      (returnObj cfg (run cfg init h) 0 .serpent).2 = .err .daemonError := by
  refine ⟨[.register (.obj 0) (.str (.name 0)) false false, .unregister (.byId (.name 0))], ?_⟩
  obtain ⟨a, b, c, d, e⟩ := cfg
  simp only at hoff; subst hoff
  cases b <;> cases c <;> cases d <;> cases e <;> decide +kernel

/-- **F16b.** Without dereferencing the weak reference in `register`'s identity test: a weakly
    registered object is accepted a second time, under another id, without `force`. -/
theorem C16_F16b_needs_fix (cfg : Cfg) (hoff : cfg.identityUnpacksWeak = false) :
    ∃ h, lookup (.name 0) (run cfg init h).objs = some ⟨.ent (.obj 0), true⟩ ∧
      (step cfg (run cfg init h) (.register (.obj 0) (.str (.name 1)) false false)).2 = .uri (.name 1) := by
  refine ⟨[.register (.obj 0) (.str (.name 0)) false true], ?_⟩
  obtain ⟨a, b, c, d, e⟩ := cfg
  simp only at hoff; subst hoff
  cases a <;> cases c <;> cases d <;> cases e <;> decide +kernel

/-- **F16c.** Without the reserved-id check: `register(o0, "Pyro.Daemon", force=True)` replaces the
    daemon's own object. -/
theorem C16_F16c_needs_fix (cfg : Cfg) (hoff : cfg.refuseDaemonName = false) :
    ∃ h, lookup .daemon (run cfg init h).objs = some ⟨.ent (.obj 0), false⟩ := by
  refine ⟨[.register (.obj 0) (.str .daemon) true false], ?_⟩
  obtain ⟨a, b, c, d, e⟩ := cfg
  simp only at hoff; subst hoff
  cases a <;> cases b <;> cases d <;> cases e <;> decide

/-- **F16d.** Without the ownership check in `unregister`: `o0` as `n0`, then `o1` as `n0` with
    `force=True`; `unregister(o0)` removes `o1`'s registration. -/
theorem C16_F16d_needs_fix (cfg : Cfg) (hoff : cfg.unregChecksOwner = false) :
    ∃ h, (run cfg init h).objs = onlyDaemon ++ [(.name 0, ⟨.ent (.obj 1), false⟩)] ∧
      (unregister cfg (run cfg init h) (.byObj (.obj 0))).1.objs = onlyDaemon := by
  refine ⟨[.register (.obj 0) (.str (.name 0)) false false, .register (.obj 1) (.str (.name 0)) true false], ?_⟩
  obtain ⟨a, b, c, d, e⟩ := cfg
  simp only at hoff; subst hoff
  cases a <;> cases b <;> cases c <;> cases e <;> decide +kernel

/-- **F16e.** Without the ownership check in the weak finalizer: `o0` weakly as `n0`, then `o1` as `n0`
    with `force=True`; when `o0` is collected its finalizer removes `o1`'s registration. -/
theorem C16_F16e_needs_fix (cfg : Cfg) (hoff : cfg.finalizerChecksOwner = false) :
    ∃ h, (run cfg init h).objs = onlyDaemon ++ [(.name 0, ⟨.ent (.obj 1), false⟩)] ∧
      (gc cfg (run cfg init h) 0).2 = .collected ∧ (gc cfg (run cfg init h) 0).1.objs = onlyDaemon := by
  refine ⟨[.register (.obj 0) (.str (.name 0)) false true, .register (.obj 1) (.str (.name 0)) true false], ?_⟩
  obtain ⟨a, b, c, d, e⟩ := cfg
  simp only at hoff; subst hoff
  cases a <;> cases b <;> cases c <;> cases d <;> decide +kernel

/-! ### non-vacuity -/

/-- a history with weak and forced registrations, a take-over of an id, unregistration both ways, a
    collection and generated ids meets the hypothesis of the partial theorems … -/
def sample : List Op :=
  [.register (.obj 0) (.str (.name 0)) false false, .register (.obj 1) .none false true,
   .register (.cls 2) (.str (.name 1)) false false, .register (.obj 2) (.str (.name 0)) true false,
   .register (.obj 2) (.str (.name 0)) true true, .unregister (.byId (.name 0)), .unregister (.byObj (.cls 2)),
   .returnObj 0 .json, .register (.obj 0) .empty false false, .gc 1, .gc 0]

example : noAliasHist init sample = true := by decide +kernel
/-- … and reaches a non-trivial state: `o0` registered under the second generated id, `o1` collected -/
example : keys (run .fixed init sample).objs = [.daemon, .gen 1] := by decide +kernel
example : (results .fixed init sample).getLast? = some .kept := by decide +kernel
example : call (run .fixed init sample) (.gen 1) = .reached (.ent (.obj 0)) := by decide +kernel
example : (returnObj .fixed (run .fixed init sample) 0 .msgpack).2 = .proxy (.gen 1) := by decide +kernel
example : (run .fixed init sample).dead 1 = true := by decide +kernel
/-- the forced-alias history of F16f is excluded by the hypothesis -/
example : noAliasHist init [.register (.obj 0) (.str (.name 0)) false false,
                            .register (.obj 0) (.str (.name 1)) true false] = false := by decide +kernel
/-- hypotheses of `C16_return_unregistered` are met by a state with stale attributes -/
example : (run .fixed init [.register (.obj 0) (.str (.name 0)) false false, .unregister (.byId (.name 0))]).pid (.obj 0)
    = some (.name 0) := by decide +kernel

end Pyro.C16
