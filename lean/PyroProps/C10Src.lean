/-
  C10Src.lean — the stream functions of Pyro5/server.py AS WRITTEN NOW (transcribed into Lean by
  harness/props/c10_tr.py on every run: `Pyro.Gen.C10.Src.*` in PyroModel/Gen/C10.lean) compute, for every table,
  id, connection, clock and setting, exactly what the hand-written model functions of PyroModel/Streams.lean compute
  (`C10_*_translated`); hence the history theorems of C10.lean hold of the transcription (`C10_source_*`).
-/
import PyroModel.Streams
import PyroModel.StreamsSrc
import PyroModel.StreamsSrcRun
import PyroModel.Gen.C10
import PyroProofs.Streams
import PyroProofs.StreamsSrc
import PyroProps.C10

namespace Pyro.C10

open Pyro Pyro.Streams Pyro.Gen.C10.Src

theorem if_if_eq_if_and {α : Type} (a b : Prop) [Decidable a] [Decidable b] (x y : α) :
    (if a then (if b then x else y) else y) = if a ∧ b then x else y := by
  by_cases ha : a
  · by_cases hb : b
    · rw [if_pos ha, if_pos hb, if_pos ⟨ha, hb⟩]
    · rw [if_pos ha, if_neg hb, if_neg fun h => hb h.2]
  · rw [if_neg ha, if_neg fun h => ha h.1]

/-- **get_next_stream_item, as written now** = `doNext`: same table afterwards, same reply (the item, StopIteration,
    the iterator's exception, PyroError for an unknown id; never KeyError), for every table, id and connection. -/
theorem C10_getNext_translated (st : State) (id conn : Nat) :
    (getNextStreamItemSrc st.table id conn).1 = (doNext st id conn).1.table ∧
    Src.toRes (getNextStreamItemSrc st.table id conn).2 = some (doNext st id conn).2 := by
  unfold getNextStreamItemSrc doNext Src.contains
  cases hg : st.table.get id with
  | none => simp [Src.toRes]
  | some e =>
    by_cases ho : e.owner.isNone = true
    · cases hr : e.rest with
      | nil => simp [ho, hr, Src.toRes, erase_set]
      | cons a tl =>
        cases a with
        | val v => simp [ho, hr, Src.toRes, Src.setRest, get_set_self, set_set]
        | raises x => simp [ho, hr, Src.toRes, erase_set]
    · cases hr : e.rest with
      | nil => simp [ho, hr, Src.toRes]
      | cons a tl =>
        cases a with
        | val v => simp [ho, hr, Src.toRes, Src.setRest, hg]
        | raises x => simp [ho, hr, Src.toRes]

/-- **close_stream, as written now** = `doClose` (with or without the membership test in front of the removal) -/
theorem C10_closeStream_translated (st : State) (id : Nat) :
    closeStreamSrc st.table id = ((doClose st id).table, .ok .none) := by
  unfold closeStreamSrc doClose
  cases hg : st.table.get id with
  | none => simp [Src.contains, hg]
  | some e => simp [Src.contains, hg]

/-- **_streamResponse, as written now** = `doOpen`: an iterator / generator is registered under the fresh id with
    (caller, now, 0, data) when streaming is enabled, `(True, None)` when not, `(False, data)` for anything else.
    (`dIsView`: `type(data)` is a dict view type — never together with `isinstance(data, Iterator)`.) -/
theorem C10_streamResponse_translated (cfg : Settings) (st : State) (conn : Nat) (isIter isGen : Bool) (items : List Item) :
    let d : Data := if isIter || isGen then .iter items else .plain
    (streamResponseSrc cfg st.table st.now st.nextId conn isIter isGen false items).1 = (doOpen cfg st conn d).1.table ∧
    Src.toRes (streamResponseSrc cfg st.table st.now st.nextId conn isIter isGen false items).2 = some (doOpen cfg st conn d).2 := by
  -- `isinstance(data, Iterator) or isgenerator(data)` decides (both arms of the source are the same text), then
  -- `cfg.streaming`
  unfold streamResponseSrc
  cases isIter with
  | true => cases hs : cfg.streaming <;> simp [doOpen, hs, Src.toRes]
  | false =>
    cases isGen with
    | true => cases hs : cfg.streaming <;> simp [doOpen, hs, Src.toRes]
    | false => exact ⟨rfl, rfl⟩

/-- **_clientDisconnect, as written now** = `doDisconnect` on every duplicate-free table: with linger every stream of
    the ending connection becomes (None, created, now, stream), without linger it is removed; others untouched; the
    user hook comes last. -/
theorem C10_clientDisconnect_translated (cfg : Settings) (st : State) (conn : Nat) (hnd : st.table.keys.Nodup) :
    (clientDisconnectSrc cfg st.table st.now conn).1 = (doDisconnect cfg st conn).table ∧
    Src.toRes (clientDisconnectSrc cfg st.table st.now conn).2 = some (if cfg.hookFails then .hookError else .ok) := by
  unfold clientDisconnectSrc doDisconnect
  have hres : ∀ t : Table, Src.toRes (if cfg.hookFails = true then ((t, .error .hook) : Src.Out) else (t, .ok .none)).2 =
      some (if cfg.hookFails = true then Res.hookError else Res.ok) := fun t => by
    cases cfg.hookFails <;> rfl
  have htab : ∀ t : Table, (if cfg.hookFails = true then ((t, .error .hook) : Src.Out) else (t, .ok .none)).1 = t := fun t => by
    split <;> rfl
  by_cases hl : (0 : Int) < cfg.linger
  · rw [if_pos hl, if_pos hl]
    dsimp only
    rw [foldl_put (fun e => e.owner = some conn)
      (fun e => { owner := none, created := e.created, linger := st.now, rest := e.rest }) _ (by intro _ _; rfl) _ hnd]
    exact ⟨htab _, hres _⟩
  · rw [if_neg hl, if_neg hl]
    dsimp only
    rw [foldl_drop (fun e => e.owner = some conn) _ (by intro _ _; rfl) _ hnd]
    refine ⟨(htab _).trans ?_, hres _⟩
    exact congrArg (List.filter · st.table) (funext fun p => (decide_not).symm)

/-- **_housekeeping, as written now** = `doHousekeeping` on every duplicate-free table (lifetime pass, then linger
    pass, each with exactly the model's expiry condition), and does nothing while the daemon is shutting down. -/
theorem C10_housekeeping_translated (cfg : Settings) (st : State) (hnd : st.table.keys.Nodup) :
    housekeepingSrc cfg false st.table st.now = ((doHousekeeping cfg st).table, .ok .none) ∧
    housekeepingSrc cfg true st.table st.now = (st.table, .ok .none) := by
  refine ⟨?_, rfl⟩
  -- as in `foldl_drop`, each loop is stated for any body `f` equal to the literal one, so that `rw` finds the generated
  -- lambda
  have lifeLoop : ∀ (f : Table → Nat → Table), (∀ tb k, f tb k = match Table.get tb k with
        | some e => if cfg.lifetime < (st.now : Int) - (e.created : Int) then Table.erase tb k else tb
        | none => tb) →
      ∀ t : Table, t.keys.Nodup → 0 < cfg.lifetime →
        List.foldl f t (Src.keys t) = t.filter fun p => !lifeExpired cfg st.now p.2 := fun f hf t ht h1 => by
    rw [foldl_drop (fun e => cfg.lifetime < (st.now : Int) - (e.created : Int)) f hf t ht]
    exact congrArg (List.filter · t) (funext fun p =>
      congrArg (!·) (decide_eq_decide.mpr ⟨fun h => ⟨h1, h⟩, fun h => h.2⟩))
  have lingerLoop : ∀ (f : Table → Nat → Table), (∀ tb k, f tb k = match Table.get tb k with
        | some e => if e.linger ≠ 0 then if cfg.linger < (st.now : Int) - (e.linger : Int) then Table.erase tb k else tb else tb
        | none => tb) →
      ∀ t : Table, t.keys.Nodup →
        List.foldl f t (Src.keys t) = t.filter fun p => !lingerExpired cfg st.now p.2 := fun f hf t ht =>
    foldl_drop (fun e => e.linger ≠ 0 ∧ (st.now : Int) - (e.linger : Int) > cfg.linger) f
      (fun tb k => by
        rw [hf]
        cases Table.get tb k with
        | none => rfl
        | some e => exact if_if_eq_if_and _ _ _ _) t ht
  unfold housekeepingSrc doHousekeeping
  rw [if_neg Bool.false_ne_true]
  by_cases he : st.table.isEmpty = true
  · rw [if_pos he, if_pos he]
  · rw [if_neg he, if_neg he]
    dsimp only
    by_cases h1 : (0 : Int) < cfg.lifetime
    · rw [if_pos h1, if_pos h1, lifeLoop _ (by intro _ _; rfl) _ hnd h1]
      by_cases h2 : (0 : Int) < cfg.linger
      · rw [if_pos h2, if_pos h2, lingerLoop _ (by intro _ _; rfl) _ (nodup_filter _ _ hnd)]
      · rw [if_neg h2, if_neg h2]
    · rw [if_neg h1, if_neg h1]
      by_cases h2 : (0 : Int) < cfg.linger
      · rw [if_pos h2, if_pos h2, lingerLoop _ (by intro _ _; rfl) _ hnd]
      · rw [if_neg h2, if_neg h2]

/-! ## the step function and whole histories through the transcription -/

theorem state_ext (a b : State) (h1 : a.table = b.table) (h2 : a.now = b.now) (h3 : a.nextId = b.nextId) : a = b := by
  cases a
  cases b
  cases h1
  cases h2
  cases h3
  rfl

/-- **one operation through the transcription = one operation of the model**, on every duplicate-free table: same
    state afterwards, and the transcription's outcome is the model's reply. -/
theorem C10_stepSrc_translated (cfg : Settings) (st : State) (op : Op) (hnd : st.table.keys.Nodup) :
    (stepSrc cfg st op).1 = (step cfg st op).1 ∧ Src.toRes (stepSrc cfg st op).2 = some (step cfg st op).2 := by
  cases op with
  | «open» conn d =>
    cases d with
    | iter items =>
      show (stepSrc cfg st (.open conn (.iter items))).1 = (doOpen cfg st conn (.iter items)).1 ∧
        Src.toRes (stepSrc cfg st (.open conn (.iter items))).2 = some (doOpen cfg st conn (.iter items)).2
      rw [doOpen_iter]
      unfold stepSrc srcOut streamResponseSrc
      cases cfg.streaming <;> exact ⟨rfl, rfl⟩
    | plain => exact ⟨rfl, rfl⟩
  | next id conn =>
    obtain ⟨h1, h2⟩ := C10_getNext_translated st id conn
    obtain ⟨f1, f2⟩ := doNext_frame st id conn
    exact ⟨state_ext _ _ h1 f1.symm f2.symm, h2⟩
  | close id =>
    have h := C10_closeStream_translated st id
    exact ⟨state_ext _ _ (congrArg Prod.fst h) (congrArg State.now (doClose_eq st id)).symm
      (congrArg State.nextId (doClose_eq st id)).symm, congrArg (fun o => Src.toRes o.2) h⟩
  | disconnect conn =>
    obtain ⟨h1, h2⟩ := C10_clientDisconnect_translated cfg st conn hnd
    obtain ⟨f1, f2⟩ := doDisconnect_frame cfg st conn
    exact ⟨state_ext _ _ h1 f1.symm f2.symm, h2⟩
  | housekeeping =>
    have h := (C10_housekeeping_translated cfg st hnd).1
    exact ⟨state_ext _ _ (congrArg Prod.fst h) (congrArg State.now (doHousekeeping_eq cfg st)).symm
      (congrArg State.nextId (doHousekeeping_eq cfg st)).symm, congrArg (fun o => Src.toRes o.2) h⟩
  | tick dt => exact ⟨rfl, rfl⟩

/-- from a state with the invariant, a run through the transcription is the model's run (replies wrapped in `some`) -/
theorem execSrc_eq (cfg : Settings) (ops : List Op) : ∀ (st : State) (ev : List Event), Streams.Inv st ev →
    execSrc cfg st ops = ((exec cfg st ops).1, (exec cfg st ops).2.map (fun e => (e.1, some e.2))) := by
  induction ops with
  | nil => intro st ev _; simp [execSrc, exec]
  | cons op ops ih =>
    intro st ev h
    obtain ⟨h1, h2⟩ := C10_stepSrc_translated cfg st op h.nodup
    simp only [execSrc, exec, h1, h2]
    rw [ih _ _ (inv_step cfg st ev op h)]
    simp

/-- **C10_source_exec.**  Every history from the empty table, run through the functions of server.py as they are
    written now, ends in the same table and gives the same replies as the model — and every outcome is one of the
    model's replies (never a KeyError, never an exception class the model does not know). -/
theorem C10_source_exec (cfg : Settings) (t0 : Nat) (ops : List Op) :
    execSrc cfg (State.init t0) ops =
      ((exec cfg (State.init t0) ops).1, (exec cfg (State.init t0) ops).2.map (fun e => (e.1, some e.2))) :=
  execSrc_eq cfg ops (State.init t0) [] (inv_init t0)

/-- the events (operation, reply) of a run of the transcription -/
def srcEvents (r : State × List (Op × Option Res)) : List Event := r.2.filterMap (fun p => p.2.map (fun x => (p.1, x)))

theorem srcEvents_exec (cfg : Settings) (t0 : Nat) (ops : List Op) :
    srcEvents (execSrc cfg (State.init t0) ops) = (exec cfg (State.init t0) ops).2 := by
  rw [C10_source_exec]
  simp [srcEvents, List.filterMap_map, Function.comp_def]

/-- **C10_source_prefix** = `C10_prefix` about the source as written now: after every history through the transcribed
    functions, for every remembered stream `delivered ++ still held = source`, and for every id the replies handed
    out are a prefix of its source. -/
theorem C10_source_prefix (cfg : Settings) (t0 : Nat) (ops : List Op) :
    let r := execSrc cfg (State.init t0) ops
    (∀ id e, r.1.table.get id = some e → delivered id (srcEvents r) ++ e.rest = source id (srcEvents r)) ∧
    (∀ id, delivered id (srcEvents r) <+: source id (srcEvents r)) := by
  intro r
  have hev : srcEvents r = (exec cfg (State.init t0) ops).2 := srcEvents_exec cfg t0 ops
  have hst : r.1 = (exec cfg (State.init t0) ops).1 := congrArg Prod.fst (C10_source_exec cfg t0 ops)
  rw [hev, hst]
  exact C10_prefix cfg t0 ops

/-- **C10_source_next_exact** = `C10_next_exact` about the transcribed `get_next_stream_item`: after every history the
    reply is the next undelivered item of the stream's own source / its exception / StopIteration exactly at the end
    when the stream is remembered, else PyroError with the table unchanged. -/
theorem C10_source_next_exact (cfg : Settings) (t0 : Nat) (ops : List Op) (id conn : Nat) :
    let r := execSrc cfg (State.init t0) ops
    (∀ e, r.1.table.get id = some e →
      Src.toRes (getNextStreamItemSrc r.1.table id conn).2 =
        some (expectedReply (source id (srcEvents r)) (delivered id (srcEvents r)).length)) ∧
    (r.1.table.get id = none →
      getNextStreamItemSrc r.1.table id conn = (r.1.table, .error (.cls "Pyro5.errors.PyroError"))) := by
  intro r
  have hev : srcEvents r = (exec cfg (State.init t0) ops).2 := srcEvents_exec cfg t0 ops
  have hst : r.1 = (exec cfg (State.init t0) ops).1 := congrArg Prod.fst (C10_source_exec cfg t0 ops)
  obtain ⟨h1, h2⟩ := C10_next_exact cfg t0 ops id conn
  rw [hev, hst]
  refine ⟨fun e he => ?_, fun hn => ?_⟩
  · rw [(C10_getNext_translated _ id conn).2, h1 e he]
  · unfold getNextStreamItemSrc Src.contains
    simp [hn]

/-- **C10_source_forget_conditions** = `C10_forget_conditions` about the transcription: after every history, one more
    operation of the source as written now forgets a remembered stream exactly under `forgetCond`. -/
theorem C10_source_forget_conditions (cfg : Settings) (t0 : Nat) (ops : List Op) (op : Op) (id : Nat) (e : Entry) :
    let r := execSrc cfg (State.init t0) ops
    r.1.table.get id = some e →
    ((stepSrc cfg r.1 op).1.table.get id = none ↔ forgetCond cfg r.1.now id e op) := by
  intro r hg
  have hst : r.1 = (exec cfg (State.init t0) ops).1 := congrArg Prod.fst (C10_source_exec cfg t0 ops)
  have hinv : Streams.Inv (exec cfg (State.init t0) ops).1 (exec cfg (State.init t0) ops).2 := inv_reach cfg t0 ops
  rw [hst] at hg ⊢
  rw [(C10_stepSrc_translated cfg _ op hinv.nodup).1]
  exact C10_forget_conditions cfg t0 ops op id e hg

/-- the daemon's `_shutting_down` early return (outside the model's alphabet): a housekeeping pass of a
    daemon that is shutting down leaves the table alone, whatever lifetime / linger / clock say. -/
theorem C10_source_shutting_down (cfg : Settings) (st : State) :
    housekeepingSrc cfg true st.table st.now = (st.table, .ok .none) := by
  simp [housekeepingSrc]

/-- non-vacuity: the transcription on a concrete history (two streams, reconnect, exhaustion, expiry) -/
example : (execSrc { streaming := true, lifetime := 0, linger := 4 } (State.init 100)
    [.open 0 (.iter [.val 7, .raises 3]), .next 0 0, .disconnect 0, .tick 2, .next 0 1, .next 0 1, .next 0 1]).2.map (·.2) =
    [some (.stream 0), some (.item 7), some .ok, some .ok, some (.raised 3), some .terminated, some .terminated] := by decide +kernel

end Pyro.C10
