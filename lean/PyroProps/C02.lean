/-
  C02 — Only explicitly exposed, non-private members are remotely reachable.

  Property theorems about `PyroModel.Expose` (model of is_private_attribute, expose/oneway, _get_attribute,
  the two property gates, the dispatch branches of Daemon.handleRequest and _get_exposed_members).
  Quantifiers: every class shape (any MRO length, any members, any marks that the decorators can leave),
  every instance dict, every request (any name or non-string, all request kinds, batches of any length).

  The theorems are stated for a gate configuration `cfg` with the hypothesis `Fixed cfg`; the obligation
  `C02_gen_gates` shows that the configuration *extracted from the current source* is fixed.
  Finding F2b (a plain attribute holding an instance / the class of an `@expose`d helper class is invoked)
  stays open: the full statement `RefusedNoEffect` is kept as a definition, `C02_refused_no_effect_partial`
  proves it under the excluding hypothesis `NoExposedHelperAttr`, and `C02_refused_no_effect_not_full`
  refutes the full statement from the witness shape (replayed on the real code by the oracle).
-/
import PyroProofs.Expose

namespace Pyro.C02

open Pyro Pyro.Expose

/-- the gate configuration read off the current source by the extractor -/
def genCfg : Cfg :=
  { callTypeFirst := Pyro.Gen.C02.callGateTypeFirst
    getPriv := Pyro.Gen.C02.getGatePrivate
    setPriv := Pyro.Gen.C02.setGatePrivate
    nonStrType := Pyro.Gen.C02.privateGateNonStrTypeError }

/-- **C02_served_sound.**  Whatever a request names — normal call, oneway call, attribute read, attribute
    write or a batch of any length — every piece of target code that runs is code of a member that (i) one
    of the requested *string* names denotes on the type, (ii) carries an exposure mark and (iii) is requested
    under a non-private name.  (Shapes without exposed-helper attributes, see F2b.) -/
theorem C02_served_sound (cfg : Cfg) (sh : Shape) (r : Req) (hf : Fixed cfg) (hh : NoExposedHelperAttr sh) :
    ∀ e ∈ (dispatch cfg sh r).2, Justified sh (reqNames r) e := by
  intro e he
  rw [dispatch_snd] at he
  cases hb : r.batch with
  | true =>
    rw [reqNames, if_pos hb]
    rw [dispatchBody_batch cfg sh hb] at he
    exact (runBatch_spec hf.1 hh r.args).1 e he
  | false =>
    cases body_single r hf hh hb with
    | inl h =>
      rw [h.1] at he
      cases he
    | inr h =>
      obtain ⟨fid, hj, h6⟩ := h
      rw [h6, List.mem_singleton] at he
      exact he ▸ hj

/-- The statement at full strength: a request that is not a batch and does not name an allowed member
    (an exposed, public method or property of the type) is refused — error reply, or no reply if oneway —
    and runs nothing. -/
def RefusedNoEffect (cfg : Cfg) : Prop :=
  ∀ (sh : Shape) (r : Req), r.batch = false → (∀ n, ReqName.str n ∈ reqNames r → ¬ Allowed sh n) →
    Refused r (dispatch cfg sh r).1 ∧ (dispatch cfg sh r).2 = []

/-- the same, for shapes in which no plain attribute holds an instance or the class of an exposed helper -/
def RefusedNoEffectPartial (cfg : Cfg) : Prop :=
  ∀ (sh : Shape) (r : Req), NoExposedHelperAttr sh → r.batch = false →
    (∀ n, ReqName.str n ∈ reqNames r → ¬ Allowed sh n) →
    Refused r (dispatch cfg sh r).1 ∧ (dispatch cfg sh r).2 = []

/-- **C02_refused_no_effect_partial.**  Under the repaired gate every non-batch request for anything but an
    exposed public member — inherited unexposed members, plain attributes, unknown and dotted names,
    private names, non-strings, too few arguments — is refused and has no effect. -/
theorem C02_refused_no_effect_partial (cfg : Cfg) (hf : Fixed cfg) : RefusedNoEffectPartial cfg := by
  intro sh r hh hb hn
  cases body_single r hf hh hb with
  | inl h =>
    obtain ⟨h1, e, h2⟩ := h
    exact ⟨dispatch_refused_of_error h2, by rw [dispatch_snd, h1]⟩
  | inr h =>
    obtain ⟨fid, hj, _⟩ := h
    obtain ⟨n, h1, ha⟩ := hj.allowed
    exact absurd ha (hn n h1)

theorem not_allowed {sh : Shape} {n : Name} {m : Member} (hl : lookupType n sh.mro = some m)
    (he : memberExposed m = false) : ¬ Allowed sh n := by
  rintro ⟨_, m', hm, he'⟩
  rw [hl] at hm
  cases hm
  rw [he] at he'
  cases he'

/-- witness of F2b: class attribute `h` holding an instance of an exposed helper class with `__call__` -/
def f2bShape : Shape :=
  { mro := [{ members := [([104], .attr (.inst { exposed := true, hasCall := true, callId := 8, initId := 9 }))] }]
    inst := [] }
def f2bReq : Req := { batch := false, oneway := false, method := .str [104], args := [] }

/-- **C02_refused_no_effect_not_full** (finding F2b).  The full statement is false of the faithful model,
    whatever the gate configuration: the call `h` is answered with a result and the helper's `__call__`
    (effect 8) runs although `h` is a plain attribute. -/
theorem C02_refused_no_effect_not_full (cfg : Cfg) : ¬ RefusedNoEffect cfg := by
  intro h
  have hna : ∀ n, ReqName.str n ∈ reqNames f2bReq → ¬ Allowed f2bShape n := by
    intro n hn
    have : n = [104] := by simpa [reqNames, f2bReq, nmGetattr, nmSetattr] using hn
    subst this
    exact not_allowed (m := .attr (.inst ⟨true, true, 8, 9⟩)) (by decide) rfl
  have h2 := (h f2bShape f2bReq rfl hna).2
  -- of the configuration only `callTypeFirst` is consulted on the way, and `h` is no data descriptor
  have : (dispatch cfg f2bShape f2bReq).2 = [8] := by
    obtain ⟨a, _, _, _⟩ := cfg
    cases a <;> rfl
  rw [this] at h2
  cases h2

/-- **C02_batch_refused.**  A batch that contains a single name which is not an allowed member is refused as
    a whole (its effects are covered by `C02_served_sound`: only allowed members named before it ran). -/
theorem C02_batch_refused (cfg : Cfg) (sh : Shape) (r : Req) (hf : Fixed cfg) (hh : NoExposedHelperAttr sh)
    (hb : r.batch = true) (hbad : ∃ rn ∈ r.args, ¬ ∃ n, rn = .str n ∧ Allowed sh n) :
    Refused r (dispatch cfg sh r).1 := by
  cases hres : (runBatch cfg sh r.args).1 with
  | error e => exact dispatch_refused_of_error (by rw [dispatchBody_batch cfg sh hb, hres])
  | ok u =>
    obtain ⟨rn, hrn, hno⟩ := hbad
    exact absurd ((runBatch_spec hf.1 hh r.args).2 hres rn hrn) hno

/-- **C02_history_no_memory.**  The object may change between requests (instance attributes set or deleted,
    class members replaced or deleted); the answer to a request is a function of the object's state *at that
    time* only — no gate remembers what a name denoted earlier (in particular not the cached metadata). -/
theorem C02_history_no_memory (cfg : Cfg) : ∀ (evs : List Event) (sh : Shape),
    runHistory cfg sh evs = (statesOf sh evs).map (fun p => dispatch cfg p.1 p.2) := by
  intro evs
  induction evs with
  | nil => exact fun _ => rfl
  | cons ev rest ih =>
    intro sh
    cases ev <;> simp only [runHistory, statesOf, List.map_cons, ih]

/-- **C02_history_sound.**  In every history of run-time changes and requests, whatever target code a request
    runs is code of a member that a requested public name denotes, exposed, *in the state the object has at
    that moment* (states without marked plain attribute values, see F2b). -/
theorem C02_history_sound (cfg : Cfg) (hf : Fixed cfg) (sh : Shape) (evs : List Event)
    (hh : ∀ p ∈ statesOf sh evs, NoExposedHelperAttr p.1) :
    ∀ p ∈ statesOf sh evs, ∀ e ∈ (dispatch cfg p.1 p.2).2, Justified p.1 (reqNames p.2) e :=
  fun p hp => C02_served_sound cfg p.1 p.2 hf (hh p hp)

/-- **C02_metadata_cache.**  What is advertised along a history: a cached list is repeated unchanged whatever happened
    to the object since (documented: the cache is per class), but after `resetMetadataCache` the next advertisement is
    the member list *of the object's state at that moment* — for every kind of registered object — and hence, by
    `C02_metadata_exact`, again exactly the set of names served. -/
theorem C02_metadata_cache (sh : Shape) (rest : List Event) (m : Meta) (c : Option Meta) :
    advertised (some m) sh (.getMeta :: rest) = m :: advertised (some m) sh rest ∧
    advertised c sh (.resetMeta :: .getMeta :: rest) = metadata sh :: advertised (some (metadata sh)) sh rest ∧
    (∀ s, advertised c sh (.step s :: rest) = advertised c (applyStep sh s) rest) ∧
    (∀ r, advertised c sh (.req r :: rest) = advertised c sh rest) := by
  refine ⟨rfl, ?_, fun _ => rfl, fun _ => rfl⟩
  cases c <;> rfl

/-- **C02_served_complete.**  The gate serves what is exposed: a call of an exposed public method (not
    hidden by an instance attribute) runs exactly that method; reading an exposed public property runs
    exactly its getter; writing one that has a setter runs exactly its setter.  Reply = result, or nothing
    if oneway.  (Holds for every configuration.) -/
theorem C02_served_complete (cfg : Cfg) (sh : Shape) (n : Name) (hp : isPrivate n = false) (ow : Bool) :
    (∀ m f args, lookupType n sh.mro = some m → (m = .func f ∨ m = .static f ∨ m = .clsm f) →
      f.exposed = true → find? n sh.inst = none →
      dispatch cfg sh ⟨false, ow, .str n, args⟩ = (if ow then .none else .result, [f.fid])) ∧
    (∀ f s d rest, lookupType n sh.mro = some (.prop (some f) s d) → f.exposed = true →
      dispatch cfg sh ⟨false, ow, .str nmGetattr, .str n :: rest⟩ = (if ow then .none else .result, [f.fid])) ∧
    (∀ g f d v rest, lookupType n sh.mro = some (.prop g (some f) d) → exposedOpt (primary g (some f) d) = true →
      dispatch cfg sh ⟨false, ow, .str nmSetattr, .str n :: v :: rest⟩ = (if ow then .none else .result, [f.fid])) :=
  ⟨fun _ _ args hl hm he hi => dispatch_method hp hl hm he hi ow args,
   fun _ _ _ rest hl he => dispatch_getattr hp hl he ow rest,
   fun _ _ _ v rest hl he => dispatch_setattr hp hl he ow v rest⟩

/-- served as a method / readable / writable: the (non-oneway) request is answered with a result -/
def ServedCall (cfg : Cfg) (sh : Shape) (n : Name) : Prop :=
  (dispatch cfg sh ⟨false, false, .str n, []⟩).1 = .result
def ServedGet (cfg : Cfg) (sh : Shape) (n : Name) : Prop :=
  (dispatch cfg sh ⟨false, false, .str nmGetattr, [.str n]⟩).1 = .result
def ServedSet (cfg : Cfg) (sh : Shape) (n : Name) : Prop :=
  (dispatch cfg sh ⟨false, false, .str nmSetattr, [.str n, .hashable]⟩).1 = .result

/-- **C02_metadata_exact.**  The advertised member list is exactly what the daemon serves: `methods` are the
    names a call is served for, `attrs` the names an attribute read or write is served for, `oneway` is part
    of `methods`.  Hypotheses: the repaired gate; no exposed-helper attribute (F2b: served, never
    advertised); no instance attribute hiding a class member; every property has a getter or a setter. -/
theorem C02_metadata_exact (cfg : Cfg) (sh : Shape) (hf : Fixed cfg) (hh : NoExposedHelperAttr sh)
    (hs : NoShadow sh) (hu : PropsUsable sh) (n : Name) :
    (n ∈ (metadata sh).methods ↔ ServedCall cfg sh n) ∧
    (n ∈ (metadata sh).attrs ↔ ServedGet cfg sh n ∨ ServedSet cfg sh n) ∧
    (n ∈ (metadata sh).oneway → n ∈ (metadata sh).methods) := by
  have noinst : ∀ m, lookupType n sh.mro = some m → find? n sh.inst = none := by
    intro m hm
    cases hi : find? n sh.inst with
    | none => rfl
    | some v => rw [hs n v hi] at hm; cases hm
  refine ⟨?_, ?_, ?_⟩
  · rw [mem_methods, ServedCall, dispatch_result_iff rfl]
    constructor
    · rintro ⟨hp, hm⟩
      rw [dispatchBody_call cfg sh false hp]
      cases hl : lookupType n sh.mro with
      | none => rw [hl] at hm; cases hm
      | some m =>
        rw [hl] at hm
        have key : ∀ f, (m = .func f ∨ m = .static f ∨ m = .clsm f) → f.exposed = true →
            (runCall cfg sh (.str n)).1 = .ok () :=
          fun f hk he => by rw [runCall, getAttribute_method hp hl hk he (noinst _ hl)]; rfl
        cases m with
        | func f => exact key f (.inl rfl) hm
        | static f => exact key f (.inr (.inl rfl)) hm
        | clsm f => exact key f (.inr (.inr rfl)) hm
        | prop g s d => cases hm
        | attr v => cases hm
    · intro hsv
      -- `__getattr__` / `__setattr__` without arguments fail; any other name goes through the method gate
      have hr : (runCall cfg sh (.str n)).1 = .ok () := by
        unfold dispatchBody at hsv
        simp only [Bool.false_eq_true, if_false] at hsv
        split at hsv
        · cases hsv
        split at hsv
        · cases hsv
        exact hsv
      rcases runCall_spec (cfg := cfg) (sh := sh) (.str n) hf.1 hh with ⟨_, e, he⟩ | ⟨n', f, m, e1, hit, _⟩
      · rw [he] at hr; cases hr
      · cases e1; exact ⟨hit.pub, hit.lookup ▸ hit.method⟩
  · rw [mem_attrs]
    constructor
    · rintro ⟨hp, hm⟩
      cases hl : lookupType n sh.mro with
      | none => rw [hl] at hm; cases hm
      | some m =>
        rw [hl] at hm
        cases m with
        | prop g s d =>
          cases g with
          | some f => exact .inl (by rw [ServedGet, dispatch_getattr hp hl hm]; rfl)
          | none =>
            cases s with
            | some f => exact .inr (by rw [ServedSet, dispatch_setattr hp hl hm]; rfl)
            | none => rcases hu n none none d hl with h | h <;> cases h
        | _ => cases hm
    · rintro (hg | hst)
      · rw [ServedGet, dispatch_result_iff rfl, dispatchBody_getattr] at hg
        rcases getProp_spec (cfg := cfg) (sh := sh) (.str n) hf.2.1 with ⟨_, e, he⟩ | ⟨n', f, s, d, e1, e2, e3, e4, _⟩
        · rw [he] at hg; cases hg
        · cases e1; exact ⟨e2, by rw [e3]; exact e4⟩
      · rw [ServedSet, dispatch_result_iff rfl, dispatchBody_setattr] at hst
        rcases setProp_spec (cfg := cfg) (sh := sh) (.str n) hf.2.2 with ⟨_, e, he⟩ | ⟨n', g, f, d, e1, e2, e3, e4, _⟩
        · rw [he] at hst; cases hst
        · cases e1; exact ⟨e2, by rw [e3]; exact e4⟩
  · rw [mem_oneway, mem_methods]
    exact fun h => ⟨h.1, oneway_is_method _ h.2⟩

/-- **C02_expose_marks.**  Marks come from the decorators only, and `expose(cls)` marks only the class's own
    members: in a shape built by the (model) decorators a name is *allowed* iff it is not private and the
    class declaration that defines it (first in the MRO) exposes it — by a decorator on the member itself, or
    by `@expose` on that very class with the member stored under a public key. -/
theorem C02_expose_marks (ds : List ClassDecl) (inst : List (Name × Val)) (sh : Shape)
    (hb : buildShape ds inst = .ok sh) (n : Name) :
    Allowed sh n ↔ isPrivate n = false ∧ ∃ cd md, lookupDecl n ds = some (cd, md) ∧ declExposed cd n md = true := by
  unfold buildShape at hb
  split at hb
  · cases hb
  · next cs hcs =>
    cases hb
    obtain ⟨h1, h2⟩ := buildClasses_lookup (k := n) hcs
    unfold Allowed
    constructor
    · rintro ⟨hp, m, hm, he⟩
      refine ⟨hp, ?_⟩
      cases hl : lookupDecl n ds with
      | none => rw [h1 hl] at hm; cases hm
      | some p =>
        obtain ⟨cd, md⟩ := p
        obtain ⟨m', hm', he'⟩ := h2 cd md hl
        rw [hm] at hm'
        cases hm'
        exact ⟨cd, md, rfl, by rw [← he', he]⟩
    · rintro ⟨hp, cd, md, hl, he⟩
      obtain ⟨m, hm, he'⟩ := h2 cd md hl
      exact ⟨hp, m, hm, by rw [he', he]⟩

/-- **C02_inherited_unexposed_refused.**  A name whose *defining* class does not expose it is refused without
    effect, however the other classes of the MRO — in particular the registered subclass — are decorated. -/
theorem C02_inherited_unexposed_refused (cfg : Cfg) (hf : Fixed cfg) (ds : List ClassDecl)
    (inst : List (Name × Val)) (sh : Shape) (hb : buildShape ds inst = .ok sh) (hh : NoExposedHelperAttr sh)
    (n : Name) (hn : ∀ cd md, lookupDecl n ds = some (cd, md) → declExposed cd n md = false)
    (r : Req) (hr : r.batch = false) (hnames : ∀ rn ∈ reqNames r, rn = .str n) :
    Refused r (dispatch cfg sh r).1 ∧ (dispatch cfg sh r).2 = [] := by
  apply C02_refused_no_effect_partial cfg hf sh r hh hr
  intro n' hn' ha
  have := hnames _ hn'
  cases this
  obtain ⟨_, cd, md, hl, he⟩ := (C02_expose_marks ds inst sh hb n).mp ha
  rw [hn cd md hl] at he
  cases he

/-- **C02_private_refused.**  A private name (reserved dunder, or leading underscore and not of dunder form)
    is refused without effect in every non-batch request kind, on *every* shape (F2b shapes included). -/
theorem C02_private_refused (cfg : Cfg) (hf : Fixed cfg) (sh : Shape) (r : Req) (hb : r.batch = false)
    (hn : ∀ rn ∈ reqNames r, ∃ n, rn = .str n ∧ isPrivate n = true) :
    Refused r (dispatch cfg sh r).1 ∧ (dispatch cfg sh r).2 = [] :=
  single_refused (fun rn => ∃ n, rn = .str n ∧ isPrivate n = true)
    (fun _ ⟨_, e, hp⟩ => e ▸ gates_private hf hp) r hb hn

/-- **C02_nonstring_refused.**  A non-string name is refused without effect by every gate configuration. -/
theorem C02_nonstring_refused (cfg : Cfg) (sh : Shape) (r : Req) (hb : r.batch = false)
    (hn : ∀ rn ∈ reqNames r, rn = .hashable ∨ rn = .unhashable) :
    Refused r (dispatch cfg sh r).1 ∧ (dispatch cfg sh r).2 = [] :=
  single_refused (fun rn => rn = .hashable ∨ rn = .unhashable) (fun _ h => gates_nonstring cfg sh h) r hb hn

/-- **C02_dotted.**  A dotted path is one attribute name: if no key of the classes or of the instance dict
    contains a dot, every name containing one is refused without effect (no traversal into nested objects),
    by every gate configuration and on every shape. -/
theorem C02_dotted (cfg : Cfg) (sh : Shape)
    (hk : ∀ cl ∈ sh.mro, ∀ km ∈ cl.members, 46 ∉ km.1) (hi : ∀ kv ∈ sh.inst, 46 ∉ kv.1)
    (r : Req) (hb : r.batch = false) (hn : ∀ rn ∈ reqNames r, ∃ n, rn = .str n ∧ 46 ∈ n) :
    Refused r (dispatch cfg sh r).1 ∧ (dispatch cfg sh r).2 = [] :=
  single_refused (fun rn => ∃ n, rn = .str n ∧ 46 ∈ n)
    (fun _ ⟨_, e, hd⟩ =>
      let ⟨h1, h2⟩ := lookups_none_of_no_key 46 hd hk hi
      e ▸ gates_unknown cfg h1 h2) r hb hn

/-! ### why the repairs are needed (findings F2a, F2c): the unrepaired configurations are unsound -/

/-- witness of F2a: unexposed property `p` (getter = effect 3), normal call `p` -/
def f2aShape : Shape :=
  { mro := [{ members := [([112], .prop (some ⟨[112], 3, false, false⟩) none none)] }], inst := [] }
def f2aReq : Req := { batch := false, oneway := false, method := .str [112], args := [] }

theorem f2aShape_noHelper : NoExposedHelperAttr f2aShape := noExposedHelperAttr_of_check (by decide)

/-- **C02_unfixed_call_gate_unsound** (finding F2a).  If `_get_attribute` does not refuse data descriptors of
    the type first, even the partial statement fails: a call naming an unexposed property runs its getter. -/
theorem C02_unfixed_call_gate_unsound (cfg : Cfg) (h : cfg.callTypeFirst = false) : ¬ RefusedNoEffectPartial cfg := by
  intro hs
  have hna : ∀ n, ReqName.str n ∈ reqNames f2aReq → ¬ Allowed f2aShape n := by
    intro n hn
    have : n = [112] := by simpa [reqNames, f2aReq, nmGetattr, nmSetattr] using hn
    subst this
    exact not_allowed (m := .prop (some ⟨[112], 3, false, false⟩) none none) (by decide) rfl
  obtain ⟨_, _, _, _⟩ := cfg
  cases h
  -- the getter (effect 3) ran
  have h2 : [3] = [] := (hs f2aShape f2aReq f2aShape_noHelper rfl hna).2
  cases h2

/-- witness of F2c: `_h = property(expose(hidden), expose(hidden_setter))`, read and written by attribute requests -/
def f2cShape : Shape :=
  { mro := [{ members := [([95, 104], .prop (some ⟨[104], 7, true, false⟩) (some ⟨[104], 6, false, false⟩) none)] }],
    inst := [] }
def f2cGet : Req := { batch := false, oneway := false, method := .str nmGetattr, args := [.str [95, 104]] }
def f2cSet : Req := { batch := false, oneway := false, method := .str nmSetattr, args := [.str [95, 104], .hashable] }

theorem f2cShape_noHelper : NoExposedHelperAttr f2cShape := noExposedHelperAttr_of_check (by decide)

/-- **C02_unfixed_attr_gate_unsound** (finding F2c).  If a property gate does not test the name with
    `is_private_attribute`, the partial statement fails: an attribute request reaches a property stored under
    a private name whose function is marked. -/
theorem C02_unfixed_attr_gate_unsound (cfg : Cfg) (h : cfg.getPriv = false ∨ cfg.setPriv = false) :
    ¬ RefusedNoEffectPartial cfg := by
  intro hs
  have hpriv : isPrivate [95, 104] = true := by decide
  have hna : ∀ (r : Req), (∀ rn ∈ reqNames r, rn = .str [95, 104]) →
      ∀ n, ReqName.str n ∈ reqNames r → ¬ Allowed f2cShape n := by
    intro r hr n hn
    have := hr _ hn
    cases this
    rintro ⟨hp, _⟩
    rw [hpriv] at hp; cases hp
  obtain ⟨_, _, _, _⟩ := cfg
  cases h with
  | inl hb =>
    cases hb
    have h2 : [7] = [] := (hs f2cShape f2cGet f2cShape_noHelper rfl (hna f2cGet (by decide))).2
    cases h2
  | inr hc =>
    cases hc
    have h2 : [6] = [] := (hs f2cShape f2cSet f2cShape_noHelper rfl (hna f2cSet (by decide))).2
    cases h2

/-! ### obligations about facts extracted from the current source (PyroModel/Gen/C02.lean) -/

def nm (s : String) : Name := s.toList.map Char.toNat

/-- the statement's reserved dunder names -/
def specReserved : List String :=
  ["__call__", "__class__", "__cmp__", "__coerce__", "__copy__", "__deepcopy__", "__del__", "__delattr__", "__dir__",
   "__enter__", "__eq__", "__exit__", "__format__", "__ge__", "__getattr__", "__getattribute__", "__getinitargs__",
   "__getnewargs__", "__getstate__", "__gt__", "__hasattr__", "__hash__", "__init__", "__init_subclass__",
   "__instancecheck__", "__le__", "__lt__", "__module__", "__ne__", "__new__", "__nonzero__", "__bool__",
   "__reduce__", "__reduce_ex__", "__repr__", "__setattr__", "__setstate__", "__sizeof__", "__str__",
   "__subclasscheck__", "__subclasshook__", "__weakref__"]

theorem nm_ofList {n : List Nat} (h : ∀ k ∈ n, k < 0xd800) : nm (String.ofList (n.map Char.ofNat)) = n := by
  rw [nm, String.toList_ofList, List.map_map]
  refine (List.map_congr_left fun k hk => ?_).trans (List.map_id n)
  simp only [Function.comp, Char.ofNat, Nat.isValidChar, h k hk, true_or, dite_true, id]
  rfl

/-- **C02_gen_reserved.**  The reserved table of the source is exactly the statement's list (as a set), the
    code-point table the model computes with is that table, and every reserved name has dunder form — so the
    table only *adds* names to what the underscore rule already hides. -/
theorem C02_gen_reserved :
    (∀ s ∈ Pyro.Gen.C02.reservedDundersText, s ∈ specReserved) ∧
    (∀ s ∈ specReserved, s ∈ Pyro.Gen.C02.reservedDundersText) ∧
    Pyro.Gen.C02.reservedDunders = Pyro.Gen.C02.reservedDundersText.map nm ∧
    (∀ n ∈ Pyro.Gen.C02.reservedDunders, n.length > 4 ∧ n.take 2 = [95, 95] ∧ n.drop (n.length - 2) = [95, 95]) := by
  -- the extractor sorts the table; the statement's list differs from it only in where `__bool__` stands
  have hp : specReserved.Perm Gen.C02.reservedDundersText := by
    rw [show Gen.C02.reservedDundersText = "__bool__" :: specReserved.erase "__bool__" by decide +kernel]
    exact List.perm_cons_erase (by decide +kernel)
  -- read from the code points to the text, so that no string literal has to be decoded
  have ht : Gen.C02.reservedDundersText = Gen.C02.reservedDunders.map fun n => String.ofList (n.map Char.ofNat) := by rfl
  have hv : ∀ n ∈ Gen.C02.reservedDunders, ∀ k ∈ n, k < 0xd800 := by decide +kernel
  refine ⟨fun s h => hp.mem_iff.mpr h, fun s h => hp.mem_iff.mp h, ?_, by decide +kernel⟩
  rw [ht, List.map_map]
  exact ((List.map_congr_left fun n hn => nm_ofList (hv n hn)).trans (List.map_id _)).symm

/-- **C02_gen_gates.**  The current source has all three repairs (F2a: data descriptors of the type refused
    before the instance is touched; F2c: both property gates test the name for privacy), handleRequest calls
    the gates in the modelled order, passes them exactly `method` resp. `vargs[0]` (and `vargs[1]`) — never the peer's
    whole argument tuple — and special-cases exactly `__getattr__` / `__setattr__`. -/
theorem C02_gen_gates :
    Fixed genCfg ∧
    Pyro.Gen.C02.dispatchGateCalls =
      ["_get_attribute", "_get_exposed_property_value", "_set_exposed_property_value", "_get_attribute"] ∧
    Pyro.Gen.C02.dispatchGateArgs = ["obj, method", "obj, vargs[0]", "obj, vargs[0], vargs[1]", "obj, method"] ∧
    Pyro.Gen.C02.dispatchMethodConsts.map nm = [nmGetattr, nmSetattr] :=
  ⟨⟨rfl, rfl, rfl⟩, rfl, rfl, by decide +kernel⟩

/-! #### the probed decision table: the real decorators and gate functions, called by the extractor, vs the model -/

namespace Probe

def keyOf : Nat → Name
  | 0 => [109]                                   -- "m"
  | 1 => [95, 109]                               -- "_m"
  | 2 => [95, 95, 109, 95, 95]                   -- "__m__"
  | _ => [95, 95, 99, 97, 108, 108, 95, 95]      -- "__call__"

def fnameOf (key : Name) : Nat → Name
  | 0 => key
  | 1 => [112, 117, 98]                          -- "pub"
  | _ => [95, 112]                               -- "_p"

def fnOpt (name : Name) (fid : Nat) : Nat → Option FnDecl
  | 0 => none
  | m => some ⟨name, fid, m == 2, false⟩

def valOf (vkind exposed call : Nat) (callId initId fid : Nat) : Val :=
  match vkind with
  | 0 => .data
  | 1 => .inst ⟨exposed != 0, call != 0, callId, initId⟩
  | 2 => .cls ⟨exposed != 0, call != 0, callId, initId⟩
  | _ => .fn ⟨[112, 108, 97, 105, 110], fid, exposed != 0, false⟩     -- "plain"

def memberOf (key : Name) (k a1 a2 a3 a4 a5 : Nat) : MemberDecl :=
  match k with
  | 0 => .func ⟨fnameOf key a3, 1, a1 != 0, a2 != 0⟩
  | 1 => .static ⟨fnameOf key a3, 1, a1 != 0, a2 != 0⟩
  | 2 => .clsm ⟨fnameOf key a3, 1, a1 != 0, a2 != 0⟩
  | 3 => .prop (a1 != 0) (fnOpt (fnameOf key a5) 1 a2) (fnOpt (fnameOf key a5) 2 a3) (fnOpt (fnameOf key a5) 3 a4)
  | _ => .attr (valOf a1 a2 a3 4 5 0)

/-- the row code of `Pyro.Gen.C02.probeTable` (same reading as `probe_shape` in harness/props/c02.py) -/
def decodeRow : List Nat → Option (List ClassDecl × List (Name × Val) × Name)
  | [ce, kk, bk, k, a1, a2, a3, a4, a5, _, _, ip, iv, ie, ic] =>
    let key := keyOf kk
    let member := memberOf key k a1 a2 a3 a4 a5
    let classes : List ClassDecl :=
      if bk == 0 then [⟨ce != 0, [(key, member)]⟩] else [⟨ce != 0, []⟩, ⟨false, [(key, member)]⟩]
    let inst : List (Name × Val) := if ip != 0 then [(key, valOf iv ie ic 6 7 8)] else []
    some (classes, inst, key)
  | _ => none

def errCode : Err → Nat
  | .priv => 1 | .unexposed => 2 | .unprop => 3 | .attr => 4 | .type => 5 | .index => 6

def gateOut (r : Except Err Unit × List Nat) : List Nat :=
  (match r.1 with
   | .ok _ => 0
   | .error e => errCode e) :: r.2

def b2n (b : Bool) : Nat := if b then 1 else 0

/-- what the model says the probes of one row yield -/
def model (cfg : Cfg) (code : List Nat) : List Nat :=
  match decodeRow code with
  | none => [99]
  | some (ds, inst, key) =>
    match buildShape ds inst with
    | .error e => [9, errCode e]
    | .ok sh =>
      let call : List Nat :=
        match getAttribute cfg sh (.str key) with
        | (.error e, eff) => errCode e :: eff
        | (.ok o, eff) =>
          match callObj o with
          | (.ok _, eff2) => 0 :: (eff ++ eff2)
          | (.error _, eff2) => 8 :: (eff ++ eff2)
      let md := metadata sh
      call ++ [100] ++ gateOut (getProp cfg sh (.str key)) ++ [100] ++ gateOut (setProp cfg sh (.str key)) ++ [100] ++
        [b2n (md.methods.contains key), b2n (md.oneway.contains key), b2n (md.attrs.contains key)]

end Probe

/-- **C02_gen_probes.**  On every row of the decision table that the extractor obtains by *calling* the real `expose`,
    `oneway`, `_get_attribute` (and what it returns), `_get_exposed_property_value`, `_set_exposed_property_value` and
    `_get_exposed_members` — every member kind and mark, under public / private / dunder / reserved keys, class exposed or
    not, inherited from an unexposed base, shadowed by instance attributes — the model computes the same outcome, effect
    log and advertised membership. -/
theorem C02_gen_probes : ∀ row ∈ Pyro.Gen.C02.probeTable, Probe.model genCfg row.1 = row.2 := by
  have h : Pyro.Gen.C02.probeTable.all (fun row => Probe.model genCfg row.1 == row.2) = true := by
    -- before evaluation: membership in an advertised list becomes a look-up of the name, and the appends are nested
    -- to the right
    simp only [Probe.model, Probe.gateOut, List.contains_eq_mem, mem_methods, mem_oneway, mem_attrs, Bool.decide_and,
      Bool.decide_eq_true, Bool.decide_eq_false, List.append_assoc, List.cons_append, List.nil_append]
    decide +kernel
  intro row hr
  have := List.all_eq_true.mp h row hr
  simpa using this

/-! ### non-vacuity: concrete shapes built by the model decorators -/

-- class Base: def m(self) (unexposed), @expose def go(self);  @expose class Sub(Base): def n(self); _x; p = property(get, set)
def exBase : ClassDecl :=
  { exposeClass := false
    members := [([109], .func ⟨[109], 1, false, false⟩), ([103, 111], .func ⟨[103, 111], 2, true, true⟩)] }
def exSub : ClassDecl :=
  { exposeClass := true
    members := [([110], .func ⟨[110], 3, false, false⟩), ([95, 120], .func ⟨[95, 120], 4, false, false⟩),
                ([112], .prop false (some ⟨[112], 5, false, false⟩) (some ⟨[112], 6, false, false⟩) none),
                ([100], .attr .data)] }
def exShape : Shape :=
  { mro := [{ members := [([110], .func ⟨[110], 3, true, false⟩), ([95, 120], .func ⟨[95, 120], 4, false, false⟩),
                          ([112], .prop (some ⟨[112], 5, true, false⟩) (some ⟨[112], 6, true, false⟩) none),
                          ([100], .attr .data)] },
            { members := [([109], .func ⟨[109], 1, false, false⟩), ([103, 111], .func ⟨[103, 111], 2, true, true⟩)] }]
    inst := [([105, 118], .data)] }

example : buildShape [exSub, exBase] [([105, 118], .data)] = .ok exShape := by rfl
-- the inherited unexposed `m` is refused although Sub is exposed as a class; `n`, `go` are served
example : dispatch genCfg exShape ⟨false, false, .str [109], []⟩ = (.error .unexposed, []) := by decide +kernel
example : dispatch genCfg exShape ⟨false, false, .str [110], []⟩ = (.result, [3]) := by decide +kernel
example : dispatch genCfg exShape ⟨false, true, .str [103, 111], []⟩ = (.none, [2]) := by decide +kernel
-- the property: refused as a call without running the getter, served as attribute read / write
example : dispatch genCfg exShape ⟨false, false, .str [112], []⟩ = (.error .unexposed, []) := by decide +kernel
example : dispatch genCfg exShape ⟨false, false, .str nmGetattr, [.str [112]]⟩ = (.result, [5]) := by decide +kernel
example : dispatch genCfg exShape ⟨false, false, .str nmSetattr, [.str [112], .hashable]⟩ = (.result, [6]) := by decide +kernel
-- private name, plain attribute, dotted path, non-string
example : dispatch genCfg exShape ⟨false, false, .str [95, 120], []⟩ = (.error .priv, []) := by decide +kernel
example : dispatch genCfg exShape ⟨false, false, .str [100], []⟩ = (.error .unexposed, []) := by decide +kernel
example : dispatch genCfg exShape ⟨false, false, .str [110, 46, 109], []⟩ = (.error .attr, []) := by decide +kernel
example : dispatch genCfg exShape ⟨false, false, .unhashable, []⟩ = (.error .type, []) := by decide +kernel
-- a batch stops at the first refused name; what ran before stays
example : dispatch genCfg exShape ⟨true, false, .str [], [.str [110], .str [103, 111], .str [109], .str [110]]⟩
    = (.error .unexposed, [3, 2]) := by decide +kernel
example : (metadata exShape).methods = [[110], [103, 111]] ∧ (metadata exShape).attrs = [[112]] ∧
    (metadata exShape).oneway = [[103, 111]] := by decide +kernel
example : Fixed genCfg := C02_gen_gates.1
example : NoExposedHelperAttr exShape := noExposedHelperAttr_of_check (by decide)
example : NoShadow exShape ∧ PropsUsable exShape ∧ Allowed exShape [110] ∧ ¬ Allowed exShape [109] := by
  refine ⟨?_, ?_, ⟨by decide, _, (by decide : lookupType [110] exShape.mro = some (.func ⟨[110], 3, true, false⟩)), rfl⟩, ?_⟩
  · intro n v h
    have := find?_mem h
    simp only [exShape, List.mem_singleton, Prod.mk.injEq] at this
    obtain ⟨rfl, _⟩ := this
    decide
  · intro n g s d h
    obtain ⟨c, hc, hm⟩ := lookupType_mem h
    simp only [exShape, List.mem_cons, List.not_mem_nil, or_false] at hc
    -- the property `p` is in the first class (it has a getter); the second has no property
    rcases hc with rfl | rfl
    · simp at hm
      simp [hm]
    · simp at hm
  · exact not_allowed (m := .func ⟨[109], 1, false, false⟩) (by decide +kernel) rfl
-- a history: `n` is served, then an unexposed function is put in the instance dict under `n`, then the exposed
-- override is deleted from the subclass: the same request is answered by the state of the moment
example : runHistory genCfg exShape
    [.req ⟨false, false, .str [110], []⟩, .step (.setInst [110] (.fn ⟨[110], 77, false, false⟩)),
     .req ⟨false, false, .str [110], []⟩, .step (.delInst [110]), .step (.delMember 0 [110]),
     .req ⟨false, false, .str [110], []⟩, .step (.setMember 1 [110] (.func ⟨[110], 78, false, false⟩)),
     .req ⟨false, false, .str [110], []⟩, .step (.setMember 0 [109] (.func ⟨[109], 79, true, false⟩)),
     .req ⟨false, false, .str [109], []⟩]
    = [(.result, [3]), (.error .unexposed, []), (.error .attr, []), (.error .unexposed, []), (.result, [79])] := by decide +kernel
-- the F2b witness does what the negative theorem says
example : dispatch genCfg f2bShape f2bReq = (.result, [8]) := by decide +kernel

end Pyro.C02

/-! ### the translated predicate: `is_private_attribute` regenerated from the source on every run -/

namespace Pyro.C02

open Pyro.Expose

theorem startsWith_one (n : List Nat) (a : Nat) : Pyro.PyLib.startsWith n [a] = (n.head? == some a) := by
  cases n with
  | nil => rfl
  | cons x t => simp [Pyro.PyLib.startsWith, List.isPrefixOf, Bool.beq_comm]

theorem startsWith_take (n p : List Nat) : Pyro.PyLib.startsWith n p = (n.take p.length == p) := by
  rw [Bool.eq_iff_iff, Pyro.PyLib.startsWith, List.isPrefixOf_iff_prefix, List.prefix_iff_eq_take, beq_iff_eq, eq_comm]

theorem endsWith_drop (n p : List Nat) : Pyro.PyLib.endsWith n p = (n.drop (n.length - p.length) == p) := by
  rw [Bool.eq_iff_iff, Pyro.PyLib.endsWith, List.isSuffixOf_iff_suffix, List.suffix_iff_eq_drop, beq_iff_eq, eq_comm]

/-- **C02_translated_private.**  The Lean definition that `harness/py2lean.py` regenerates from the body of
    `server.is_private_attribute` on every run denotes, for every name, the same predicate as the
    hand-written model's `isPrivate` that all gate theorems are about. -/
theorem C02_translated_private (n : List Nat) :
    Pyro.Gen.C02.is_private_attribute n = isPrivate n := by
  have htbl : Pyro.Gen.C02.is_private_attribute_tbl_private_dunder_methods = Pyro.Gen.C02.reservedDunders := rfl
  have hlen : decide (Int.ofNat n.length > (4 : Int)) = decide (n.length > 4) := by
    apply decide_eq_decide.mpr
    simp only [Int.ofNat_eq_natCast, gt_iff_lt]
    constructor <;> intro h <;> omega
  have hne : (n.head? != some 95) = !(n.head? == some 95) := rfl
  -- The transcription is brought to the model's five atoms; then both sides are Boolean functions of those atoms and
  -- are compared by cases, whatever statement structure the source has (if-chains, early returns, bound conditions).
  conv =>
    lhs
    unfold Pyro.Gen.C02.is_private_attribute
    simp only [htbl, startsWith_one, startsWith_take n [95, 95], endsWith_drop n [95, 95], hlen, List.length_cons,
      List.length_nil]
  unfold isPrivate isPrivateWith
  rewrite [hne]
  generalize Pyro.Gen.C02.reservedDunders.contains n = a
  generalize (n.head? == some 95) = b
  generalize decide (n.length > 4) = c
  generalize (List.take 2 n == [95, 95]) = d
  generalize (List.drop (n.length - 2) n == [95, 95]) = e
  cases a <;> cases b <;> cases c <;> cases d <;> cases e <;> rfl

end Pyro.C02
