/-
  C17Ast.lean — the source of receive_data / send_data, transcribed into PyIR on every run
  (PyroModel/Gen/C17.lean), computes exactly what the hand-written SockIO model computes.

  For `receive_data` each loop gets a specification function over the script (`innerSpec`, `waitSpec`): the model is
  read through it (`recvLoop_inner`, `recvWaitall_spec`) and the transcribed loop is shown to compute it (`inner_loop`,
  `wait_loop`).
-/
import PyroModel.PyIR
import PyroModel.Gen.C17
import PyroProps.C17

namespace Pyro.C17Ast

open Pyro Pyro.SockIO Pyro.PyIR

attribute [local simp] exec truth eval truthy List.lookup_cons

/-- the `except socket.timeout` / `except socket.error as x` clauses that the three retrying loops of the two functions
    share; `y` holds the errno -/
def retryHandlers (x y : String) : Stmt :=
  .excMatch .socketTimeout none (.raise_ (.mkExc .pyroTimeout))
    (.excMatch .osError (some x) (.seq (.assign y (.errnoOf (.var x)))
      (.seq (.ite (.not (.inRetries (.var y))) (.raise_ (.mkExc .connClosed)) .skip) .sleep)) .reraise)

theorem handlers_timeout (cfg : Cfg) (hsub : cfg.isSub = Gen.C17.isSub) (x y : String) (fuel : Nat) (env : Env)
    (w : World) :
    exec cfg (retryHandlers x y) fuel (some (.exc .socketTimeout false none)) env w
      = .raise (.exc .pyroTimeout false none) env w := by
  have h : Gen.C17.isSub .socketTimeout .socketTimeout = true := rfl
  simp only [retryHandlers, exec, eval, hsub, h, if_true]

theorem handlers_os (cfg : Cfg) (hsub : cfg.isSub = Gen.C17.isSub) (x y : String) (fuel : Nat) (r : Bool) (env : Env)
    (w : World) :
    exec cfg (retryHandlers x y) fuel (some (.exc .osError r none)) env w =
      if r then .normal ((y, .errno true) :: (x, .exc .osError true none) :: env) w
      else .raise (.exc .connClosed false none) ((y, .errno false) :: (x, .exc .osError false none) :: env) w := by
  have h1 : Gen.C17.isSub .osError .socketTimeout = false := rfl
  have h2 : Gen.C17.isSub .osError .osError = true := rfl
  cases r <;> simp [retryHandlers, hsub, h1, h2]

theorem handlers_closed (cfg : Cfg) (hsub : cfg.isSub = Gen.C17.isSub) (x y : String) (fuel : Nat) (p : Option Bytes)
    (env : Env) (w : World) :
    exec cfg (retryHandlers x y) fuel (some (.exc .connClosed false p)) env w = .raise (.exc .connClosed false p) env w := by
  have h1 : Gen.C17.isSub .connClosed .socketTimeout = false := rfl
  have h2 : Gen.C17.isSub .connClosed .osError = false := rfl
  simp [retryHandlers, hsub, h1, h2]

/-- send_data's non-blocking `while` loop, as generated -/
def sendLoopStmt : Stmt :=
  match Gen.C17.sendData with
  | .ite _ _ (.seq _ w) => w
  | _ => .skip

theorem sendLoopStmt_shape : sendLoopStmt = .while_ (.var "p1") (.try_ (.seq (.send "v2" (.var "p1"))
    (.assign "p1" (.sliceFrom (.var "p1") (.var "v2")))) (retryHandlers "v0" "v3")) := rfl

theorem send_loop (cfg : Cfg) (hsub : cfg.isSub = Gen.C17.isSub) :
    ∀ (script : List Ev) (fuel : Nat) (env : Env) (data acc st : Bytes),
      script.length + 1 ≤ fuel → env.lookup "p1" = some (.bytes data) →
      toSend (exec cfg sendLoopStmt fuel none env ⟨st, acc, script, []⟩) = some (sendLoop data acc script) := by
  rw [sendLoopStmt_shape]
  intro script
  induction script with
  | nil =>
    intro fuel env data acc st hf henv
    cases fuel with
    | zero => exact absurd hf (Nat.not_succ_le_zero _)
    | succ f => cases data <;> simp [henv, sys, toSend, sendLoop]
  | cons ev rest ih =>
    intro fuel env data acc st hf henv
    cases fuel with
    | zero => exact absurd hf (Nat.not_succ_le_zero _)
    | succ f =>
      have hf' : rest.length + 1 ≤ f := Nat.le_of_succ_le_succ hf
      cases data with
      | nil => simp [henv, toSend, sendLoop]
      | cons b bs =>
        -- after a retryable error the handlers have bound the exception and its errno
        have retry := ih f (("v3", .errno true) :: ("v0", .exc .osError true none) :: env) (b :: bs) acc st hf'
          (by simp [henv])
        cases ev with
        | deliver k =>
          have := ih f (("p1", .bytes ((b :: bs).drop (min k (b :: bs).length))) ::
            ("v2", .int ↑(min k (b :: bs).length)) :: env) ((b :: bs).drop (min k (b :: bs).length))
            (acc ++ (b :: bs).take (min k (b :: bs).length)) st hf' (by simp)
          simpa [henv, sys, sendLoop] using this
        | retryable => simpa [henv, sys, handlers_os cfg hsub, sendLoop] using retry
        | fatal => simp [henv, sys, handlers_os cfg hsub, sendLoop, toSend]
        | timeout => simp [henv, sys, handlers_timeout cfg hsub, sendLoop, toSend]
        | partialFail k r =>
          cases r with
          | true => simpa [henv, sys, handlers_os cfg hsub, sendLoop] using retry
          | false => simp [henv, sys, handlers_os cfg hsub, sendLoop, toSend]

/-- **send_data, as written now, is the model's `send`** -/
theorem send_translated (cfg : Cfg) (hsub : cfg.isSub = Gen.C17.isSub) (data : Bytes) (script : List Ev) :
    toSend (runSend cfg Gen.C17.sendData data script) = some (SockIO.send cfg.blocking data script) := by
  have shape : Gen.C17.sendData = .ite .timeoutIsNone
      (.try_ (.seq (.sendall (.var "p1")) (.ret (.lit .none))) (.excMatch .socketTimeout none
        (.raise_ (.mkExc .pyroTimeout)) (.excMatch .osError (some "v0") (.raise_ (.mkExc .connClosed)) .reraise)))
      (.seq (.assign "v1" .delays) sendLoopStmt) := rfl
  rw [shape]
  cases hb : cfg.blocking with
  | true =>
    have h1 : Gen.C17.isSub .socketTimeout .socketTimeout = true := rfl
    have h2 : Gen.C17.isSub .osError .socketTimeout = false := rfl
    have h3 : Gen.C17.isSub .osError .osError = true := rfl
    cases script with
    | nil => simp [runSend, toSend, SockIO.send, sys, hb]
    | cons ev rest =>
      cases ev <;>
        simp [runSend, toSend, SockIO.send, sys, hb, hsub, h1, h2, h3]
  | false =>
    simpa [runSend, SockIO.send, hb] using
      send_loop cfg hsub script (script.length + 2) [("v1", .opaque), ("p1", .bytes data)] data [] []
        (Nat.le_succ _) (by simp)

/-! ### receive_data -/

inductive InnerOut where
  | done | retry | fatal | timeout | scriptEnd

/-- what the inner `while msglen < size` loop does, event by event (it stops at the first raising call) -/
def innerSpec (size : Nat) (data stream : Bytes) : List Ev → InnerOut × Bytes × Bytes × List Ev
  | [] => if data.length < size then (.scriptEnd, data, stream, []) else (.done, data, stream, [])
  | ev :: rest =>
    if data.length < size then
      match ev with
      | .deliver k =>
        let n := min k (min recvCap (size - data.length))
        if (stream.take n).isEmpty then (.done, data, stream, rest)
        else innerSpec size (data ++ stream.take n) (stream.drop n) rest
      | .retryable => (.retry, data, stream, rest)
      | .fatal => (.fatal, data, stream, rest)
      | .timeout => (.timeout, data, stream, rest)
      | .partialFail _ true => (.retry, data, stream, rest)
      | .partialFail _ false => (.fatal, data, stream, rest)
    else (.done, data, stream, ev :: rest)

theorem innerSpec_len (size : Nat) (script : List Ev) (data stream : Bytes) :
    (innerSpec size data stream script).2.2.2.length ≤ script.length ∧
    ((innerSpec size data stream script).1 = .retry → (innerSpec size data stream script).2.2.2.length < script.length) := by
  fun_induction innerSpec size data stream script
  -- case4 is the non-empty delivery, the one recursive branch of `innerSpec`
  case case4 ih => exact ⟨Nat.le_succ_of_le ih.1, fun h => Nat.lt_succ_of_lt (ih.2 h)⟩
  all_goals simp

/-- the model's loop, read as "run the inner loop, then look at how it ended" -/
theorem recvLoop_inner (size : Nat) (script : List Ev) (data stream : Bytes) :
    recvLoop size data stream script =
      match innerSpec size data stream script with
      | (.done, d, st, sc) => recvFinish size d st sc
      | (.retry, d, st, sc) => recvLoop size d st sc
      | (.fatal, _, st, sc) => (.closed none, st, sc)
      | (.timeout, _, st, sc) => (.timeout, st, sc)
      | (.scriptEnd, _, st, sc) => (.scriptEnd, st, sc) := by
  fun_induction innerSpec size data stream script
  -- case3: a delivery that comes back empty; case4: a non-empty one (the recursive branch)
  case case3 h _ _ hc =>
    simp only [recvLoop, h, if_true]
    exact (if_pos hc).trans (by simp only [recvFinish, Nat.ne_of_lt h, if_false])
  case case4 h _ _ hc ih =>
    simp only [recvLoop, h, if_true]
    exact (if_neg hc).trans ih
  all_goals simp only [recvLoop, *, if_true, if_false]

/-! The pieces of `receive_data` as generated; `receiveData_shape` checks that they are. -/

/-- `while msglen < size:` with its body -/
def innerStmt : Stmt :=
  .while_ (.lt (.var "v1") (.var "p1"))
    (.seq (.recv "v3" (.min (.lit (.int 60000)) (.sub (.var "p1") (.var "v1"))))
      (.seq (.ite (.not (.var "v3")) .brk .skip) (.seq (.extend "v2" (.var "v3")) (.augAdd "v1" (.len (.var "v3"))))))

/-- after the inner loop: `if len(data) != size: raise ConnectionClosedError` with partialData, else `return data` -/
def finishStmt : Stmt :=
  .seq (.ite (.ne (.len (.var "v2")) (.var "p1"))
      (.seq (.assign "v5" (.mkExc .connClosed)) (.seq (.setPartial "v5" (.var "v2")) (.raise_ (.var "v5")))) .skip)
    (.ret (.var "v2"))

/-- the chunk-gathering `while True` loop, used when MSG_WAITALL is not (the source calls it "old fashioned") -/
def oldStmt : Stmt :=
  .while_ (.lit (.bool true)) (.try_ (.seq innerStmt finishStmt) (retryHandlers "v4" "v5"))

/-- the MSG_WAITALL `while True` loop: one `recv` for the whole message, `break` into `oldStmt` when it came short -/
def waitStmt : Stmt :=
  .while_ (.lit (.bool true)) (.try_
    (.seq (.recv "v3" (.var "p1")) (.seq (.ite (.eq (.len (.var "v3")) (.var "p1")) (.ret (.var "v3")) .skip)
      (.seq (.assign "v1" (.len (.var "v3"))) (.seq (.extend "v2" (.var "v3")) .brk))))
    (retryHandlers "v4" "v5"))

/-- `USE_MSG_WAITALL and not hasattr(sock, "getpeercert")` -/
def waitCond : Expr := .and .useWaitall (.not (.sockHasattr "getpeercert"))

/-- the `except socket.timeout` around the whole function -/
def outerH : Stmt := .excMatch .socketTimeout none (.raise_ (.mkExc .pyroTimeout)) .reraise

theorem receiveData_shape : Gen.C17.receiveData =
    .try_ (.seq (.assign "v0" .delays) (.seq (.assign "v1" (.lit (.int 0))) (.seq (.assign "v2" .emptyBytes)
      (.seq (.ite waitCond waitStmt .skip) oldStmt)))) outerH := rfl

/-- the loops keep `size`, `msglen` and `data` in these three variables -/
structure EnvOK (env : Env) (size : Nat) (data : Bytes) : Prop where
  hsize : env.lookup "p1" = some (.int size)
  hlen : env.lookup "v1" = some (.int data.length)
  hdata : env.lookup "v2" = some (.bytes data)

theorem EnvOK.push {env : Env} {size : Nat} {data : Bytes} (ok : EnvOK env size data) (x : String) (v : Val)
    (hx : ("p1" == x) = false ∧ ("v1" == x) = false ∧ ("v2" == x) = false) : EnvOK ((x, v) :: env) size data :=
  ⟨by simp only [List.lookup_cons, hx.1, ok.hsize], by simp only [List.lookup_cons, hx.2.1, ok.hlen],
    by simp only [List.lookup_cons, hx.2.2, ok.hdata]⟩

/-- the interpreter result that an outcome of `innerSpec` stands for -/
def innerRes (r : InnerOut × Bytes × Bytes × List Ev) (env : Env) (sent : Bytes) : Res :=
  match r with
  | (.done, _, st, sc) => .normal env ⟨st, sent, sc, []⟩
  | (.retry, _, st, sc) => .raise (.exc .osError true none) env ⟨st, sent, sc, []⟩
  | (.fatal, _, st, sc) => .raise (.exc .osError false none) env ⟨st, sent, sc, []⟩
  | (.timeout, _, st, sc) => .raise (.exc .socketTimeout false none) env ⟨st, sent, sc, []⟩
  | (.scriptEnd, _, st, sc) => .scriptEnd ⟨st, sent, sc, []⟩

theorem cap_int (size len : Nat) (h : len < size) :
    (if (60000 : Int) ≤ (size : Int) - (len : Int) then (60000 : Int) else (size : Int) - (len : Int))
      = ((min recvCap (size - len) : Nat) : Int) := by
  unfold recvCap
  split <;> omega

theorem drop_of_take_empty (n : Nat) (l : Bytes) (h : (l.take n).isEmpty = true) : l.drop n = l := by
  cases n with
  | zero => rfl
  | succ m => cases l with
    | nil => rfl
    | cons a t => simp at h

theorem inner_raises (cfg : Cfg) {size fuel : Nat} {cur : Option Val} {env : Env} {data stream sent : Bytes}
    {script rest : List Ev} {e : Val} (ok : EnvOK env size data) (h : data.length < size)
    (hs : sys script = .err e rest ∨ ∃ k, sys script = .sentThenErr k e rest) :
    exec cfg innerStmt (fuel + 1) cur env ⟨stream, sent, script, []⟩ = .raise e env ⟨stream, sent, rest, []⟩ := by
  have hneg : ¬ ((min recvCap (size - data.length) : Nat) : Int) < 0 := Int.not_lt.mpr (Int.natCast_nonneg _)
  rcases hs with hs | ⟨k, hs⟩ <;>
    simp [innerStmt, ok.hsize, ok.hlen, h, hs, cap_int size data.length h, hneg]

theorem inner_loop (cfg : Cfg) (size : Nat) :
    ∀ (script : List Ev) (fuel : Nat) (cur : Option Val) (env : Env) (data stream sent : Bytes),
      script.length + 1 ≤ fuel → EnvOK env size data →
      ∃ env', EnvOK env' size (innerSpec size data stream script).2.1 ∧
        exec cfg innerStmt fuel cur env ⟨stream, sent, script, []⟩
          = innerRes (innerSpec size data stream script) env' sent := by
  intro script
  induction script with
  | nil =>
    intro fuel cur env data stream sent hf ok
    cases fuel with
    | zero => exact absurd hf (Nat.not_succ_le_zero _)
    | succ f =>
      refine ⟨env, ?_, ?_⟩
      · simp only [innerSpec]; split <;> exact ok
      · by_cases h : data.length < size
        · have hneg : ¬ ((min recvCap (size - data.length) : Nat) : Int) < 0 := Int.not_lt.mpr (Int.natCast_nonneg _)
          simp [innerStmt, ok.hsize, ok.hlen, innerSpec, innerRes, h, sys, cap_int size data.length h, hneg]
        · simp [innerStmt, ok.hsize, ok.hlen, innerSpec, innerRes, h]
  | cons ev rest ih =>
    intro fuel cur env data stream sent hf ok
    cases fuel with
    | zero => exact absurd hf (Nat.not_succ_le_zero _)
    | succ f =>
      have hf' : rest.length + 1 ≤ f := Nat.le_of_succ_le_succ hf
      by_cases h : data.length < size
      · have hneg : ¬ ((min recvCap (size - data.length) : Nat) : Int) < 0 := Int.not_lt.mpr (Int.natCast_nonneg _)
        cases ev with
        | deliver k =>
          generalize hn : min k (min recvCap (size - data.length)) = n
          have e : innerSpec size data stream (.deliver k :: rest) = if (stream.take n).isEmpty
              then (.done, data, stream, rest) else innerSpec size (data ++ stream.take n) (stream.drop n) rest := by
            simp only [innerSpec, h, if_true, hn]
          rw [e]
          by_cases hc : (stream.take n).isEmpty
          · rw [if_pos hc]
            refine ⟨("v3", .bytes (stream.take n)) :: env, ok.push _ _ (by simp), ?_⟩
            simp [innerStmt, ok.hsize, ok.hlen, innerRes, h, sys, cap_int size data.length h, hneg, hn, hc]
            exact drop_of_take_empty _ _ hc
          · rw [if_neg hc]
            obtain ⟨env', ok', he⟩ := ih f cur (("v1", .int ((data.length : Int) + ((stream.take n).length : Int))) ::
              ("v2", .bytes (data ++ stream.take n)) :: ("v3", .bytes (stream.take n)) :: env)
              (data ++ stream.take n) (stream.drop n) sent hf' ⟨by simp [ok.hsize], by simp, by simp⟩
            refine ⟨env', ok', ?_⟩
            simp only [innerStmt] at he
            simp [innerStmt, ok.hsize, ok.hlen, ok.hdata, h, sys, cap_int size data.length h, hneg, hn, hc]
            simpa using he
        | retryable | fatal | timeout =>
          rw [inner_raises cfg ok h (.inl rfl)]
          simp only [innerSpec, h, if_true]
          exact ⟨env, ok, rfl⟩
        | partialFail k r =>
          rw [inner_raises cfg ok h (.inr ⟨k, rfl⟩)]
          cases r with
          | true | false =>
            simp only [innerSpec, h, if_true]
            exact ⟨env, ok, rfl⟩
      · refine ⟨env, ?_, ?_⟩
        · simp only [innerSpec, h, if_false]; exact ok
        · simp [innerStmt, ok.hsize, ok.hlen, innerSpec, innerRes, h]

theorem finish_run (cfg : Cfg) {size fuel : Nat} {cur : Option Val} {env : Env} {d : Bytes} {w : World}
    (ok : EnvOK env size d) :
    exec cfg finishStmt fuel cur env w =
      if d.length = size then .ret (.bytes d) w
      else .raise (.exc .connClosed false (some d))
        (("v5", .exc .connClosed false (some d)) :: ("v5", .exc .connClosed false none) :: env) w := by
  by_cases hds : d.length = size
  · simp [finishStmt, ok.hsize, ok.hdata, hds]
  · have hne : ((d.length : Int) != (size : Int)) = true := by
      simp only [bne_iff_ne, ne_eq, Int.natCast_inj]; exact hds
    simp [finishStmt, ok.hsize, ok.hdata, hds, hne]

/-- by induction on the length of the script: a pass of the outer `while True` that comes round again has consumed
    the event that raised -/
theorem old_loop (cfg : Cfg) (hsub : cfg.isSub = Gen.C17.isSub) (size : Nat) :
    ∀ (n : Nat) (script : List Ev), script.length = n →
    ∀ (fuel : Nat) (cur : Option Val) (env : Env) (data stream sent : Bytes),
      script.length + 1 ≤ fuel → EnvOK env size data →
      toRecv (exec cfg oldStmt fuel cur env ⟨stream, sent, script, []⟩) = some (recvLoop size data stream script) := by
  intro n
  induction n using Nat.strongRecOn with
  | _ n ih =>
    intro script hn fuel cur env data stream sent hf ok
    cases fuel with
    | zero => exact absurd hf (Nat.not_succ_le_zero _)
    | succ f =>
      obtain ⟨env', ok', he⟩ := inner_loop cfg size script (f + 1) cur env data stream sent hf ok
      have hlen := innerSpec_len size script data stream
      rw [recvLoop_inner]
      rcases hsp : innerSpec size data stream script with ⟨o, d, st, sc⟩
      rw [hsp] at he ok' hlen
      simp only [] at ok' hlen
      cases o with
      | done =>
        by_cases hds : d.length = size <;>
          simp [oldStmt, he, innerRes, finish_run cfg ok', recvFinish, hds, handlers_closed cfg hsub, toRecv]
      | retry =>
        have hsc : sc.length < script.length := hlen.2 rfl
        have := ih sc.length (hn ▸ hsc) sc rfl f cur
          (("v5", Val.errno true) :: ("v4", Val.exc .osError true none) :: env') d st sent
          (Nat.le_trans hsc (Nat.le_of_succ_le_succ hf)) ((ok'.push _ _ (by simp)).push _ _ (by simp))
        simpa [oldStmt, he, innerRes, handlers_os cfg hsub] using this
      | fatal => simp [oldStmt, he, innerRes, handlers_os cfg hsub, toRecv]
      | timeout => simp [oldStmt, he, innerRes, handlers_timeout cfg hsub, toRecv]
      | scriptEnd => simp [oldStmt, he, innerRes, toRecv]

/-! #### the MSG_WAITALL loop -/

/-- how the MSG_WAITALL loop ends; `fall` = the chunk came short and control falls through to `oldStmt` -/
inductive WaitOut where
  | ok | fall | fatal | timeout | scriptEnd

/-- what the MSG_WAITALL loop does, event by event: outcome, chunk received, stream and script left -/
def waitSpec (size : Nat) (stream : Bytes) : List Ev → WaitOut × Bytes × Bytes × List Ev
  | [] => (.scriptEnd, [], stream, [])
  | .deliver k :: rest =>
    if (stream.take (min k size)).length = size then (.ok, stream.take (min k size), stream.drop (min k size), rest)
    else (.fall, stream.take (min k size), stream.drop (min k size), rest)
  | .retryable :: rest => waitSpec size stream rest
  | .fatal :: rest => (.fatal, [], stream, rest)
  | .timeout :: rest => (.timeout, [], stream, rest)
  | .partialFail _ true :: rest => waitSpec size stream rest
  | .partialFail _ false :: rest => (.fatal, [], stream, rest)

theorem recvWaitall_spec (size : Nat) (stream : Bytes) (script : List Ev) :
    recvWaitall size stream script =
      match waitSpec size stream script with
      | (.ok, c, st, sc) => (.ok c, st, sc)
      | (.fall, c, st, sc) => recvLoop size c st sc
      | (.fatal, _, st, sc) => (.closed none, st, sc)
      | (.timeout, _, st, sc) => (.timeout, st, sc)
      | (.scriptEnd, _, st, sc) => (.scriptEnd, st, sc) := by
  fun_induction waitSpec size stream script
  -- case2 / case3: a delivery of the full size / a short one
  case case2 hk => simp only [recvWaitall, hk, if_true]
  case case3 hk => simp only [recvWaitall, hk, if_false]
  all_goals simp only [recvWaitall, *]

theorem waitSpec_len (size : Nat) (stream : Bytes) (script : List Ev) :
    (waitSpec size stream script).2.2.2.length ≤ script.length := by
  fun_induction waitSpec size stream script
  -- case4 / case7: the retryable events, the recursive branches of `waitSpec`
  case case4 ih | case7 ih => exact Nat.le_succ_of_le ih
  all_goals simp

/-- the interpreter result that an outcome of `waitSpec` stands for -/
def waitRes (r : WaitOut × Bytes × Bytes × List Ev) (env : Env) (sent : Bytes) : Res :=
  match r with
  | (.ok, c, st, sc) => .ret (.bytes c) ⟨st, sent, sc, []⟩
  | (.fall, _, st, sc) => .normal env ⟨st, sent, sc, []⟩
  | (.fatal, _, st, sc) => .raise (.exc .connClosed false none) env ⟨st, sent, sc, []⟩
  | (.timeout, _, st, sc) => .raise (.exc .pyroTimeout false none) env ⟨st, sent, sc, []⟩
  | (.scriptEnd, _, st, sc) => .scriptEnd ⟨st, sent, sc, []⟩

theorem wait_loop (cfg : Cfg) (hsub : cfg.isSub = Gen.C17.isSub) (size : Nat) :
    ∀ (script : List Ev) (fuel : Nat) (cur : Option Val) (env : Env) (stream sent : Bytes),
      script.length + 1 ≤ fuel → EnvOK env size [] →
      ∃ env', exec cfg waitStmt fuel cur env ⟨stream, sent, script, []⟩ = waitRes (waitSpec size stream script) env' sent ∧
        ((waitSpec size stream script).1 = .fall → EnvOK env' size (waitSpec size stream script).2.1) := by
  have hn : ¬ ((size : Int) < 0) := Int.not_lt.mpr (Int.natCast_nonneg _)
  intro script
  induction script with
  | nil =>
    intro fuel cur env stream sent hf ok
    cases fuel with
    | zero => exact absurd hf (Nat.not_succ_le_zero _)
    | succ f =>
      refine ⟨env, ?_, ?_⟩
      · simp [waitStmt, ok.hsize, waitSpec, waitRes, sys, hn]
      · simp [waitSpec]
  | cons ev rest ih =>
    intro fuel cur env stream sent hf ok
    cases fuel with
    | zero => exact absurd hf (Nat.not_succ_le_zero _)
    | succ f =>
      have hf' : rest.length + 1 ≤ f := Nat.le_of_succ_le_succ hf
      -- after a retryable error the handlers have bound the exception and its errno
      have retry := ih f cur (("v5", Val.errno true) :: ("v4", Val.exc .osError true none) :: env) stream sent hf'
        ((ok.push _ _ (by simp)).push _ _ (by simp))
      simp only [waitStmt] at retry
      match ev with
      | .deliver k =>
        by_cases hk : (stream.take (min k size)).length = size
        · refine ⟨env, ?_, ?_⟩
          · simp [waitStmt, ok.hsize, waitSpec, waitRes, sys, hn, hk]
          · simp [waitSpec, hk]
        · refine ⟨("v2", .bytes (stream.take (min k size))) :: ("v1", .int ((stream.take (min k size)).length : Int)) ::
            ("v3", .bytes (stream.take (min k size))) :: env, ?_, ?_⟩
          · have hk' : ¬ (min k (min size stream.length) = size) := by simpa [List.length_take] using hk
            have hkI : (((min k (min size stream.length) : Nat) : Int) == (size : Int)) = false := by
              simp only [beq_eq_false_iff_ne, ne_eq, Int.natCast_inj]; exact hk'
            simp [waitStmt, ok.hsize, ok.hdata, waitSpec, waitRes, sys, hn, hk', hkI]
          · intro _
            simp only [waitSpec, hk, if_false]
            exact ⟨by simp [ok.hsize], by simp, by simp⟩
      | .retryable | .partialFail _ true =>
        obtain ⟨env', he, hok⟩ := retry
        refine ⟨env', ?_, by simpa [waitSpec] using hok⟩
        simpa [waitStmt, ok.hsize, waitSpec, sys, handlers_os cfg hsub, hn] using he
      | .fatal | .partialFail _ false =>
        refine ⟨("v5", Val.errno false) :: ("v4", Val.exc .osError false none) :: env, ?_, by simp [waitSpec]⟩
        simp [waitStmt, ok.hsize, waitSpec, waitRes, sys, handlers_os cfg hsub, hn]
      | .timeout =>
        refine ⟨env, ?_, by simp [waitSpec]⟩
        simp [waitStmt, ok.hsize, waitSpec, waitRes, sys, handlers_timeout cfg hsub, hn]

/-! #### the whole function -/

/-- the function's outer `except socket.timeout` leaves every outcome the loops can produce as it is -/
theorem outer_wrap (cfg : Cfg) (hsub : cfg.isSub = Gen.C17.isSub) (fuel : Nat) (r : Res)
    (x : RecvResult × Bytes × List Ev) :
    toRecv r = some x →
    toRecv (match r with
      | .raise e env w => exec cfg outerH fuel (some e) env w
      | r => r) = some x := by
  intro h
  have h1 : Gen.C17.isSub .connClosed .socketTimeout = false := rfl
  have h2 : Gen.C17.isSub .pyroTimeout .socketTimeout = false := rfl
  cases r with
  | raise e env w =>
    cases e with
    | exc c rr p =>
      cases c with
      | connClosed | pyroTimeout => simpa [outerH, hsub, h1, h2, toRecv] using h
      | _ => simp [toRecv] at h
    | _ => simp [toRecv] at h
  | _ => simpa using h

/-- **receive_data, as written now, is the model's `receive`** -/
theorem recv_translated (cfg : Cfg) (hsub : cfg.isSub = Gen.C17.isSub) (size : Nat) (stream : Bytes) (script : List Ev) :
    toRecv (runRecv cfg Gen.C17.receiveData size stream script)
      = some (SockIO.receive (cfg.useWaitall && !cfg.peercert) size stream script) := by
  rw [receiveData_shape]
  unfold runRecv
  generalize hF : script.length + 2 = F
  have okE : EnvOK [("v2", .bytes []), ("v1", .int 0), ("v0", .opaque), ("p1", .int size)] size [] :=
    ⟨by simp, by simp, by simp⟩
  cases hw : (cfg.useWaitall && !cfg.peercert) with
  | false =>
    have := old_loop cfg hsub size _ script rfl F none _ [] stream [] (hF ▸ Nat.le_succ _) okE
    simp [waitCond, SockIO.receive, hw]
    exact outer_wrap cfg hsub F _ _ this
  | true =>
    obtain ⟨env', he, hok⟩ := wait_loop cfg hsub size script F none _ stream [] (hF ▸ Nat.le_succ _) okE
    have hlen := waitSpec_len size stream script
    simp only [SockIO.receive, if_true]
    rw [recvWaitall_spec]
    rcases hsp : waitSpec size stream script with ⟨o, c, st, sc⟩
    rw [hsp] at he hok hlen
    simp only [] at hok hlen
    cases o with
    | fall =>
      have := old_loop cfg hsub size _ sc rfl F none env' c st []
        (Nat.le_trans (Nat.succ_le_succ hlen) (hF ▸ Nat.le_succ _)) (hok rfl)
      simp [waitCond, hw, he, waitRes]
      exact outer_wrap cfg hsub F _ _ this
    | ok => simp [waitCond, hw, he, waitRes, toRecv]
    | fatal =>
      simpa [waitCond, hw, he, waitRes] using
        outer_wrap cfg hsub F (.raise (.exc .connClosed false none) env' ⟨st, [], sc, []⟩) _ rfl
    | timeout =>
      simpa [waitCond, hw, he, waitRes] using
        outer_wrap cfg hsub F (.raise (.exc .pyroTimeout false none) env' ⟨st, [], sc, []⟩) _ rfl
    | scriptEnd => simp [waitCond, hw, he, waitRes, toRecv]

/-! ### C17, stated about the source as it is written now

`runRecv cfg Gen.C17.receiveData size stream script` runs the transcription of `receive_data` over a peer stream
and a socket script; `cfg` ranges over MSG_WAITALL on/off, ssl / plain sockets, blocking / timeout mode. -/

/-- the transcribed `receive_data` never leaves the fragment, never runs out of fuel and never raises anything but the
    two documented errors: its outcome is always data, ConnectionClosedError, TimeoutError (or the script ran out) -/
theorem C17_source_recv_outcomes (cfg : Cfg) (hsub : cfg.isSub = Gen.C17.isSub) (size : Nat) (stream : Bytes) (script : List Ev) :
    (toRecv (runRecv cfg Gen.C17.receiveData size stream script)).isSome := by
  rw [recv_translated cfg hsub]; rfl

/-- if it returns, it returns exactly the next `size` bytes and leaves exactly the rest unread -/
theorem C17_source_recv_exact (cfg : Cfg) (hsub : cfg.isSub = Gen.C17.isSub) (size : Nat) (stream : Bytes) (script : List Ev)
    (b : Bytes) (w : World) (h : runRecv cfg Gen.C17.receiveData size stream script = .ret (.bytes b) w) :
    b = stream.take size ∧ w.stream = stream.drop size ∧ b.length = size := by
  have := recv_translated cfg hsub size stream script
  rw [h] at this
  simp only [toRecv, Option.some.injEq] at this
  exact Pyro.C17.C17_recv_exact _ size stream script b w.stream w.script this.symm

/-- a ConnectionClosedError that carries partialData carries exactly the bytes consumed so far, fewer than asked for -/
theorem C17_source_recv_fail (cfg : Cfg) (hsub : cfg.isSub = Gen.C17.isSub) (size : Nat) (stream : Bytes) (script : List Ev)
    (r : Bool) (p : Bytes) (env : Env) (w : World)
    (h : runRecv cfg Gen.C17.receiveData size stream script = .raise (.exc .connClosed r (some p)) env w) :
    p.length < size ∧ stream = p ++ w.stream := by
  have := recv_translated cfg hsub size stream script
  rw [h] at this
  simp only [toRecv, Option.some.injEq] at this
  exact Pyro.C17.C17_recv_fail _ size stream script p w.stream w.script this.symm

/-- `send_data`: what the peer accepted is a prefix of the buffer, and the whole buffer if the call returned -/
theorem C17_source_send (cfg : Cfg) (hsub : cfg.isSub = Gen.C17.isSub) (data : Bytes) (script : List Ev) :
    ∃ out, toSend (runSend cfg Gen.C17.sendData data script) = some out ∧
      out.2.1 <+: data ∧ (out.1 = .ok → out.2.1 = data) := by
  refine ⟨_, send_translated cfg hsub data script, ?_⟩
  exact Pyro.C17.C17_send cfg.blocking data script

/-- non-vacuity: a concrete run of the transcribed source (MSG_WAITALL, fragmented, one retryable error) -/
example : toRecv (runRecv { useWaitall := true, peercert := false, blocking := true, isSub := Gen.C17.isSub } Gen.C17.receiveData 5 [1,2,3,4,5,6,7]
    [.retryable, .deliver 3, .deliver 1, .retryable, .deliver 9]) = some (.ok [1,2,3,4,5], [6,7], []) := by
  rw [recv_translated _ rfl]; decide

end Pyro.C17Ast
