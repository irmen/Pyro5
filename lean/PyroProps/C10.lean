/-
  C10 — A remote iterator delivers exactly the server's items, once, in order.

  Sequential part (quantifiers "histories", "configurations"): theorems about every history of
  open / next / close / disconnect / housekeeping / tick operations on the stream table
  (PyroModel/Streams.lean), for every setting of streaming, lifetime and linger, and about the client
  iterator driving it.  Concurrent part (quantifier "schedules"): theorems about every interleaving
  of the micro-steps of concurrently running calls (PyroModel/StreamsRace.lean).
  The facts about the source that the models rest on are re-extracted on every run
  (PyroModel/Gen/C10.lean) and checked by the `C10_gen_*` obligations.
-/
import PyroModel.Streams
import PyroModel.StreamsRace
import PyroModel.Gen.C10
import PyroProofs.Streams
import PyroProofs.StreamsRace
import PyroProofs.Lock

namespace Pyro.C10

open Pyro Pyro.Streams

/-! ## obligations about the extracted facts

  The facts are obtained by PROBING the real code at extraction time (harness/props/c10_probe.py): the real
  methods are called on prepared stream tables under a controlled clock, with recording / vanishing
  stand-ins for the dict and the lock.  They do not depend on how the source is spelled. -/

/-- the model's answer to a housekeeping probe row: which of the entries survive `doHousekeeping` -/
def hkModel (row : Int × Int × Nat × List (Option Nat × Nat × Nat) × List Bool) : List Bool :=
  let es := row.2.2.2.1
  let table : Table := (List.range es.length).zip es |>.map fun p =>
    (p.1, { owner := p.2.1, created := p.2.2.1, linger := p.2.2.2, rest := [] })
  let st := doHousekeeping { streaming := true, lifetime := row.1, linger := row.2.1 }
    { table := table, now := row.2.2.1, nextId := es.length }
  (List.range es.length).map fun i => (st.table.get i).isSome

/-- the model's answer to a disconnect probe row: per entry removed, or (owner, linger start) -/
def discModel (row : Int × Nat × List (Option Nat × Nat × Nat) × List (Option (Option Nat × Nat))) :
    List (Option (Option Nat × Nat)) :=
  let es := row.2.2.1
  let table : Table := (List.range es.length).zip es |>.map fun p =>
    (p.1, { owner := p.2.1, created := p.2.2.1, linger := p.2.2.2, rest := [] })
  let st := doDisconnect { streaming := true, lifetime := 0, linger := row.1 }
    { table := table, now := row.2.1, nextId := es.length } 0
  (List.range es.length).map fun i => (st.table.get i).map fun e => (e.owner, e.linger)

/-- **C10_gen_expiry_probe.**  On every probed table (5 settings of lifetime / linger incl. disabled and
    negative; entries with and without owner, created exactly at / one before / one after the lifetime
    boundary, linger start 0 / at / before / after the linger boundary; the empty table) one real
    `_housekeeping()` pass keeps exactly the entries `doHousekeeping` keeps. -/
theorem C10_gen_expiry_probe :
    Pyro.Gen.C10.hkProbe.length = 10 ∧ ∀ row ∈ Pyro.Gen.C10.hkProbe, hkModel row = row.2.2.2.2 := by
  decide +kernel

/-- **C10_gen_disconnect_probe.**  On the probed tables (linger 0 / 4 / −3; entries owned by the ending
    connection, by another one, by nobody; lingering or not) one real `_clientDisconnect` leaves exactly
    what `doDisconnect` leaves (dropped, or owner `None` with linger start = now, or untouched). -/
theorem C10_gen_disconnect_probe :
    Pyro.Gen.C10.discProbe.length = 3 ∧ ∀ row ∈ Pyro.Gen.C10.discProbe, discModel row = row.2.2.2 := by
  decide +kernel

/-- **C10_gen_facts.**  Every probe could be completed; an `Exception` raised by `next(stream)` (StopIteration included) removes the stream
    and reaches the caller unchanged; the proxy's sequence number wraps after 65535; the client iterator
    drops its proxy exactly after StopIteration / GeneratorExit; a user hook `clientDisconnect(conn)` that
    raises is called once and cannot skip the stream bookkeeping (`Settings.hookFails` only changes the
    reply of `disconnect`). -/
theorem C10_gen_facts :
    Pyro.Gen.C10.probeErrors = [] ∧ Pyro.Gen.C10.nextRemovesAndReraises = true ∧ Pyro.Gen.C10.seqMask = 65535 ∧
    Pyro.Gen.C10.hookCannotSkipBookkeeping = true ∧
    Pyro.Gen.C10.clientDropsProxyOn = ["StopIteration", "GeneratorExit"] := by
  exact ⟨rfl, rfl, rfl, rfl, rfl⟩

/-- **C10_gen_removal_tolerant.**  Each of the five places that remove a stream from the table —
    `get_next_stream_item`, `close_stream`, `_clientDisconnect` and the lifetime and linger loops of
    `_housekeeping` — survives the stream having been removed by another thread between its lookup and
    its removal (probed with a table whose keys vanish after being looked up).  This is the premise of
    `C10_sched_no_masking` / `C10_sched_cleanup_total` (false for `del`, see `C10_sched_strict_masks`). -/
theorem C10_gen_removal_tolerant :
    Pyro.Gen.C10.removalTolerant.map (·.1) =
      ["get_next_stream_item", "close_stream", "_clientDisconnect", "_housekeeping/lifetime", "_housekeeping/linger"] ∧
    ∀ r ∈ Pyro.Gen.C10.removalTolerant, r.2 = true := by
  exact ⟨rfl, by decide⟩

/-- **C10_gen_environment.**  Two assumptions of the model about its environment, probed: (1) new streams
    get ids that are fresh even under an identical request context (same correlation id, connection,
    clock) — the model's counter; (2) housekeeping passes do occur on a running server, also a busy one:
    the multiplex server makes one after every batch of events and when idle, the thread-pool server's
    Housekeeper thread makes them (the model's `housekeeping` operation is an event the environment
    keeps supplying). -/
theorem C10_gen_environment :
    Pyro.Gen.C10.streamIdsFresh = true ∧ Pyro.Gen.C10.muxEventsHousekeeps = true ∧
    Pyro.Gen.C10.muxIdleHousekeeps = true ∧ Pyro.Gen.C10.threadHousekeeperRuns = true := by
  decide

/-- **C10_gen_housekeeping_locked.**  During a `_housekeeping()` pass every access of the stream table
    happens with `housekeeper_lock` held (premise of `C10_housekeeping_serial`). -/
theorem C10_gen_housekeeping_locked :
    Pyro.Gen.C10.hkAccessesUnlocked = 0 ∧ 0 < Pyro.Gen.C10.hkAccessesLocked := by
  decide

/-! ## histories -/

/-- **C10_prefix.**  After every history, under every setting: for every stream the server still
    remembers, the replies handed out for it so far (items and the iterator's own exception, in
    order) followed by what its iterator still holds are exactly the items of the iterator that was
    registered under that id — nothing lost, repeated, reordered or taken from another stream; and
    for every id whatsoever the replies handed out are a prefix of its source. -/
theorem C10_prefix (cfg : Settings) (t0 : Nat) (ops : List Op) :
    let r := exec cfg (State.init t0) ops
    (∀ id e, r.1.table.get id = some e → delivered id r.2 ++ e.rest = source id r.2) ∧
    (∀ id, delivered id r.2 <+: source id r.2) := by
  intro r
  have h : Streams.Inv r.1 r.2 := inv_reach cfg t0 ops
  exact ⟨h.live, h.pre⟩

/-- **C10_next_exact.**  After every history, the reply to `get_next_stream_item(id)` from any
    connection is determined by the stream's source and the number of replies already handed out:
    the next item in order, the iterator's exception at the position where it raises, StopIteration
    exactly when everything has been delivered — if the server still remembers the stream; otherwise
    the error "item stream terminated", with no effect. -/
theorem C10_next_exact (cfg : Settings) (t0 : Nat) (ops : List Op) (id conn : Nat) :
    let r := exec cfg (State.init t0) ops
    (∀ e, r.1.table.get id = some e →
      (doNext r.1 id conn).2 = expectedReply (source id r.2) (delivered id r.2).length) ∧
    (r.1.table.get id = none → doNext r.1 id conn = (r.1, .terminated)) := by
  intro r
  have h : Streams.Inv r.1 r.2 := inv_reach cfg t0 ops
  exact ⟨fun e he => next_reply h conn he, fun hn => doNext_none conn hn⟩

/-- **C10_end.**  A stream ends with StopIteration exactly when the server iterator is exhausted:
    the reply is StopIteration iff the stream is remembered and everything in its source has been
    handed out; and it is the exception `x` iff the stream is remembered and `raises x` is the next
    thing in its source. -/
theorem C10_end (cfg : Settings) (t0 : Nat) (ops : List Op) (id conn : Nat) :
    let r := exec cfg (State.init t0) ops
    ((doNext r.1 id conn).2 = .stop ↔ (∃ e, r.1.table.get id = some e) ∧ delivered id r.2 = source id r.2) ∧
    (∀ x, (doNext r.1 id conn).2 = .raised x ↔
      (∃ e, r.1.table.get id = some e) ∧ ∃ tl, source id r.2 = delivered id r.2 ++ .raises x :: tl) := by
  intro r
  have h : Streams.Inv r.1 r.2 := inv_reach cfg t0 ops
  cases hg : r.1.table.get id with
  | none =>
    rw [doNext_none conn hg]
    exact ⟨⟨nofun, fun h2 => nomatch h2.1⟩, fun x => ⟨nofun, fun h2 => nomatch h2.1⟩⟩
  | some e =>
    -- both sides speak of what the iterator still holds: `delivered ++ e.rest = source`
    rw [doNext_reply conn hg, ← h.live id e hg, expectedReply_stop]
    refine ⟨⟨fun hr => ⟨⟨e, rfl⟩, List.self_eq_append_right.mpr hr⟩, fun h2 => List.self_eq_append_right.mp h2.2⟩,
      fun x => ?_⟩
    rw [expectedReply_raised]
    exact ⟨fun ⟨tl, hr⟩ => ⟨⟨e, rfl⟩, tl, congrArg _ hr⟩,
      fun ⟨_, tl, h2⟩ => ⟨tl, (List.append_right_inj _).mp h2⟩⟩

/-- **C10_forgotten.**  Once the server has forgotten a stream it never serves it again: whatever
    happens afterwards, the id stays out of the table (ids are not reused) and every later
    `get_next_stream_item(id)`, from any connection, is answered with the error — never an item,
    never StopIteration. -/
theorem C10_forgotten (cfg : Settings) (t0 : Nat) (ops later : List Op) (id : Nat) :
    let r := exec cfg (State.init t0) ops
    r.1.table.get id = none → id < r.1.nextId →
    (exec cfg r.1 later).1.table.get id = none ∧
    ∀ x ∈ (exec cfg r.1 later).2, (∃ conn, x.1 = .next id conn) → x.2 = .terminated := by
  intro r hn hlt
  refine ⟨absent_exec cfg later r.1 id hn hlt, ?_⟩
  generalize r.1 = st at hn hlt
  induction later generalizing st with
  | nil => intro x hx; simp [exec] at hx
  | cons op rest ih =>
    intro x hx hop
    simp only [exec, List.mem_cons] at hx
    rcases hx with hx | hx
    · obtain ⟨conn, hc⟩ := hop
      rw [hx] at hc
      simp only at hc
      rw [hx, hc]
      simp only [step, doNext, hn]
    · exact ih _ (absent_step cfg st op id hn hlt) (Nat.lt_of_lt_of_le hlt (nextId_step cfg st op)) x hx hop

/-- **C10_forget_conditions.**  After every history, one more operation makes the server forget a
    remembered stream exactly under the conditions of the property: `next` finding its iterator
    exhausted or raising; `close_stream`; the end of its owning connection when no linger is
    configured (`linger ≤ 0`); a housekeeping pass when `0 < lifetime < now − created`, or when
    `linger > 0`, the stream lingers (`linger start ≠ 0`) and `now − linger start > linger`.
    No other operation removes it (in particular not the clock, and not an `open`). -/
theorem C10_forget_conditions (cfg : Settings) (t0 : Nat) (ops : List Op) (op : Op) (id : Nat) (e : Entry) :
    let r := exec cfg (State.init t0) ops
    r.1.table.get id = some e →
    ((step cfg r.1 op).1.table.get id = none ↔ forgetCond cfg r.1.now id e op) := by
  intro r hg
  have h : Streams.Inv r.1 r.2 := inv_reach cfg t0 ops
  exact forget_iff cfg r.1 op id e h.nodup (h.fresh _ (Nat.le_refl _)).1 hg

/-- **C10_resume.**  A stream whose connection has ended but which the server has not forgotten yet
    (it lingers: owner `None`) continues with the next undelivered item for whichever connection
    asks next — by `C10_next_exact` — and that connection becomes its owner with the linger start
    cleared, so that a later housekeeping pass does not expire it as lingering. -/
theorem C10_resume (cfg : Settings) (t0 : Nat) (ops : List Op) (id conn : Nat) (e : Entry) :
    let r := exec cfg (State.init t0) ops
    r.1.table.get id = some e → e.owner = none →
    (doNext r.1 id conn).2 = expectedReply (source id r.2) (delivered id r.2).length ∧
    ∀ v, (doNext r.1 id conn).2 = .item v →
      ∃ tl, e.rest = .val v :: tl ∧
        (doNext r.1 id conn).1.table.get id = some { owner := some conn, created := e.created, linger := 0, rest := tl } := by
  intro r hg ho
  refine ⟨(C10_next_exact cfg t0 ops id conn).1 e hg, fun v hv => ?_⟩
  rw [doNext_reply conn hg] at hv
  cases hr : e.rest with
  | nil => rw [hr] at hv; cases hv
  | cons it tl =>
    rw [hr] at hv
    cases it with
    | raises x => cases hv
    | val w =>
      cases hv
      rw [doNext_val conn hg hr]
      refine ⟨tl, rfl, (get_set_self _ _ _).trans (congrArg some ?_)⟩
      unfold Entry.claim
      rw [ho]; rfl

/-- **C10_quiescent.**  At quiescence the table is empty: if every stream that was ever opened has,
    after its opening, been exhausted, failed or closed (a `next` answered StopIteration or the
    iterator's exception, or a `close_stream`), then the server remembers nothing. -/
theorem C10_quiescent (cfg : Settings) (t0 : Nat) (ops : List Op) :
    let r := exec cfg (State.init t0) ops
    (∀ id, id < r.1.nextId → ∃ a x b, r.2 = a ++ x :: b ∧ Terminal id x ∧ ∃ y ∈ a, y.2 = Res.stream id) →
    r.1.table = [] := by
  intro r hall
  have h : Streams.Inv r.1 r.2 := inv_reach cfg t0 ops
  cases htab : r.1.table with
  | nil => rfl
  | cons p rest =>
    have hg : r.1.table.get p.1 = some p.2 := by rw [htab]; exact if_pos rfl
    obtain ⟨a, x, b, hsplit, hterm, y, hy, hys⟩ := hall p.1 (lt_nextId h hg)
    obtain ⟨opsA, opsB, hops, hA, hx⟩ := exec_split cfg a x b ops (State.init t0) hsplit
    have hopened : p.1 < (exec cfg (State.init t0) opsA).1.nextId :=
      opened_lt cfg opsA _ p.1 y (by rw [hA]; exact hy) hys
    have hgone : (step cfg (exec cfg (State.init t0) opsA).1 x.1).1.table.get p.1 = none :=
      terminal_step cfg _ x.1 p.1 (by rw [← hx]; exact hterm)
    have hfinal : r.1 = (exec cfg (step cfg (exec cfg (State.init t0) opsA).1 x.1).1 opsB).1 := by
      show (exec cfg (State.init t0) ops).1 = _
      rw [hops, exec_append]
      simp only [exec]
    have := absent_exec cfg opsB _ p.1 hgone (Nat.lt_of_lt_of_le hopened (nextId_step cfg _ x.1))
    rw [← hfinal, hg] at this
    cases this

/-- **C10_expiry_empties.**  Also without any client finishing its stream the server forgets
    everything once connections are gone: after every history on a clock that started above zero, if
    every connection that owns a stream ends, more than the linger period passes and housekeeping
    runs once, the table is empty — with lingering configured (the streams linger and then expire)
    and without it (they are dropped at the disconnect). -/
theorem C10_expiry_empties (cfg : Settings) (t0 : Nat) (ops : List Op) (conns : List Nat) (dt : Nat) (ht0 : 0 < t0) :
    let r := exec cfg (State.init t0) ops
    (∀ p ∈ r.1.table, ∀ c, p.2.owner = some c → c ∈ conns) → cfg.linger < dt →
    (exec cfg r.1 (conns.map .disconnect ++ [.tick dt, .housekeeping])).1.table = [] :=
  fun hown hlg => expiry_empties cfg _ (tinv_exec cfg ops _ (tinv_init cfg t0 ht0)) conns dt hown hlg

/-! ## the client iterator -/

/-- **C10_client_refines.**  Whatever the clients do (calls returning iterators, `next`, `close`,
    unrelated calls, releasing and re-creating connections — with any initial sequence number and
    any mask), the server-side operations they cause form a history of the server model ending in
    the current table: every theorem above applies to what clients observe. -/
theorem C10_client_refines (cfg : Settings) (mask t0 nprox seq0 : Nat) (cops : List COp) :
    let s := (crun cfg mask (Sys.init t0 nprox seq0) cops).1
    exec cfg (State.init t0) (s.log.map (·.1)) = (s.srv, s.log) :=
  crun_ref cfg mask t0 cops _ (ref_init cfg t0 nprox seq0)

/-- **C10_client_exact.**  After any client history, `next(it)` on a client iterator whose proxy is
    connected returns exactly what the property demands of its own stream: the next undelivered item
    of that stream's source, its exception, or StopIteration at the end, as long as the server
    remembers the stream — and the "item stream terminated" error otherwise.  An iterator that has
    ended or was closed answers StopIteration without contacting the server. -/
theorem C10_client_exact (cfg : Settings) (mask t0 nprox seq0 : Nat) (cops : List COp) (i : Nat) (it : Iter) :
    let s := (crun cfg mask (Sys.init t0 nprox seq0) cops).1
    s.iters[i]? = some it →
    (it.proxy = none → cstep cfg mask s (.inext i) = (s, .srv .stop)) ∧
    (∀ p px c, it.proxy = some p → s.proxies[p]? = some px → px.conn = some c →
      (cstep cfg mask s (.inext i)).2 =
        .srv (match s.srv.table.get it.sid with
              | some _ => expectedReply (source it.sid s.log) (delivered it.sid s.log).length
              | none => .terminated)) := by
  intro s hit
  refine ⟨fun hp => by simp only [cstep, hit, hp], fun p px c hp hpx hc => ?_⟩
  have href : Ref cfg t0 s := crun_ref cfg mask t0 cops _ (ref_init cfg t0 nprox seq0)
  have hinv := inv_of_ref href
  simp only [cstep, hit, hp, hpx, hc, Sys.server, step]
  cases hg : s.srv.table.get it.sid with
  | none => rw [doNext_none c hg]
  | some e => exact congrArg CRes.srv (next_reply hinv c hg)

/-- **C10_client_survives_loss.**  A connection that breaks during an item request costs the client
    nothing but that one error: the iterator keeps its proxy (ConnectionClosedError is not among the
    exceptions after which it drops it — `C10_gen_facts`), the server sees the connection end (the
    stream lingers or is dropped as for any disconnect), and by `C10_client_exact` the next `next(it)`
    after a reconnect continues with the next undelivered item while the server remembers the stream. -/
theorem C10_client_survives_loss (cfg : Settings) (mask : Nat) (s : Sys) (i p c : Nat) (it : Iter) (px : Proxy)
    (hit : s.iters[i]? = some it) (hp : it.proxy = some p) (hpx : s.proxies[p]? = some px) (hc : px.conn = some c) :
    let r := cstep cfg mask s (.inextLost i)
    r.2 = .connClosed ∧ r.1.iters[i]? = some { it with pyroseq := it.pyroseq + 1 } ∧
    r.1.log = s.log ++ [(.disconnect c, if cfg.hookFails then .hookError else .ok)] := by
  have hlen : i < s.iters.length := (List.getElem?_eq_some_iff.mp hit).1
  simp only [cstep, hit, hp, hpx, hc, Sys.server, step]
  simp [List.getElem?_set_self hlen]

/-- **C10_client_close_forgets.**  `it.close()` on a client iterator whose proxy is connected makes
    the server forget the stream — whether the proxy's sequence number is still in step with the
    iterator (same proxy) or has diverged, wrapped around 16 bits included (temporary second
    connection) — and disables the iterator. -/
theorem C10_client_close_forgets (cfg : Settings) (mask : Nat) (s : Sys) (i p c : Nat) (it : Iter) (px : Proxy)
    (hit : s.iters[i]? = some it) (hp : it.proxy = some p) (hpx : s.proxies[p]? = some px) (hc : px.conn = some c) :
    let s' := (cstep cfg mask s (.iclose i)).1
    s'.srv.table.get it.sid = none ∧ (∀ it', s'.iters[i]? = some it' → it'.proxy = none) := by
  have hlen : i < s.iters.length := (List.getElem?_eq_some_iff.mp hit).1
  simp only [cstep, hit, hp, hpx, hc]
  split
  · refine ⟨?_, fun it' h' => ?_⟩
    · simp only [Sys.server, step]; exact get_close_self _ _
    · simp only [Sys.server, List.getElem?_set_self hlen, Option.some.injEq] at h'
      rw [← h']
  · refine ⟨?_, fun it' h' => ?_⟩
    · simp only [Sys.server, step]
      exact get_disconnect_none cfg _ _ _ (get_close_self _ _)
    · simp only [Sys.server, List.getElem?_set_self hlen, Option.some.injEq] at h'
      rw [← h']

/-! ## schedules -/

open Pyro.StreamsRace in
/-- **C10_sched_prefix.**  Under every schedule of any number of concurrently running
    `get_next_stream_item` / `close_stream` / `_clientDisconnect` / `_housekeeping` calls (any removal
    form, any settings): for every stream, what its `next()` calls have produced so far, in order,
    followed by what its iterator still holds, is what the iterator held at the start — items are
    produced once, in order and from their own stream however the calls interleave. -/
theorem C10_sched_prefix (m : Modes) (cfg : Settings) (table : RTable) (heap : List (List Item)) (now : Nat)
    (progs : List (List Call)) (schedule : List Nat) (sid : Nat) :
    let c := StreamsRace.run m cfg (Config.init table heap now progs) schedule
    handedOf sid c.shared.handed ++ c.shared.heap.getD sid [] = heap.getD sid [] := by
  intro c
  have h : ghost c.shared sid = ghost (Config.init table heap now progs).shared sid :=
    run_ghost m cfg schedule (Config.init table heap now progs) sid
  simpa [ghost, Config.init, handedOf] using h

open Pyro.StreamsRace in
/-- the full statement for the concurrent replies: in every reachable configuration, every completed
    call during which `next(stream)` ran returned exactly what `next(stream)` did (the item,
    StopIteration, or the iterator's exception) -/
def C10_sched_Statement (m : Modes) : Prop :=
  ∀ (cfg : Settings) (table : RTable) (heap : List (List Item)) (now : Nat) (progs : List (List Call))
    (schedule : List Nat),
    ∀ t ∈ (StreamsRace.run m cfg (Config.init table heap now progs) schedule).threads,
      ∀ d ∈ t.done, ∀ o, d.2.2 = some o → d.2.1 = o

open Pyro.StreamsRace in
/-- **C10_sched_no_masking.**  With the tolerant removal in `get_next_stream_item` (the extracted
    fact `C10_gen_removal_tolerant`), under every schedule: a reply is never replaced by an internal
    KeyError — a client gets StopIteration exactly when its `next(stream)` found the iterator
    exhausted, and the iterator's own exception when it raised, even when housekeeping, a
    disconnect or a close removes the stream at the same moment. -/
theorem C10_sched_no_masking (m : Modes) (hm : m.next = .tolerant) : C10_sched_Statement m := by
  intro cfg table heap now progs schedule t ht d hd o ho
  have := ti_run m cfg schedule _ (ti_init m table heap now progs) t ht
  exact (this.good d hd).1 hm o ho

open Pyro.StreamsRace in
/-- **C10_sched_strict_masks.**  The statement is false for the `del` form (finding F10): stream 0 is
    exhausted and older than its lifetime; the client thread runs `next(stream)` (StopIteration),
    the housekeeper removes the expired stream, then the client's `del` raises KeyError — the client
    receives KeyError instead of StopIteration.  Witness schedule `[0,0,0,1,1,1,1,0]`. -/
theorem C10_sched_strict_masks : ¬ C10_sched_Statement (Modes.all .strict) := by
  intro h
  have := h { streaming := true, lifetime := 5, linger := 0 }
    [(0, { owner := some 0, created := 0, linger := 0 })] [[]] 10 [[.next 0 0], [.housekeeping]]
    [0, 0, 0, 1, 1, 1, 1, 0]
    { prog := [], cur := .next 0 0, pc := .idle, done := [(.next 0 0, .keyError, some .stop)] } (by decide)
    (.next 0 0, .keyError, some .stop) (by decide) .stop rfl
  cases this

open Pyro.StreamsRace in
/-- **C10_sched_cleanup_total.**  With tolerant removals everywhere, under every schedule no
    `close_stream`, `_clientDisconnect` or `_housekeeping` call ever fails: a disconnect always
    processes all streams of its connection and the housekeeper thread never dies, so expired and
    orphaned streams are always forgotten.  (The only remaining KeyError is a `next` whose stream
    vanished between its membership test and its read — an error reply for a forgotten stream.) -/
theorem C10_sched_cleanup_total (m : Modes) (h1 : m.close = .tolerant) (h2 : m.disc = .tolerant) (h3 : m.hk = .tolerant)
    (cfg : Settings) (table : RTable) (heap : List (List Item)) (now : Nat) (progs : List (List Call))
    (schedule : List Nat) :
    ∀ t ∈ (StreamsRace.run m cfg (Config.init table heap now progs) schedule).threads,
      ∀ d ∈ t.done, d.2.1 = .keyError → ∃ sid conn, d.1 = .next sid conn := by
  intro t ht d hd hk
  have hcall := ((ti_run m cfg schedule _ (ti_init m table heap now progs) t ht).good d hd).2 hk
  cases hc : d.1 with
  | next sid conn => exact ⟨sid, conn, rfl⟩
  | close sid =>
    rw [hc, h1] at hcall
    cases hcall
  | disconnect conn =>
    rw [hc, h2] at hcall
    cases hcall
  | housekeeping =>
    rw [hc, h3] at hcall
    cases hcall

/-- a housekeeping pass as an operation whose body (lifetime loop, linger loop) runs under `housekeeper_lock` -/
def hkOp (cfg : Settings) : Lock.Op State Unit Res :=
  { init := (), result := fun _ => .ok,
    steps := [fun l st => (l, { st with table := if st.table.isEmpty then st.table else
                                  if 0 < cfg.lifetime then st.table.filter (fun p => !lifeExpired cfg st.now p.2) else st.table }),
              fun l st => (l, { st with table := if 0 < cfg.linger then st.table.filter (fun p => !lingerExpired cfg st.now p.2)
                                  else st.table })] }

/-- **C10_housekeeping_serial.**  Housekeeping passes started concurrently by any number of threads
    (both loops of each pass run under `housekeeper_lock`, `C10_gen_housekeeping_locked`) take effect
    one whole pass at a time, under every schedule: instance of the generic `Lock.atomic`; and one
    pass executed alone is `doHousekeeping`. -/
theorem C10_housekeeping_serial (cfg : Settings) (s0 : State) (n : Nat) (schedule : List Nat) :
    Lock.Inv s0 (Lock.run (Lock.Config.init s0 (List.replicate n (hkOp cfg))) schedule) ∧
    ∀ st, ((hkOp cfg).run st).1 = doHousekeeping cfg st := by
  refine ⟨Lock.atomic s0 _ schedule, fun st => ?_⟩
  simp only [Lock.Op.run, Lock.runSteps, hkOp, List.foldl_cons, List.foldl_nil, doHousekeeping]
  by_cases he : st.table.isEmpty = true
  · have : st.table = [] := by simpa using he
    cases st with
    | mk tb nw ni =>
      simp only at this
      subst this
      simp
  · simp [he]

/-! ## non-vacuity -/

private def cfgA : Settings := { streaming := true, lifetime := 5, linger := 4 }
private def histA : List Op :=
  [.open 0 (.iter [.val 7, .val 8, .raises 3]), .open 1 (.iter [.val 1]), .next 0 0, .disconnect 0, .tick 2,
   .next 0 2, .next 1 1, .next 1 1, .tick 9, .housekeeping]

-- two interleaved streams, a reconnect within the linger period, exhaustion, lifetime expiry
example : ((exec cfgA (State.init 100) histA).2.map (·.2)) =
    [.stream 0, .stream 1, .item 7, .ok, .ok, .item 8, .item 1, .stop, .ok, .ok] := by decide +kernel
example : (exec cfgA (State.init 100) histA).1.table = [] := by decide +kernel
example : (exec cfgA (State.init 100) (histA.take 6)).1.table =
    [(0, { owner := some 2, created := 100, linger := 0, rest := [.raises 3] }),
     (1, { owner := some 1, created := 100, linger := 0, rest := [.val 1] })] := by decide +kernel
example : delivered 0 (exec cfgA (State.init 100) (histA.take 6)).2 = [.val 7, .val 8] ∧
    source 0 (exec cfgA (State.init 100) (histA.take 6)).2 = [.val 7, .val 8, .raises 3] := by decide +kernel
-- expiry: both streams of histA's prefix are owned by connections 1 and 2; they end, 5 > linger passes, housekeeping
example : (exec { cfgA with lifetime := 0 } (exec { cfgA with lifetime := 0 } (State.init 100) (histA.take 6)).1
    ([1, 2].map .disconnect ++ [.tick 5, .housekeeping])).1.table = [] := by decide +kernel
-- a daemon whose disconnect hook raises: the error is reported, the stream is dropped all the same (no linger) …
example : (exec { streaming := true, lifetime := 0, linger := 0, hookFails := true } (State.init 100)
    [.open 0 (.iter [.val 1, .val 2]), .next 0 0, .disconnect 0, .next 0 1]).2.map (·.2) =
    [.stream 0, .item 1, .hookError, .terminated] := by decide +kernel
-- … or lingers and expires (linger 4), and a client coming back after that gets the error
example : (exec { streaming := true, lifetime := 0, linger := 4, hookFails := true } (State.init 100)
    [.open 0 (.iter [.val 1, .val 2]), .next 0 0, .disconnect 0, .tick 5, .housekeeping, .next 0 1]).2.map (·.2) =
    [.stream 0, .item 1, .hookError, .ok, .ok, .terminated] := by decide +kernel
-- forgetCond: the lifetime branch and the linger branch both occur
example : forgetCond cfgA 111 1 { owner := some 1, created := 100, linger := 0, rest := [] } .housekeeping := by
  simp [forgetCond, cfgA]
example : forgetCond cfgA 111 1 { owner := none, created := 110, linger := 103, rest := [] } .housekeeping := by
  simp [forgetCond, cfgA]
-- the client: sequence numbers wrap at 16 bits and diverge from the iterator's counter; close still reaches the server
example : (crun cfgA 65535 (Sys.init 100 1 65534) [.call 0 (.iter [.val 1, .val 2]), .inext 0, .iclose 0, .inext 0]).2 =
    [.iter 0, .srv (.item 1), .none, .srv .stop] ∧
    (crun cfgA 65535 (Sys.init 100 1 65534) [.call 0 (.iter [.val 1, .val 2]), .inext 0, .iclose 0]).1.log.map (·.1) =
    [.open 0 (.iter [.val 1, .val 2]), .next 0 0, .close 0, .disconnect 1] := by decide +kernel
-- a tolerant run of the F10 schedule: the client gets StopIteration
example : ((StreamsRace.run (StreamsRace.Modes.all .tolerant) { streaming := true, lifetime := 5, linger := 0 }
    (StreamsRace.Config.init [(0, { owner := some 0, created := 0, linger := 0 })] [[]] 10
      [[.next 0 0], [.housekeeping]]) [0, 0, 0, 1, 1, 1, 1, 0]).threads.map (·.done)) =
    [[(.next 0 0, .stop, some .stop)], [(.housekeeping, .ok, none)]] := by decide +kernel

end Pyro.C10
