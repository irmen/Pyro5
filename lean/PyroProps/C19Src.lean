/-
  C19 — the transcription of `URI._parseLocation` and of the `location` property (Pyro.Gen.C19.parseLocationSrc /
  locationSrc, regenerated from /repo's source on every run by harness/props/c19_tr.py) computes exactly what the
  hand-written model computes, for ALL inputs; the property theorems restated about the transcription.
-/
import PyroModel.Uri
import PyroModel.UriPy
import PyroProofs.UriLemmas
import PyroProofs.UriParse
import PyroModel.Gen.C19
import PyroModel.UriSrc
import PyroProps.C19

namespace Pyro.C19

open Pyro Pyro.Uri Pyro.UriPy Pyro.UriSrc

/-! ### meanings of the primitives in terms of the model's vocabulary -/

theorem nonEmpty_none : nonEmpty? none = none := rfl
theorem nonEmpty_nil : nonEmpty? (some []) = none := rfl
theorem nonEmpty_cons (c : Nat) (r : Text) : nonEmpty? (some (c :: r)) = some (c :: r) := rfl

theorem startsWith_one (c : Nat) (l : Text) : startsWith [c] l = true ↔ l.head? = some c := by
  cases l with
  | nil => simp [startsWith, List.isPrefixOf]
  | cons a r => simpa [startsWith, List.isPrefixOf] using eq_comm

theorem truthyT_eq (t : Text) : truthyT t = decide (t ≠ []) := by
  cases t <;> simp [truthyT]

/-- `not s or b`, the shape of both refusal tests of `_parseLocation` -/
theorem falsy_or_iff (t : Text) (b : Bool) : ((!truthyT t || b) = true) ↔ (t = [] ∨ b = true) := by
  simp [truthyT_eq]

theorem partition1_fst (l : Text) : (partition1 58 l).1 = (partitionColon l).1 := rfl
theorem partition1_snd (l : Text) : (partition1 58 l).2.2 = (partitionColon l).2 := rfl

/-- the result the model's `parseLocation` stands for at the level of the instance -/
def locResult (s : Self) (r : Except Err Loc) : Except Exc Self :=
  match r with
  | .ok l => .ok (s.withLoc l)
  | .error e => .error (.pyro e)

/-- `int(defaultPort)` (core.py:90-95): the value, or a `TypeError` for `None` -/
theorem port_none (dp : Option Nat) :
    pyIntPV (PortVal.ofNat? dp) = match dp with
      | some n => .ok (Int.ofNat n)
      | none => .error .typeError := by
  cases dp <;> rfl

theorem port_str (t : Text) :
    pyIntPV (.str t) = match pyInt t with
      | some i => .ok i
      | none => .error .valueError := rfl

/-- **C19_parseLocation_translated.**  For every instance state, every `location` (None or any str) and every
    `defaultPort` (None or a non-negative int) the transcription of `URI._parseLocation` returns / raises exactly what
    the model's `parseLocation` (with both parse-time guards) says: the same error kind as a `PyroError`, never a
    `ValueError`/`TypeError`, or the instance with the model's socket name / host and int port filled in. -/
theorem C19_parseLocation_translated (s : Self) (location : Option Text) (dp : Option Nat) :
    Pyro.Gen.C19.parseLocationSrc s location (PortVal.ofNat? dp) =
      locResult s (parseLocation Guards.on location dp) := by
  unfold Pyro.Gen.C19.parseLocationSrc parseLocation sSockPrefix sDotSlashU
  cases location with
  | none => rfl
  | some l =>
    cases l with
    | nil => rfl
    | cons c r =>
      -- both sides branch on the same tests: decide each once, keep only the live branch of both
      dsimp only [nonEmpty_cons]
      rw [if_neg (List.cons_ne_nil c r)]
      generalize c :: r = l
      by_cases hs : startsWith [46, 47, 117, 58] l = true
      · rw [if_pos hs, if_pos hs]
        generalize List.drop 4 l = name
        have hiff := (falsy_or_iff name (containsChar 58 name)).trans (or_congr_right decide_eq_true_iff)
        by_cases hn : name = [] ∨ 58 ∈ name
        · rw [if_pos (hiff.2 hn), if_pos hn]; rfl
        · rw [if_neg (fun e => hn (hiff.1 e)), if_neg hn]; rfl
      · rw [if_neg hs, if_neg hs]
        by_cases h91 : l.head? = some 91
        · rw [if_pos ((startsWith_one 91 l).2 h91), if_pos h91]
          by_cases hbb : startsWith [91, 91] l = true
          · rw [if_pos hbb, if_pos hbb]; rfl
          · rw [if_neg hbb, if_neg hbb]
            cases ipv6Match l with
            | none => rfl
            | some m =>
              obtain ⟨h, p⟩ := m
              cases p with
              | none => cases dp <;> rfl
              | some d =>
                cases d with
                | nil => cases dp <;> rfl
                | cons d0 dr =>
                  simp only [v6Groups, nonEmpty_cons, port_str, portValue, List.cons_ne_nil, if_false]
                  cases pyInt (d0 :: dr) <;> rfl
        · rw [if_neg (fun e => h91 ((startsWith_one 91 l).1 e)), if_neg h91, partition1_fst, partition1_snd]
          generalize (partitionColon l).1 = H
          generalize (partitionColon l).2 = P
          have hiff := (falsy_or_iff H (H == [46, 47, 117])).trans (or_congr_right beq_iff_eq)
          by_cases hg : H = [] ∨ H = [46, 47, 117]
          · rw [if_pos (hiff.2 hg), if_pos ⟨rfl, hg⟩]; rfl
          · rw [if_neg (fun e => hg (hiff.1 e)), if_neg (not_and_of_not_right _ hg)]
            cases P with
            | nil => cases dp <;> rfl
            | cons p0 pr =>
              simp only [port_str, portValue, List.cons_ne_nil, if_false]
              cases pyInt (p0 :: pr) <;> rfl

/-- **C19_location_translated.**  On the instance of every model URI the transcription of the `location` property
    returns (never raises) exactly the model's `renderLoc`. -/
theorem C19_location_translated (u : Uri) :
    Pyro.Gen.C19.locationSrc (selfOf u) = .ok (renderLoc u.loc) := by
  obtain ⟨k, l⟩ := u
  unfold Pyro.Gen.C19.locationSrc
  cases l with
  | none => rfl
  | sock n => cases n <;> rfl
  | tcp h p =>
    cases h with
    | nil => rfl
    | cons a r =>
      simp only [selfOf, getstate, nonEmpty_cons, renderLoc, containsChar, fmtD, fmtS, List.cons_ne_nil, if_false]
      by_cases hc : 58 ∈ a :: r <;> simp [hc]

/-! ### the property restated about the transcription (`UriSrc.parseSrc` / `strSrc`: `__init__` and `__str__`
    assembled around the transcribed `_parseLocation` / `location`) -/

/-- what the model's `parse` result means at the level of the instance -/
def initResult (r : Except Err Uri) : Except Exc Self :=
  match r with
  | .ok u => .ok (selfOf u)
  | .error e => .error (.pyro e)

/-- `_parseLocation` run on the blank instance of kind `k` leaves the instance of the URI of that kind -/
theorem locResult_blank (k : Kind) (r : Except Err Loc) :
    locResult (blank k.protoText (getstate ⟨k, .none⟩).object) r = initResult (r.map (fun l => ⟨k, l⟩)) := by
  cases r with
  | error e => rfl
  | ok l => cases l <;> rfl

/-- **C19_source_parse.**  `__init__` around the transcribed `_parseLocation` accepts exactly the strings the model's
    parser accepts, builds the instance of the model's URI, and refuses the others with the same kind of `PyroError`
    (never a `ValueError`/`TypeError`) — for every string and NS_PORT. -/
theorem C19_source_parse (nsPort : Nat) (s : Text) :
    parseSrc nsPort s = initResult (parse Guards.on nsPort s) := by
  unfold parseSrc parse
  cases matchProtocol s with
  | none => rfl
  | some pr =>
    obtain ⟨ptxt, rest⟩ := pr
    dsimp only
    cases splitObj rest with
    | none => rfl
    | some ol =>
      obtain ⟨o, location⟩ := ol
      dsimp only
      generalize ptxt.map upper = proto
      by_cases h1 : proto = sPYRONAME
      · rw [if_pos h1, if_pos h1, C19_parseLocation_translated]
        exact locResult_blank (.pyroname o) _
      · rw [if_neg h1, if_neg h1]
        by_cases h2 : proto = sPYRO
        · rw [if_pos h2, if_pos h2]
          cases falsy location with
          | true => rfl
          | false =>
            rw [if_neg Bool.false_ne_true, if_neg Bool.false_ne_true, C19_parseLocation_translated]
            exact locResult_blank (.pyro o) _
        · rw [if_neg h2, if_neg h2]
          by_cases h3 : proto = sPYROMETA
          · rw [if_pos h3, if_pos h3]
            generalize mkSet ((splitOn 44 o).map (strip isSpace)) = tags
            by_cases hg : tags.all (·.isEmpty) = true ∨ tags.any (·.contains 64) = true
            · rw [if_pos hg, if_pos ⟨rfl, hg⟩]; rfl
            · rw [if_neg hg, if_neg (not_and_of_not_right _ hg), C19_parseLocation_translated]
              exact locResult_blank (.pyrometa tags) _
          · rw [if_neg h3, if_neg h3]; rfl

/-- `__str__` around the transcribed `location` prints the model's text form -/
theorem strSrc_selfOf (u : Uri) (order : List Text) : strSrc (selfOf u) order = .ok (render u order) := by
  unfold strSrc
  rw [C19_location_translated]
  obtain ⟨k, l⟩ := u
  unfold render
  cases k <;> cases renderLoc l with
    | none => rfl
    | some t => exact (apply_ite Except.ok (t = []) _ _).symm

/-- **C19_source_roundtrip.**  Whatever string the source-derived `__init__` accepts (any NS_PORT): the instance is
    the instance of a model URI satisfying `Valid`; its source-derived text form — tag set iterated in ANY order — is
    produced without exception, is accepted again by the source-derived `__init__` at a receiver with any NS_PORT, and
    yields the same instance (same protocol, object, socket name, host, port); so the text is a fixed point. -/
theorem C19_source_roundtrip (nsPort nsPort' : Nat) (s : Text) (σ : Self) (h : parseSrc nsPort s = .ok σ) :
    ∃ u, σ = selfOf u ∧ Valid u ∧ ∀ order, OrderOK u order →
      ∃ t, strSrc σ order = .ok t ∧ parseSrc nsPort' t = .ok σ ∧
        (∀ σ', parseSrc nsPort' t = .ok σ' → strSrc σ' order = .ok t) := by
  rw [C19_source_parse] at h
  cases hp : parse Guards.on nsPort s with
  | error e => rw [hp] at h; simp [initResult] at h
  | ok u =>
    rw [hp] at h
    simp only [initResult, Except.ok.injEq] at h
    subst h
    refine ⟨u, rfl, C19_parse_valid nsPort s u hp, fun order ho => ⟨render u order, strSrc_selfOf u order, ?_, ?_⟩⟩
    · rw [C19_source_parse, C19_roundtrip nsPort nsPort' s u order hp ho]; rfl
    · intro σ' h'
      rw [C19_source_parse, C19_roundtrip nsPort nsPort' s u order hp ho] at h'
      simp only [initResult, Except.ok.injEq] at h'
      subst h'
      exact strSrc_selfOf u order

/-- **C19_source_unequal_locations.**  Two model URIs whose source-derived `location` values differ never compare equal. -/
theorem C19_source_unequal_locations (u v : Uri)
    (h : Pyro.Gen.C19.locationSrc (selfOf u) ≠ Pyro.Gen.C19.locationSrc (selfOf v)) : eqUri u v = false := by
  rw [C19_location_translated, C19_location_translated] at h
  exact (C19_unequal_locations u v).1 (fun e => h (by rw [e]))

/-- **C19_valid_iff_accepted.**  The invariant is tight: `Valid` holds of exactly the URIs the parser can build
    (for any NS_PORT) — every valid URI is the parse of some string, namely of its own text form. -/
theorem C19_valid_iff_accepted (nsPort : Nat) (u : Uri) :
    Valid u ↔ ∃ s, parse Guards.on nsPort s = .ok u := by
  constructor
  · intro hv
    refine ⟨render u u.tagOrder, C19_reparse u hv u.tagOrder ?_ nsPort⟩
    cases u with
    | mk k l => cases k <;> simp [OrderOK, Uri.tagOrder]
  · rintro ⟨s, hs⟩
    exact C19_parse_valid nsPort s u hs

/-- **C19_eq_iff_text.**  For valid URIs `==` holds exactly when the text forms coincide (each in any order of its
    tags): the text form is a complete invariant of equality, independent of the iteration order of the tag sets. -/
theorem C19_eq_iff_text (u v : Uri) (hu : Valid u) (hv : Valid v) (ou ov : List Text)
    (hou : OrderOK u ou) (hov : OrderOK v ov) :
    (render u ou = render v ov → eqUri u v = true) ∧
    (eqUri u v = true → ∀ nsPort, parse Guards.on nsPort (render u ou) = parse Guards.on nsPort (render v ov)) := by
  constructor
  · intro h
    exact (eqUri_iff u v).2 (C19_text_injective u v hu hv ou ov hou hov h)
  · intro h nsPort
    have e := (eqUri_iff u v).1 h
    subst e
    rw [C19_reparse u hu ou hou nsPort, C19_reparse u hv ov hov nsPort]

end Pyro.C19
