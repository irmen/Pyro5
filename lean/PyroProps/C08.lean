/-
  C08 — Nothing is invoked on a connection before an accepted handshake.
  Theorems about `PyroModel.Server` (handshake, handleRequest, per-connection life cycle of both
  transports).  Quantifiers: every first item (any message type, any serializer id, any payload
  shape, any validator behaviour, unknown objects, garbage, cut, timeout), every sequence of items
  pipelined behind it, every interleaving of events of any number of connections.
-/
import PyroProofs.Server
import PyroModel.Gen.C08

namespace Pyro.C08

open Pyro.Server

/-- the first thing ever sent to the peer is a CONNECTOK -/
def AcceptedFirst (c : Conn) : Prop := ∃ r rest, c.outbox = r :: rest ∧ r.type = MSG_CONNECTOK

structure Inv (c : Conn) : Prop where
  fresh : c.phase = .fresh → c.outbox = [] ∧ c.execs = []
  active : c.phase = .active → AcceptedFirst c
  execs : c.execs ≠ [] → AcceptedFirst c

/-- **C08_accept_iff.**  The handshake succeeds exactly for a CONNECT message with a known
    serializer whose payload is a well-formed handshake for a registered object that the validator
    accepted; in that case, and only then, the reply is CONNECTOK. -/
theorem C08_accept_iff (it : Item) :
    (handshake it).2 = true ↔
      ∃ m, it = .msg m ∧ m.type = MSG_CONNECT ∧ knownSerializer m.serId = true ∧
        m.body = .handshake true true .accept := by
  constructor
  · exact handshake_ind (fun it p => p.2 = true → ∃ m, it = .msg m ∧ m.type = MSG_CONNECT ∧
      knownSerializer m.serId = true ∧ m.body = .handshake true true .accept)
      nofun (fun _ _ _ _ => nofun) (fun m h1 h2 h3 _ => ⟨m, rfl, h1, h2, h3⟩) it
  · rintro ⟨m, rfl, h1, h2, h3⟩
    simp [handshake, h1, h2, h3]

/-- **C08_fail_reply_and_close.**  If the first item is anything but an acceptable handshake, the
    peer is sent a CONNECTFAIL (or nothing, exactly when the peer itself is already gone), the
    connection is closed, nothing was executed and the disconnect hook is not called. -/
theorem C08_fail_reply_and_close (it : Item) (h : (handshake it).2 = false) :
    let c := connEvent {} it
    c.phase = .closed ∧ c.execs = [] ∧ c.hookCalls = 0 ∧
    ((it = .cut ∧ c.outbox = []) ∨ ∃ r, c.outbox = [r] ∧ r.type = MSG_CONNECTFAIL) := by
  have hr := (handshake_reply it).2 h
  cases hsk : handshake it with | mk reply ok =>
  rw [hsk] at h hr
  cases h
  rw [connEvent_refuse rfl hsk]
  refine ⟨rfl, rfl, rfl, ?_⟩
  rcases hr with ⟨h1, h2⟩ | ⟨r, h1, h2⟩
  · exact .inl ⟨h1, by cases h2; rfl⟩
  · exact .inr ⟨r, by cases h1; rfl, h2⟩

theorem inv_init : Inv {} :=
  ⟨fun _ => ⟨rfl, rfl⟩, nofun, fun h => absurd rfl h⟩

theorem inv_event (c : Conn) (it : Item) (h : Inv c) : Inv (connEvent c it) := by
  cases hp : c.phase with
  | closed =>
    rw [connEvent_closed it hp]
    exact h
  | fresh =>
    obtain ⟨ho, he⟩ := h.fresh hp
    cases hsk : handshake it with | mk reply ok =>
    cases ok with
    | false =>
      rw [connEvent_refuse hp hsk]
      exact ⟨nofun, nofun, fun h' => absurd he h'⟩
    | true =>
      rw [connEvent_accept hp hsk]
      obtain ⟨r, hr1, hr2⟩ := (handshake_reply it).1 (by rw [hsk])
      have hacc : AcceptedFirst { c with outbox := c.outbox ++ reply.toList, phase := .active, slot := true } :=
        ⟨r, [], by rw [hsk] at hr1; rw [ho, show reply = some r from hr1]; rfl, hr2⟩
      exact ⟨nofun, fun _ => hacc, fun _ => hacc⟩
  | active =>
    have hacc := connectOk_first_append (h.active hp)
    cases hraised : (handleRequest it).raised with
    | true =>
      rw [connEvent_raised hp hraised]
      exact ⟨nofun, nofun, fun _ => hacc _⟩
    | false =>
      rw [connEvent_request hp hraised]
      exact ⟨fun h' => absurd (hp.symm.trans h') nofun, fun _ => hacc _, fun _ => hacc _⟩

/-- **C08_no_exec_before.**  For every sequence of items arriving on a new connection: if any
    method was executed on its behalf, the very first message the daemon sent on it was a CONNECTOK
    (i.e. the handshake for a registered object had been accepted by the validator before). -/
theorem C08_no_exec_before (items : List Item) :
    let c := items.foldl connEvent {}
    c.execs ≠ [] → AcceptedFirst c :=
  (foldl_inv inv_event items {} inv_init).execs

/-- **C08_pipelined_dead.**  Once a connection is closed (in particular after a failed handshake)
    nothing that arrives on it afterwards has any effect: no execution, no reply, no state change. -/
theorem C08_pipelined_dead (c : Conn) (items : List Item) (h : c.phase = .closed) :
    items.foldl connEvent c = c := by
  induction items with
  | nil => rfl
  | cons it its ih =>
    simp only [List.foldl_cons]
    rw [connEvent_closed it h, ih]

/-- Whatever is pipelined behind a failing first message is never executed. -/
theorem C08_failed_then_anything (it : Item) (items : List Item) (h : (handshake it).2 = false) :
    ((it :: items).foldl connEvent {}).execs = [] := by
  simp only [List.foldl_cons]
  obtain ⟨hc, he, _, _⟩ := C08_fail_reply_and_close it h
  rw [C08_pipelined_dead _ items hc]
  exact he

/-- events of one connection never change another connection's record (both transports) -/
theorem step_frame (d : Daemon) (i j : Nat) (it : Item) (h : i ≠ j) : (step d (i, it))[j]? = d[j]? := by
  rw [step_getElem?, if_neg h]

/-- Daemon-level form: in any interleaving of events of any number of new connections, a
    connection on whose behalf something was executed had its handshake accepted first. -/
theorem C08_daemon (n : Nat) (evs : List (Nat × Item)) (i : Nat) (c : Conn)
    (h : (run (List.replicate n {}) evs)[i]? = some c) : c.execs ≠ [] → AcceptedFirst c := by
  have hinit : ∀ (j : Nat) (c' : Conn), (List.replicate n ({} : Conn))[j]? = some c' → Inv c' := by
    intro j c' hj
    have := List.mem_of_getElem? hj
    rw [List.mem_replicate] at this
    rw [this.2]
    exact inv_init
  exact (run_inv inv_event evs _ hinit i c h).execs

/-- **C08_gen_facts.**  Facts extracted from the current source: the request handler accepts only
    INVOKE and PING, the handshake only CONNECT, and both transports enter the request loop /
    register the connection only under `if <handshake>`. -/
theorem C08_gen_facts :
    Pyro.Gen.C08.handshakeAccepts = [MSG_CONNECT] ∧
    Pyro.Gen.C08.requestAccepts = [MSG_INVOKE, MSG_PING] ∧
    Pyro.Gen.C08.threadLoopGuardedByHandshake = true ∧
    Pyro.Gen.C08.multiplexRegisterGuardedByHandshake = true ∧
    Pyro.Gen.C08.knownSerializerIds = [1, 2, 3, 4] ∧
    Pyro.Gen.C08.marshalId = marshalId := by decide

/-! ### the except-ladder of handleRequest, regenerated from the source, agrees with the model -/

/-- class membership of the model's exception classes, as the source's `isinstance` tests see them -/
def excBitsOf : Exc → Bool × Bool × Bool × Bool      -- (ConnectionClosed, Serialize, Communication, Security)
  | .generic => (false, false, false, false)
  | .serialize => (false, true, true, false)
  | .connClosed => (true, false, true, false)
  | .commOther => (false, false, true, false)
  | .security => (false, false, false, true)

def excName : Exc → String
  | .generic => "generic" | .serialize => "serialize" | .connClosed => "connClosed"
  | .commOther => "commOther" | .security => "security"

/-- **C08_gen_except_rule.**  `exceptSends` / `exceptReraises` are translated on every run from the
    `except Exception as xv:` handler of `Daemon.handleRequest`, and `excBits` from `issubclass` on
    `Pyro5.errors`.  For every exception class a method may raise, every callback flag and the oneway
    flag, the model's `handleRequest` sends an error reply exactly when the translated rule says so
    and reports `raised` (the transports then close the connection) exactly when the translated rule
    re-raises. -/
theorem C08_gen_except_rule (e : Exc) (cb ser : Bool) (tok seq sid : Nat) (hk : knownSerializer sid = true) :
    (Pyro.Gen.C08.excBits.lookup (excName e) = some (excBitsOf e)) ∧
    let bits := excBitsOf e
    let md : Method := { token := tok, outcome := .raises e ser, isCallback := cb }
    let r := handleRequest (.msg { type := MSG_INVOKE, serId := sid, seq := seq, oneway := false, body := .call (.method md) })
    r.reply.isSome = Pyro.Gen.C08.exceptSends cb false bits.1 bits.2.1 bits.2.2.1 bits.2.2.2 ∧
    r.raised = Pyro.Gen.C08.exceptReraises cb false bits.1 bits.2.1 bits.2.2.1 bits.2.2.2 := by
  refine ⟨by cases e <;> decide, ?_⟩
  simp only [handleRequest, MSG_INVOKE, MSG_PING, hk]
  cases e <;> cases cb <;> simp [excBitsOf, Pyro.Gen.C08.exceptSends, Pyro.Gen.C08.exceptReraises, errReply]

/-! ### non-vacuity -/
private def okShake : Item := .msg { type := 1, serId := 2, seq := 7, body := .handshake true true .accept }
private def call9 : Item := .msg { type := 4, serId := 2, seq := 8, body := .call (.method { token := 9, outcome := .returns .ok }) }
example : ([okShake, call9].foldl connEvent {}).execs = [9] := by decide
example : ([call9, okShake, call9].foldl connEvent {}).execs = [] ∧
    ([call9, okShake, call9].foldl connEvent {}).outbox = [⟨MSG_CONNECTFAIL, 0, marshalId, false, []⟩] := by decide

end Pyro.C08
