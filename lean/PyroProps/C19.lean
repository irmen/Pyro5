/-
  C19 — URIs have one canonical text form that parses back to the same URI.
  Property theorems about `PyroModel.Uri` (model of Pyro5/core.py:29-142, with the two parse-time guards of
  fixes/C19-reparse.patch present: `Guards.on`).
  Quantifiers: every input string (any code points; the model speaks for Python only on the domain stated in
  PyroModel/Uri.lean: code points that are ASCII, or neither Unicode white space nor Unicode decimal digits),
  every NS_PORT at the sender and at the receiver, every iteration order of the PYROMETA tag set (any
  permutation), every tuple hash.
-/
import PyroModel.Uri
import PyroProofs.UriLemmas
import PyroProofs.UriParse
import PyroModel.Gen.C19

namespace Pyro.C19

open Pyro Pyro.Uri

/-- decidable equality of parse results (for the `decide`d examples and witnesses only) -/
instance : DecidableEq (Except Err Uri) := fun a b =>
  match a, b with
  | .ok x, .ok y => if h : x = y then isTrue (by rw [h]) else isFalse (fun e => h (Except.ok.inj e))
  | .error x, .error y => if h : x = y then isTrue (by rw [h]) else isFalse (fun e => h (Except.error.inj e))
  | .ok _, .error _ => isFalse (fun e => by cases e)
  | .error _, .ok _ => isFalse (fun e => by cases e)

/-- **C19_parse_valid.**  Every URI the parser builds satisfies the invariant `Valid`
    (non-empty white-space-free object whose `@`s cannot be mistaken for the location separator;
    non-empty LF-free host / socket name; a host with `:` is a bracketable IPv6 literal with a
    non-negative port; a host without `:` is neither empty, `./u`, nor starts with `[`; a tag set is
    non-empty, not `{""}`, its tags free of white space, `,` and `@`; PYRO always has a location). -/
theorem C19_parse_valid (nsPort : Nat) (s : Text) (u : Uri)
    (h : parse Guards.on nsPort s = .ok u) : Valid u :=
  parse_valid nsPort s u h

/-- **C19_reparse.**  The text form of a valid URI — with the tag set printed in ANY order — is accepted
    again and parses to the same state, whatever default port the receiver is configured with. -/
theorem C19_reparse (u : Uri) (hv : Valid u) (order : List Text) (ho : OrderOK u order) (nsPort' : Nat) :
    parse Guards.on nsPort' (render u order) = .ok u :=
  parse_render nsPort' u order hv ho

/-- **C19_roundtrip.**  Every string the parser accepts yields a URI whose text form is accepted again
    and parses to an equal URI (the first sentence of the property). -/
theorem C19_roundtrip (nsPort nsPort' : Nat) (s : Text) (u : Uri) (order : List Text)
    (h : parse Guards.on nsPort s = .ok u) (ho : OrderOK u order) :
    parse Guards.on nsPort' (render u order) = .ok u :=
  C19_reparse u (C19_parse_valid nsPort s u h) order ho nsPort'

/-- **C19_fixpoint.**  The text form is a fixed point: whatever the re-parse of `str(u)` yields prints
    (for the same iteration order) as `str(u)` again. -/
theorem C19_fixpoint (nsPort nsPort' : Nat) (s : Text) (u v : Uri) (order : List Text)
    (h : parse Guards.on nsPort s = .ok u) (ho : OrderOK u order)
    (hv : parse Guards.on nsPort' (render u order) = .ok v) :
    v = u ∧ render v order = render u order := by
  rw [C19_roundtrip nsPort nsPort' s u order h ho] at hv
  cases hv
  exact ⟨rfl, rfl⟩

/-- **C19_text_injective.**  One canonical text form: two valid URIs that print alike (each in some
    order of its tags) are the same URI. -/
theorem C19_text_injective (u v : Uri) (hu : Valid u) (hv : Valid v) (ou ov : List Text)
    (hou : OrderOK u ou) (hov : OrderOK v ov) (h : render u ou = render v ov) : u = v := by
  have a := C19_reparse u hu ou hou 0
  rw [h, C19_reparse v hv ov hov 0] at a
  simp only [Except.ok.injEq] at a
  exact a.symm

/-- the URI a state tuple came from: `__getstate__` loses nothing -/
def ofState (s : State) : Uri :=
  ⟨match s.object with
    | .set ts => .pyrometa ts
    | .str o => if s.protocol = sPYRO then .pyro o else .pyroname o,
   match s.sockname, s.host, s.port with
    | some n, _, _ => .sock n
    | _, some h, some p => .tcp h p
    | _, _, _ => .none⟩

theorem ofState_getstate (u : Uri) : ofState (getstate u) = u := by
  obtain ⟨k, l⟩ := u
  cases k <;> cases l <;> rfl

theorem getstate_injective (u v : Uri) (h : getstate u = getstate v) : u = v := by
  rw [← ofState_getstate u, h, ofState_getstate]

theorem eqUri_iff (u v : Uri) : eqUri u v = true ↔ u = v := by
  simp only [eqUri, decide_eq_true_eq]
  exact ⟨getstate_injective u v, fun e => by rw [e]⟩

/-- **C19_eq_hash.**  `==` is equality of the visible state (protocol, object, socket name, host, port);
    equal URIs have equal hashes (for any hash of the state tuple; both are "unhashable" for PYROMETA,
    whose state holds a set). -/
theorem C19_eq_hash (h : State → Nat) (u v : Uri) :
    (eqUri u v = true ↔ u = v) ∧ (eqUri u v = true → hashUri h u = hashUri h v) :=
  ⟨eqUri_iff u v, fun e => by rw [(eqUri_iff u v).1 e]⟩

/-- **C19_unequal_locations.**  URIs whose `location` texts differ never compare equal; and for valid
    locations the `location` text determines socket name / host / port. -/
theorem C19_unequal_locations (u v : Uri) :
    (renderLoc u.loc ≠ renderLoc v.loc → eqUri u v = false) ∧
    (LocOK u.loc → LocOK v.loc → renderLoc u.loc = renderLoc v.loc → u.loc = v.loc) := by
  constructor
  · intro hne
    cases he : eqUri u v with
    | false => rfl
    | true =>
      have := (eqUri_iff u v).1 he
      rw [this] at hne
      exact absurd rfl hne
  · intro hu hv he
    have a := (parseLocation_render Guards.on none u.loc hu).1
    rw [he, (parseLocation_render Guards.on none v.loc hv).1] at a
    exact (Except.ok.inj a).symm

/-- **C19_transport.**  A URI, or a proxy state (which carries `str(uri)`, client.py:128-134), that travels
    through any channel delivering text unchanged — a serializer (C01 on `str`), or the name server, which
    stores the text and re-parses it on lookup (nameserver.py:287-318) — designates the same state at a
    receiver with any NS_PORT. -/
theorem C19_transport (nsPort nsPort' : Nat) (s : Text) (u : Uri) (order : List Text)
    (channel : Text → Text) (hch : channel (render u order) = render u order)
    (h : parse Guards.on nsPort s = .ok u) (ho : OrderOK u order) :
    parse Guards.on nsPort' (channel (render u order)) = .ok u := by
  rw [hch]; exact C19_roundtrip nsPort nsPort' s u order h ho

/-- **C19_state_transport.**  A URI object travels as its state tuple (serializers.py: `"state": obj.__getstate__()`,
    rebuilt by `__setstate__`).  Through any channel that delivers the state tuple unchanged, the rebuilt URI is
    the one sent: equal, `==` true, and hashed alike (both unhashable for PYROMETA). -/
theorem C19_state_transport (h : State → Nat) (channel : State → State) (u v : Uri)
    (hch : channel (getstate u) = getstate u) (hv : getstate v = channel (getstate u)) :
    v = u ∧ eqUri v u = true ∧ hashUri h v = hashUri h u := by
  have e : v = u := getstate_injective v u (by rw [hv, hch])
  subst e
  exact ⟨rfl, (eqUri_iff v v).2 rfl, rfl⟩

/-- the uris a history assigns are valid (each came out of the parser / of `resolve`) -/
def OpsValid : List ProxyOp → Prop
  | [] => True
  | .setUri v :: r => Valid v ∧ OpsValid r
  | _ :: r => OpsValid r

/-- **C19_proxy_history.**  Along every history of a proxy — sent through a serializer, copied, its uri
    replaced (bind), in any order and number — each delivered proxy holds exactly the uri that was current
    when it was sent/copied (never an earlier one), for every tag iteration order and receiver NS_PORT. -/
theorem C19_proxy_history (nsPort' : Nat) (orderOf : Uri → List Text) (ho : ∀ w, OrderOK w (orderOf w)) :
    ∀ (ops : List ProxyOp) (u : Uri), Valid u → OpsValid ops →
      proxyRun Guards.on nsPort' orderOf u ops = (proxyExpect u ops).map Except.ok := by
  intro ops
  induction ops with
  | nil => intro u _ _; rfl
  | cons op r ih =>
    intro u hu hv
    cases op with
    | send | copy =>
      simp only [proxyRun, proxyExpect, List.map_cons, proxyFromState, proxyStateText]
      rw [C19_reparse u hu (orderOf u) (ho u) nsPort', ih u hu hv]
    | setUri v => exact ih v hv.1 hv.2

/-- **C19_int_roundtrip.**  The modelled `int()` reads back every port that `"%d"` prints
    (the law of the external `int`/`%d` pair used by the theorems above, proved for the model). -/
theorem C19_int_roundtrip (p : Int) : pyInt (renderInt p) = some p := pyInt_renderInt p

/-! ### the unguarded parser (the tree before fixes/C19-reparse.patch): the full statement is false -/

/-- the round-trip statement for a given set of guards -/
def RoundTripStatement (g : Guards) : Prop :=
  ∀ (nsPort : Nat) (s : Text) (u : Uri) (order : List Text),
    parse g nsPort s = .ok u → OrderOK u order → parse g nsPort (render u order) = .ok u

theorem C19_roundtrip_guarded : RoundTripStatement Guards.on :=
  fun nsPort s u order h ho => C19_roundtrip nsPort nsPort s u order h ho

/-- "PYRO:o@:55" -/          def w1 : Text := [80, 89, 82, 79, 58, 111, 64, 58, 53, 53]
/-- "PYRONAME:o@:9090" -/    def w2 : Text := [80, 89, 82, 79, 78, 65, 77, 69, 58, 111, 64, 58, 57, 48, 57, 48]
/-- "PYROMETA:," -/          def w3 : Text := [80, 89, 82, 79, 77, 69, 84, 65, 58, 44]
/-- "PYRONAME:x@./u" -/      def w4 : Text := [80, 89, 82, 79, 78, 65, 77, 69, 58, 120, 64, 46, 47, 117]
/-- "PYROMETA:b,a@" -/       def w5 : Text := [80, 89, 82, 79, 77, 69, 84, 65, 58, 98, 44, 97, 64]

/-- **C19_unguarded_fails.**  Without the guards each witness is accepted and prints to a text that is
    rejected or parses to a different URI (findings F19, replayed on the real code by the oracle):
    empty host, all-empty tag set, host `./u`, a tag holding `@`; with the guards all five are rejected. -/
theorem C19_unguarded_fails :
    (parse Guards.off 9090 w1 = .ok ⟨.pyro [111], .tcp [] 55⟩ ∧
      parse Guards.off 9090 (render ⟨.pyro [111], .tcp [] 55⟩ []) = .error .invalid) ∧
    (parse Guards.off 9090 w2 = .ok ⟨.pyroname [111], .tcp [] 9090⟩ ∧
      parse Guards.off 9090 (render ⟨.pyroname [111], .tcp [] 9090⟩ []) = .ok ⟨.pyroname [111], .none⟩) ∧
    (parse Guards.off 9090 w3 = .ok ⟨.pyrometa [[]], .none⟩ ∧
      parse Guards.off 9090 (render ⟨.pyrometa [[]], .none⟩ [[]]) = .error .invalid) ∧
    (parse Guards.off 9090 w4 = .ok ⟨.pyroname [120], .tcp [46, 47, 117] 9090⟩ ∧
      parse Guards.off 9090 (render ⟨.pyroname [120], .tcp [46, 47, 117] 9090⟩ []) =
        .ok ⟨.pyroname [120], .sock [57, 48, 57, 48]⟩) ∧
    (parse Guards.off 9090 w5 = .ok ⟨.pyrometa [[97, 64], [98]], .none⟩ ∧
      parse Guards.off 9090 (render ⟨.pyrometa [[97, 64], [98]], .none⟩ [[97, 64], [98]]) =
        .ok ⟨.pyrometa [[97]], .tcp [44, 98] 9090⟩) ∧
    (∀ w ∈ [w1, w2, w3, w4, w5], (parse Guards.on 9090 w).toBool = false) := by
  decide +kernel

theorem C19_roundtrip_unguarded_false : ¬ RoundTripStatement Guards.off := by
  intro h
  obtain ⟨⟨accepted, rejected⟩, _⟩ := C19_unguarded_fails
  have h1 := h 9090 w1 ⟨.pyro [111], .tcp [] 55⟩ [] accepted trivial
  rw [rejected] at h1
  cases h1

/-! ### obligations about the extracted facts (PyroModel/Gen/C19.lean, regenerated from /repo on every run)
    The facts are behaviour tables PROBED on the imported classes (not the spelling of the source): the
    obligations say that the model reproduces every probed outcome. -/

/-- the model parses the probe input to the probed result, prints it to the probed text and location -/
def parseProbeOK (nsPort : Nat) (t : Text × Except Err Uri × Text × Option Text) : Bool :=
  decide (parse Guards.on nsPort t.1 = t.2.1) &&
  (match t.2.1 with
   | .ok u => decide (render u u.tagOrder = t.2.2.1) && decide (renderLoc u.loc = t.2.2.2)
   | .error _ => true)

/-- the model's `==` on the two parsed probe inputs is the probed `URI(a) == URI(b)` -/
def eqProbeOK (nsPort : Nat) (t : Text × Text × Bool) : Bool :=
  match parse Guards.on nsPort t.1, parse Guards.on nsPort t.2.1 with
  | .ok u, .ok v => eqUri u v == t.2.2
  | _, _ => false

/-- the model's hash is defined exactly when the probed `hash(URI(a))` is -/
def hashProbeOK (nsPort : Nat) (t : Text × Bool) : Bool :=
  match parse Guards.on nsPort t.1 with
  | .ok u => (hashUri (fun _ => 0) u).isSome == t.2
  | .error _ => false

/-- the model's proxy state path delivers what the real Proxy delivered along the probed history -/
def proxyProbeOK (nsPort : Nat) (t : Uri × List ProxyOp × List (Except Err Uri)) : Bool :=
  decide (proxyRun Guards.on nsPort Uri.tagOrder t.1 t.2.1 = t.2.2)

/-- **C19_gen_facts.**  The real classes still behave the way the model was written: the main regular
    expression (pattern, no flags) and — when the extractor can resolve it — the bracketed-location pattern;
    both parse-time guards are in force; on every probe string `URI(s)` does (accept with this state / refuse
    with this kind of error), prints and reports `location` exactly as `parse`/`render`/`renderLoc` do with the
    default NS_PORT; `==` and hashability on the probe pairs are the model's; equal probe URIs hashed alike;
    `Proxy.__getstate__()[0]` is the text `str(uri)`, and along the probed proxy histories (state pair,
    `copy.copy`, uri replaced) the delivered uris are the model's `proxyRun`; a URI object sent through each
    installed serializer arrives equal (tags in the codec's list type where the codec has no set type). -/
theorem C19_gen_facts :
    Pyro.Gen.C19.uriRegex = "(?P<protocol>[Pp][Yy][Rr][Oo][a-zA-Z]*):(?P<object>\\S+?)(@(?P<location>.+))?$" ∧
    Pyro.Gen.C19.uriRegexFlags = 32 ∧
    ((Pyro.Gen.C19.ipv6Regex = "\\[([0-9a-fA-F:%]+)](:(\\d+))?" ∧ Pyro.Gen.C19.ipv6RegexFlags = 32) ∨
      Pyro.Gen.C19.ipv6Regex = "<unresolved>") ∧
    (⟨Pyro.Gen.C19.guardHost, Pyro.Gen.C19.guardTags⟩ : Guards) = Guards.on ∧
    40 ≤ Pyro.Gen.C19.parseProbes.length ∧
    Pyro.Gen.C19.parseProbes.all (parseProbeOK Pyro.Gen.C19.nsPortDefault) = true ∧
    10 ≤ Pyro.Gen.C19.eqProbes.length ∧
    Pyro.Gen.C19.eqProbes.all (eqProbeOK Pyro.Gen.C19.nsPortDefault) = true ∧
    Pyro.Gen.C19.hashProbes.all (hashProbeOK Pyro.Gen.C19.nsPortDefault) = true ∧
    Pyro.Gen.C19.equalHashesAgree = true ∧
    Pyro.Gen.C19.proxyStateIsText = true ∧
    Pyro.Gen.C19.uriStateTravels = true ∧
    3 ≤ Pyro.Gen.C19.proxyProbes.length ∧
    Pyro.Gen.C19.proxyProbes.all (proxyProbeOK Pyro.Gen.C19.nsPortDefault) = true := by
  refine ⟨rfl, rfl, ?_, ?_⟩
  · -- the left disjunct holds when the extractor could resolve the bracket pattern, the right one when it could not
    first
      | exact Or.inl ⟨rfl, rfl⟩
      | exact Or.inr rfl
  · decide +kernel

/-! ### non-vacuity: concrete, non-trivial values meet the hypotheses -/

/-- "PYRO:obj@localhost:55" -/
example : parse Guards.on 9090 [80, 89, 82, 79, 58, 111, 98, 106, 64, 108, 111, 99, 97, 108, 104, 111, 115, 116, 58, 53, 53]
    = .ok ⟨.pyro [111, 98, 106], .tcp [108, 111, 99, 97, 108, 104, 111, 115, 116] 55⟩ := by decide +kernel

/-- "pyrometa:b,a,,b@[::1]:007\n" → tags {"", "a", "b"}, host "::1", port 7 -/
def exMeta : Text := [112, 121, 114, 111, 109, 101, 116, 97, 58, 98, 44, 97, 44, 44, 98, 64, 91, 58, 58, 49, 93, 58, 48, 48, 55, 10]
def exMetaUri : Uri := ⟨.pyrometa [[], [97], [98]], .tcp [58, 58, 49] 7⟩

example : parse Guards.on 9090 exMeta = .ok exMetaUri := by decide +kernel

example : Valid exMetaUri := C19_parse_valid 9090 exMeta exMetaUri (by decide +kernel)

/-- a non-identity iteration order ("b", "", "a") is allowed, prints "PYROMETA:b,,a@[::1]:7", and comes back -/
example : OrderOK exMetaUri [[98], [], [97]] :=
  (List.Perm.swap [] [98] [[97]]).trans ((List.Perm.swap [97] [98] []).cons [])

example : render exMetaUri [[98], [], [97]] =
    [80, 89, 82, 79, 77, 69, 84, 65, 58, 98, 44, 44, 97, 64, 91, 58, 58, 49, 93, 58, 55] := by decide +kernel

example : parse Guards.on 1 (render exMetaUri [[98], [], [97]]) = .ok exMetaUri := by decide +kernel

/-- "PYRONAME:ns@./u:/tmp/s" : a unix socket location; "PYRO:a@h: +5_0 " : port 50 -/
example : parse Guards.on 9090 [80, 89, 82, 79, 78, 65, 77, 69, 58, 110, 115, 64, 46, 47, 117, 58, 47, 116, 109, 112, 47, 115]
    = .ok ⟨.pyroname [110, 115], .sock [47, 116, 109, 112, 47, 115]⟩ := by decide +kernel
example : parse Guards.on 9090 [80, 89, 82, 79, 58, 97, 64, 104, 58, 32, 43, 53, 95, 48, 32]
    = .ok ⟨.pyro [97], .tcp [104] 50⟩ := by decide +kernel

/-- a history: send, bind to "PYRO:obj@localhost:55", copy, send — the PYROMETA uri is delivered once, the PYRO uri twice -/
example : proxyRun Guards.on 1 Uri.tagOrder exMetaUri
      [.send, .setUri ⟨.pyro [111, 98, 106], .tcp [108, 111, 99, 97, 108, 104, 111, 115, 116] 55⟩, .copy, .send]
    = [.ok exMetaUri, .ok ⟨.pyro [111, 98, 106], .tcp [108, 111, 99, 97, 108, 104, 111, 115, 116] 55⟩,
       .ok ⟨.pyro [111, 98, 106], .tcp [108, 111, 99, 97, 108, 104, 111, 115, 116] 55⟩] := by decide +kernel

/-- equal / unequal, hashable / unhashable -/
example : eqUri ⟨.pyro [97], .tcp [104] 50⟩ ⟨.pyro [97], .tcp [104] 51⟩ = false := by decide +kernel
example : hashUri (fun _ => 7) exMetaUri = none := rfl
example : hashUri (fun _ => 7) ⟨.pyro [97], .tcp [104] 50⟩ = some 7 := rfl

end Pyro.C19
