/-
  C06 — Wire messages decode to exactly what was encoded; nothing else decodes.
  Property theorems about `PyroModel.Wire` (model of Pyro5/protocol.py).
  Quantifiers: every field value, payload, annotation list, correlation id, compression setting,
  MAX_MESSAGE_SIZE, every compressor satisfying the zlib round-trip law; every trailing stream.
-/
import PyroModel.Wire
import PyroProofs.Wire
import PyroProofs.WireStages
import PyroProofs.WireReencode
import PyroModel.SockIO
import PyroModel.Gen.C06
import PyroProps.C17

namespace Pyro.C06

open Pyro Pyro.Wire

/-- What the receiver must reconstruct from `m`: everything, with the two codec-managed flag bits
    normalised (COMPRESSED cleared; CORR_ID set iff a correlation id travelled). -/
def decodedOf (m : Msg) : Decoded :=
  { type := m.type, serId := m.serId,
    flags := (let f := clearBit m.flags FLAGS_COMPRESSED
              if m.corr.isSome then setBit f FLAGS_CORR_ID else f),
    seq := m.seq, data := m.payload, anns := m.anns, corr := m.corr.getD zeroCorr }

theorem encode_ok_inv (cfg : Cfg) (z : Zlib) (m : Msg) (bs : Bytes) (h : encode cfg z m = .ok bs) :
    (wirePayload cfg z m).length + annSize m.anns ≤ cfg.maxSize ∧
    (m.corr.getD zeroCorr).length = 16 ∧
    m.type < 256 ∧ m.serId < 256 ∧ headerFlags cfg m < 65536 ∧ m.seq < 65536 ∧
    (wirePayload cfg z m).length < 2 ^ 32 ∧ annSize m.anns < 2 ^ 32 ∧
    ∃ abytes, encodeAnns m.anns = .ok abytes ∧
      bs = packHeader m.type m.serId (headerFlags cfg m) m.seq (wirePayload cfg z m).length
             (annSize m.anns) (m.corr.getD zeroCorr) ++ (abytes ++ wirePayload cfg z m) := by
  unfold encode at h
  simp only at h
  by_cases h1 : (wirePayload cfg z m).length + annSize m.anns > cfg.maxSize
  · rw [if_pos h1] at h; cases h
  · rw [if_neg h1] at h
    by_cases h2 : (m.corr.getD zeroCorr).length ≠ 16
    · rw [if_pos h2] at h; cases h
    · rw [if_neg h2] at h
      by_cases h3 : m.type ≥ 256 ∨ m.serId ≥ 256 ∨ headerFlags cfg m ≥ 65536 ∨ m.seq ≥ 65536 ∨
          (wirePayload cfg z m).length ≥ 2 ^ 32 ∨ annSize m.anns ≥ 2 ^ 32
      · rw [if_pos h3] at h; cases h
      · rw [if_neg h3] at h
        simp only [not_or, Nat.not_le] at h3
        obtain ⟨a1, a2, a3, a4, a5, a6⟩ := h3
        refine ⟨by omega, by omega, a1, a2, a3, a4, a5, a6, ?_⟩
        cases hr : encodeAnns m.anns with
        | error e => rw [hr] at h; cases h
        | ok abytes =>
          rw [hr] at h
          simp only [Except.ok.injEq] at h
          exact ⟨abytes, rfl, h.symm⟩

theorem parseHeader_pack (cfg : Cfg) (t s f q d a : Nat) (c : Bytes)
    (ht : t < 256) (hs : s < 256) (hf : f < 65536) (hq : q < 65536)
    (hd : d < 2 ^ 32) (ha : a < 2 ^ 32) (hc : c.length = 16) (hmax : d + a ≤ cfg.maxSize) :
    parseHeader cfg (packHeader t s f q d a c) =
      .ok { type := t, serId := s, flags := f, seq := q, dataSize := d, annSize := a, corr := c } := by
  unfold parseHeader packHeader headerPrefix
  simp only [List.append_assoc]
  have htag : tagPYRO.length = 4 := rfl
  simp only [List.take_left' htag, List.drop_left' htag, take_toBE_append, drop_toBE_append,
    List.take_left' hc, List.drop_left' hc]
  rw [fromBE_toBE 2 protocolVersion (by decide), fromBE_toBE 1 t (by simpa using ht),
    fromBE_toBE 1 s (by simpa using hs), fromBE_toBE 2 f (by simpa using hf),
    fromBE_toBE 2 q (by simpa using hq), fromBE_toBE 4 d (by simpa using hd),
    fromBE_toBE 4 a (by simpa using ha)]
  have hm : fromBE (List.take 2 (toBE 2 magicNumber)) = magicNumber := by
    have : List.take 2 (toBE 2 magicNumber) = toBE 2 magicNumber := by
      rw [List.take_of_length_le]; simp
    rw [this, fromBE_toBE 2 magicNumber (by decide)]
  rw [hm]
  simp only [ne_eq, not_true_eq_false, or_self, if_false]
  rw [if_neg (by omega)]

theorem hasBit_headerFlags (cfg : Cfg) (m : Msg) : hasBit (headerFlags cfg m) FLAGS_COMPRESSED = isCompressed cfg m := by
  unfold headerFlags
  cases isCompressed cfg m <;> cases m.corr.isSome <;>
    simp [FLAGS_COMPRESSED, FLAGS_CORR_ID, hasBit2_setBit64, hasBit_setBit, hasBit_clearBit]

theorem clearBit_headerFlags (cfg : Cfg) (m : Msg) : clearBit (headerFlags cfg m) FLAGS_COMPRESSED = (decodedOf m).flags := by
  have h := hasBit_clearBit m.flags 2 (by decide)
  unfold headerFlags decodedOf
  cases isCompressed cfg m <;> cases m.corr.isSome <;>
    simp [FLAGS_COMPRESSED, FLAGS_CORR_ID, clearBit2_setBit64, clearBit_setBit _ 2 (by decide) h, clearBit_of_not_hasBit _ 2 h]

/-- **C06_roundtrip.**  Any message the sender can build is decoded by `recv_stub` into exactly its
    fields, payload, annotations and correlation id, consuming exactly the bytes of that message
    and leaving `rest` unread — for every trailing stream, compression on or off, and every zlib
    satisfying `decompress (compress p) = p`.  (`hnd`: annotation keys are distinct, as the keys of
    a Python dict are.) -/
theorem C06_roundtrip (cfg : Cfg) (z : Zlib) (m : Msg) (bs rest : Bytes) (accepted : List Nat)
    (hz : z.Lawful) (hnd : (keysOf m.anns).Nodup)
    (henc : encode cfg z m = .ok bs)
    (hacc : accepted = [] ∨ m.type ∈ accepted) :
    (recvStub cfg z accepted (bs ++ rest)).out = .ok (decodedOf m) ∧
    (recvStub cfg z accepted (bs ++ rest)).rest = rest ∧
    (recvStub cfg z accepted (bs ++ rest)).requested = bs.length := by
  obtain ⟨hmax, hc, ht, hs, hf, hq, hd, ha, abytes, hann, rfl⟩ := encode_ok_inv cfg z m bs henc
  have hal := encodeAnns_length m.anns abytes hann
  have hparse := parseHeader_pack cfg m.type m.serId (headerFlags cfg m) m.seq
    (wirePayload cfg z m).length (annSize m.anns) (m.corr.getD zeroCorr) ht hs hf hq hd ha hc hmax
  -- the header is the six bytes read first and 34 more
  obtain ⟨h34, hpk, hl34⟩ : ∃ h34, packHeader m.type m.serId (headerFlags cfg m) m.seq (wirePayload cfg z m).length
      (annSize m.anns) (m.corr.getD zeroCorr) = headerPrefix ++ h34 ∧ h34.length = headerSize - 6 :=
    ⟨_, rfl, by simp [hc, headerSize]⟩
  rw [hpk] at hparse ⊢
  have hstream : headerPrefix ++ h34 ++ (abytes ++ wirePayload cfg z m) ++ rest =
      headerPrefix ++ (h34 ++ ((abytes ++ wirePayload cfg z m) ++ rest)) := by
    simp only [List.append_assoc]
  have hp4 : List.take 4 headerPrefix = tagPYRO := by simp [headerPrefix, tagPYRO]
  have hd4 : List.drop 4 headerPrefix = toBE 2 protocolVersion := by simp [headerPrefix, tagPYRO]
  rw [hstream, recvStub_append cfg z accepted headerPrefix h34 _ headerPrefix_length hl34 hp4 hd4]
  unfold recvStage2
  rw [hparse]
  simp only
  have hfilter : (!accepted.isEmpty && !accepted.contains m.type) = false := by
    rcases hacc with h | h
    · subst h; rfl
    · have : accepted.contains m.type = true := by simpa using h
      rw [this]; simp
  rw [hfilter]
  simp only [Bool.false_eq_true, if_false]
  unfold recvStage3
  have hbody : (abytes ++ wirePayload cfg z m).length = annSize m.anns + (wirePayload cfg z m).length := by
    simp [hal]
  rw [recvN_append _ _ _ hbody]
  simp only
  refine ⟨?_, ?_, ?_⟩
  rotate_left
  · first | rfl | trivial
  · simp only [List.length_append, headerPrefix_length, hl34, headerSize, hal]
    omega
  · -- addPayload
    unfold addPayload
    simp only
    rw [if_neg (by simp [hal]; omega)]
    have hwalk := walk_encode m.anns abytes (wirePayload cfg z m) [] (annSize m.anns) hann (by omega)
      (by simpa using hnd)
    rw [hal] at hwalk
    rw [hwalk]
    simp only [List.nil_append]
    have hdrop : List.drop (annSize m.anns) (abytes ++ wirePayload cfg z m) = wirePayload cfg z m :=
      List.drop_left' hal
    rw [hdrop]
    rw [hasBit_headerFlags]
    cases hcmp : isCompressed cfg m
    · have hfl : headerFlags cfg m = (decodedOf m).flags := by
        rw [← clearBit_headerFlags, clearBit_of_not_hasBit _ _ (by rw [hasBit_headerFlags, hcmp])]
      simp [hfl, wirePayload, hcmp, decodedOf]
    · simp [clearBit_headerFlags, wirePayload, hcmp, hz m.payload, decodedOf]

/-! ### size limits -/

theorem encodeAnns_not_tooLarge (anns : List Ann) : encodeAnns anns ≠ .error .tooLarge := by
  induction anns with
  | nil => exact nofun
  | cons a rest ih =>
    obtain ⟨k, v⟩ := a
    rw [encodeAnns]
    -- a refusal of this entry carries another error; an error of the rest is passed on unchanged
    split; · exact nofun
    split; · exact nofun
    split; · exact nofun
    split
    · rename_i e he
      intro h
      cases h
      exact ih he
    · exact nofun

/-- **C06_sender_limit.**  The sender refuses a message exactly when its wire size (payload as sent,
    i.e. after compression, plus 8 bytes per annotation plus the annotation values) exceeds
    MAX_MESSAGE_SIZE — for every MAX_MESSAGE_SIZE setting. -/
theorem C06_sender_limit (cfg : Cfg) (z : Zlib) (m : Msg) :
    encode cfg z m = .error .tooLarge ↔ (wirePayload cfg z m).length + annSize m.anns > cfg.maxSize := by
  constructor
  · intro h
    unfold encode at h
    simp only at h
    by_cases h1 : (wirePayload cfg z m).length + annSize m.anns > cfg.maxSize
    · exact h1
    · rw [if_neg h1] at h
      exfalso
      by_cases h2 : (m.corr.getD zeroCorr).length ≠ 16
      · rw [if_pos h2] at h; cases h
      · rw [if_neg h2] at h
        by_cases h3 : m.type ≥ 256 ∨ m.serId ≥ 256 ∨ headerFlags cfg m ≥ 65536 ∨ m.seq ≥ 65536 ∨
            (wirePayload cfg z m).length ≥ 2 ^ 32 ∨ annSize m.anns ≥ 2 ^ 32
        · rw [if_pos h3] at h; cases h
        · rw [if_neg h3] at h
          cases hr : encodeAnns m.anns with
          | error e =>
            rw [hr] at h
            simp only [Except.error.injEq] at h
            subst h
            exact encodeAnns_not_tooLarge _ hr
          | ok abytes => rw [hr] at h; cases h
  · intro h
    unfold encode
    simp only
    rw [if_pos h]

theorem parseHeader_ok_size (cfg : Cfg) (h : Bytes) (H : Header) (hp : parseHeader cfg h = .ok H) :
    H.dataSize + H.annSize ≤ cfg.maxSize := by
  unfold parseHeader at hp
  simp only at hp
  split at hp
  · cases hp
  · split at hp
    · cases hp
    · rename_i hsz
      simp only [Except.ok.injEq] at hp
      subst hp
      simp only
      omega

/-- **C06_receiver_limit.**  If `recv_stub` asks the connection for anything beyond the 40 header
    bytes, the header it parsed declared `data + annotations ≤ MAX_MESSAGE_SIZE`: an oversized
    message is refused before any of its body is read, for every stream and every limit. -/
theorem C06_receiver_limit (cfg : Cfg) (z : Zlib) (accepted : List Nat) (stream : Bytes)
    (h : (recvStub cfg z accepted stream).requested > headerSize) :
    ∃ H, parseHeader cfg (stream.take headerSize) = .ok H ∧ H.dataSize + H.annSize ≤ cfg.maxSize ∧
      (recvStub cfg z accepted stream).requested = headerSize + H.annSize + H.dataSize := by
  rcases recvStub_inv cfg z accepted stream with ⟨_, _, hle⟩ | ⟨h6, h34, s2, rfl, l6, l34, ht, hv⟩
  · exact absurd h (Nat.not_lt.mpr hle)
  · rw [recvStub_append cfg z accepted h6 h34 s2 l6 l34 ht hv] at h ⊢
    rcases stage2_inv cfg z accepted (h6 ++ h34) s2 with ⟨_, _, he⟩ | ⟨H, hp, _, hs⟩
    · exact absurd h (he ▸ Nat.lt_irrefl _)
    · have htake : (h6 ++ (h34 ++ s2)).take headerSize = h6 ++ h34 := by
        rw [← List.append_assoc]
        apply List.take_left'
        simp only [List.length_append, l6, l34, headerSize]
      rw [htake, hs]
      exact ⟨H, hp, parseHeader_ok_size cfg _ H hp, stage3_requested z H s2⟩

/-! ### acceptance implies well-formedness -/

/-- **C06_accepts_only_wellformed.**  Whatever byte string `recv_stub` accepts is a well-formed
    message: a 40-byte header that parses, followed by an annotation area that is tiled *exactly* by
    (4-byte id, 4-byte length, value) chunks, followed by exactly `data_size` bytes, followed by the
    untouched rest; the decoded annotations are those chunks (later duplicate wins) and exactly the
    message's bytes were requested.  Everything else raises. -/
theorem C06_accepts_only_wellformed (cfg : Cfg) (z : Zlib) (accepted : List Nat) (stream : Bytes)
    (d : Decoded) (n : Nat) (rest : Bytes)
    (h : recvStub cfg z accepted stream = ⟨.ok d, n, rest⟩) :
    ∃ (hdr : Bytes) (H : Header) (chunks : List (Bytes × Bytes)) (data : Bytes),
      stream = hdr ++ (rawChunks chunks ++ (data ++ rest)) ∧
      hdr.length = headerSize ∧ parseHeader cfg hdr = .ok H ∧
      (rawChunks chunks).length = H.annSize ∧ data.length = H.dataSize ∧
      n = headerSize + H.annSize + H.dataSize ∧
      (accepted = [] ∨ H.type ∈ accepted) ∧
      d.anns = chunks.foldl (fun a c => dictSet a (c.1.map UInt8.toNat) c.2) [] ∧
      d.type = H.type ∧ d.serId = H.serId ∧ d.seq = H.seq ∧ d.corr = H.corr ∧
      ((hasBit H.flags FLAGS_COMPRESSED = false ∧ d.data = data ∧ d.flags = H.flags) ∨
       (hasBit H.flags FLAGS_COMPRESSED = true ∧ z.decompress data = some d.data ∧
          d.flags = clearBit H.flags FLAGS_COMPRESSED)) := by
  obtain ⟨h6, h34, s2, e1, l6, l34, hs2⟩ := recvStub_ok cfg z accepted stream d n rest h
  obtain ⟨H, hp, hacc, hs3⟩ := stage2_ok cfg z accepted _ s2 d n rest hs2
  obtain ⟨body, e2, lb, hadd, hn⟩ := stage3_ok z H s2 d n rest hs3
  obtain ⟨_, chunks, hc1, hanns, ht, hs, hq, hc, hdata⟩ := addPayload_ok z H body d hadd
  refine ⟨h6 ++ h34, H, chunks, body.drop H.annSize, ?_, ?_, hp, ?_, ?_, hn, hacc, hanns, ht, hs, hq, hc, hdata⟩
  · rw [e1, e2, ← hc1, List.append_assoc]
    congr 2
    rw [← List.append_assoc, List.take_append_drop]
  · simp only [List.length_append, l6, l34, headerSize]
  · rw [← hc1]; simp only [List.length_take]; omega
  · simp only [List.length_drop]; omega

/-! ### whatever is accepted re-encodes to an equivalent message -/

theorem parseHeader_ok_ranges (cfg : Cfg) (h : Bytes) (H : Header) (hl : h.length = headerSize)
    (hp : parseHeader cfg h = .ok H) :
    H.type < 256 ∧ H.serId < 256 ∧ H.flags < 65536 ∧ H.seq < 65536 ∧ H.dataSize < 2 ^ 32 ∧
    H.annSize < 2 ^ 32 ∧ H.corr.length = 16 := by
  unfold parseHeader at hp
  simp only at hp
  split at hp
  · cases hp
  · split at hp
    · cases hp
    · simp only [Except.ok.injEq] at hp
      subst hp
      simp only [headerSize] at hl
      simp only [List.drop_drop, Nat.reduceAdd]
      -- every field is a slice that lies inside the 40 bytes, so it has the width the format gives it
      have len (k n : Nat) (hkn : k + n ≤ 40) : ((h.drop k).take n).length = n := by
        simp only [List.length_take, List.length_drop]
        omega
      have lt (k n : Nat) (hkn : k + n ≤ 40) : fromBE ((h.drop k).take n) < 256 ^ n := by
        simpa [len k n hkn] using fromBE_lt ((h.drop k).take n)
      exact ⟨lt 6 1 (by omega), lt 7 1 (by omega), lt 8 2 (by omega), lt 10 2 (by omega), lt 12 4 (by omega), lt 16 4 (by omega),
        len 20 16 (by omega)⟩

/-- the message a decoded message stands for (its correlation id travels explicitly) -/
def msgOf (d : Decoded) : Msg :=
  { type := d.type, serId := d.serId, flags := d.flags, seq := d.seq, payload := d.data, anns := d.anns,
    corr := some d.corr }

/-- **C06_reencode.**  Whatever `recv_stub` accepts can be sent again: encoding the decoded message
    (uncompressed, with any limit that admits it) succeeds, and decoding those bytes gives back the same
    type, serializer, sequence number, payload, annotations and correlation id, with flags equal up
    to the two codec-managed bits.  (`hdata`: a decompressed payload must itself fit the 32-bit
    length field.) -/
theorem C06_reencode (cfg cfg' : Cfg) (z : Zlib) (accepted : List Nat) (stream : Bytes)
    (d : Decoded) (n : Nat) (rest rest' : Bytes) (hz : z.Lawful)
    (h : recvStub cfg z accepted stream = ⟨.ok d, n, rest⟩)
    (hcomp : cfg'.compression = false) (hdata : d.data.length < 2 ^ 32)
    (hmax : d.data.length + annSize d.anns ≤ cfg'.maxSize) :
    ∃ bs, encode cfg' z (msgOf d) = .ok bs ∧
      (recvStub cfg' z [] (bs ++ rest')).out =
        .ok { d with flags := setBit (clearBit d.flags FLAGS_COMPRESSED) FLAGS_CORR_ID } ∧
      (recvStub cfg' z [] (bs ++ rest')).rest = rest' := by
  obtain ⟨h6, h34, s2, e1, l6, l34, hs2⟩ := recvStub_ok cfg z accepted stream d n rest h
  obtain ⟨H, hp, _, hs3⟩ := stage2_ok cfg z accepted _ s2 d n rest hs2
  obtain ⟨body, _, _, hadd, _⟩ := stage3_ok z H s2 d n rest hs3
  have hlen40 : (h6 ++ h34).length = headerSize := by simp [l6, l34, headerSize]
  obtain ⟨rt, rs, rf, rq, _, ra, rc⟩ := parseHeader_ok_ranges cfg _ H hlen40 hp
  obtain ⟨hbl, hwalk, ht, hsr, hsq, hcr, hfl⟩ := addPayload_inv z H body d hadd
  obtain ⟨chunks, htile, hchunks, hanns⟩ := walk_tiles _ _ _ _ _ hwalk (hbl ▸ Nat.le_add_left _ _)
  obtain ⟨hnd, hok, hsz⟩ := chunks_reencodable chunks [] d.anns hanns.symm hchunks (by simp [keysOf]) (by simp)
  rw [← htile, List.length_take_of_le (hbl ▸ Nat.le_add_left _ _), show annSize [] = 0 from rfl, Nat.zero_add] at hsz
  have hflags : d.flags < 65536 := by
    rcases hfl with ⟨_, _, hf⟩ | ⟨_, _, hf⟩
    · rw [hf]; exact rf
    · rw [hf]; exact Nat.lt_of_le_of_lt (clearBit_le _ _) rf
  -- the encoder's view of msgOf d under cfg'
  have hnc : isCompressed cfg' (msgOf d) = false := by simp [isCompressed, hcomp]
  have hwp : wirePayload cfg' z (msgOf d) = d.data := by
    unfold wirePayload; rw [hnc]; simp [msgOf]
  have hhf : headerFlags cfg' (msgOf d) = setBit (clearBit d.flags FLAGS_COMPRESSED) FLAGS_CORR_ID := by
    unfold headerFlags; rw [hnc]; simp [msgOf]
  obtain ⟨abytes, habytes⟩ := encodeAnns_ok d.anns hok
  have henc : ∃ bs, encode cfg' z (msgOf d) = .ok bs := by
    unfold encode
    simp only [hwp, hhf]
    have hm : (msgOf d).anns = d.anns := rfl
    have hcorr : (msgOf d).corr.getD zeroCorr = d.corr := rfl
    rw [hm, hcorr]
    rw [if_neg (by omega)]
    rw [if_neg (by rw [hcr]; simp [rc])]
    have hfl2 : setBit (clearBit d.flags FLAGS_COMPRESSED) FLAGS_CORR_ID < 65536 :=
      setBit64_lt _ (Nat.lt_of_le_of_lt (clearBit_le _ _) hflags)
    have : ¬ ((msgOf d).type ≥ 256 ∨ (msgOf d).serId ≥ 256 ∨
        setBit (clearBit d.flags FLAGS_COMPRESSED) FLAGS_CORR_ID ≥ 65536 ∨ (msgOf d).seq ≥ 65536 ∨
        d.data.length ≥ 2 ^ 32 ∨ annSize d.anns ≥ 2 ^ 32) := by
      simp only [msgOf, ht, hsr, hsq, not_or, Nat.not_le]
      exact ⟨rt, rs, hfl2, rq, hdata, by omega⟩
    rw [if_neg this, habytes]
    exact ⟨_, rfl⟩
  obtain ⟨bs, hbs⟩ := henc
  refine ⟨bs, hbs, ?_⟩
  have hrt := C06_roundtrip cfg' z (msgOf d) bs rest' [] hz (by simpa [msgOf] using hnd) hbs (Or.inl rfl)
  refine ⟨?_, hrt.2.1⟩
  rw [hrt.1]
  simp [decodedOf, msgOf, zeroCorr]

/-! ### fragmentation: the codec over the socket model of C17 -/

/-- `SocketConnection.recv(n)` over the scripted socket of `PyroModel.SockIO`. -/
def sockRecv (waitall : Bool) (n : Nat) (st : Bytes × List SockIO.Ev) : Option (Bytes × (Bytes × List SockIO.Ev)) :=
  match SockIO.receive waitall n st.1 st.2 with
  | (.ok d, rest, sc) => some (d, (rest, sc))
  | _ => none

theorem sockRecv_exact (waitall : Bool) (n : Nat) (st : Bytes × List SockIO.Ev) (d : Bytes)
    (st' : Bytes × List SockIO.Ev) (h : sockRecv waitall n st = some (d, st')) :
    recvN n st.1 = some (d, st'.1) := by
  unfold sockRecv at h
  split at h
  · rename_i d' rest sc heq
    simp only [Option.some.injEq, Prod.mk.injEq] at h
    obtain ⟨rfl, rfl⟩ := h
    obtain ⟨h1, h2, h3⟩ := Pyro.C17.C17_recv_exact waitall n st.1 st.2 d' rest sc heq
    unfold recvN
    have : n ≤ st.1.length := by
      rw [h1] at h3; simp only [List.length_take] at h3; omega
    rw [if_pos this, ← h1, ← h2]
  · cases h

/-- Generic: a connection whose `recv` returns exactly the next bytes of its unread stream makes
    `recv_stub` behave exactly as on the unfragmented stream. -/
theorem recvStubG_eq {σ : Type} (recv : Nat → σ → Option (Bytes × σ)) (unread : σ → Bytes)
    (hrecv : ∀ n s d s', recv n s = some (d, s') → recvN n (unread s) = some (d, unread s'))
    (cfg : Cfg) (z : Zlib) (accepted : List Nat) (s : σ) (r : StubResult)
    (h : recvStubG recv unread cfg z accepted s = some r) :
    recvStub cfg z accepted (unread s) = r := by
  unfold recvStubG at h
  unfold recvStub
  generalize h1 : recv 6 s = r1 at h
  cases r1 with
  | none => simp at h
  | some p1 =>
    obtain ⟨h6, s1⟩ := p1
    rw [hrecv 6 s h6 s1 h1]
    simp only at h ⊢
    by_cases c1 : h6.take 4 ≠ tagPYRO
    · rw [if_pos c1] at h ⊢; simpa using h
    · rw [if_neg c1] at h ⊢
      by_cases c2 : h6.drop 4 ≠ toBE 2 protocolVersion
      · rw [if_pos c2] at h ⊢; simpa using h
      · rw [if_neg c2] at h ⊢
        generalize h2 : recv (headerSize - 6) s1 = r2 at h
        cases r2 with
        | none => simp at h
        | some p2 =>
          obtain ⟨h34, s2⟩ := p2
          rw [hrecv _ s1 h34 s2 h2]
          simp only at h ⊢
          unfold recvStage2
          generalize hp : parseHeader cfg (h6 ++ h34) = ph at h ⊢
          cases ph with
          | error e => simpa using h
          | ok H =>
            simp only at h ⊢
            by_cases c3 : (!accepted.isEmpty && !accepted.contains H.type) = true
            · rw [if_pos c3] at h ⊢; simpa using h
            · rw [if_neg c3] at h ⊢
              unfold recvStage3
              generalize h3 : recv (H.annSize + H.dataSize) s2 = r3 at h
              cases r3 with
              | none => simp at h
              | some p3 =>
                obtain ⟨body, s3⟩ := p3
                rw [hrecv _ s2 body s3 h3]
                simpa using h

/-- **C06_fragmentation.**  Reading a message through the socket layer — any script of partial
    deliveries and retryable errors, with or without MSG_WAITALL — gives exactly the result of
    reading it from the unfragmented stream (same message or same error, same unread rest),
    whenever no socket read itself failed. -/
theorem C06_fragmentation (waitall : Bool) (cfg : Cfg) (z : Zlib) (accepted : List Nat)
    (stream : Bytes) (script : List SockIO.Ev) (r : StubResult)
    (h : recvStubG (sockRecv waitall) (fun st => st.1) cfg z accepted (stream, script) = some r) :
    recvStub cfg z accepted stream = r :=
  recvStubG_eq (sockRecv waitall) (fun st => st.1)
    (fun n s d s' hh => sockRecv_exact waitall n s d s' hh) cfg z accepted (stream, script) r h

/-! ### obligations about facts extracted from the current source (PyroModel/Gen/C06.lean) -/

/-- The constants and layout the model is written against are the ones in the source now. -/
theorem C06_gen_facts :
    Pyro.Gen.C06.headerFormat = "!4sHBBHHII16sHH" ∧
    Pyro.Gen.C06.headerSize = headerSize ∧
    Pyro.Gen.C06.protocolVersion = protocolVersion ∧
    Pyro.Gen.C06.magicNumber = magicNumber ∧
    Pyro.Gen.C06.flagsCompressed = FLAGS_COMPRESSED ∧
    Pyro.Gen.C06.flagsCorrId = FLAGS_CORR_ID ∧
    Pyro.Gen.C06.acceptedKeyLengths = [4] ∧
    (packHeader 0 0 0 0 0 0 zeroCorr).length = Pyro.Gen.C06.headerSize := by decide

/-- **C06_gen_conditions.**  The three decisions of the codec — compress or not, sender refuses, receiver
    refuses — are translated from the source's own `if` conditions on every run; for all arguments
    they are the conditions the model's `isCompressed`, `encode` (C06_sender_limit) and `parseHeader`
    use, and the sender checks its limit after the compression step. -/
theorem C06_gen_conditions :
    (∀ (cfg : Cfg) (m : Msg), Pyro.Gen.C06.compressCond cfg.compression m.payload.length = isCompressed cfg m) ∧
    (∀ (cfg : Cfg) (z : Zlib) (m : Msg),
        Pyro.Gen.C06.senderRefuses ((wirePayload cfg z m).length + annSize m.anns) cfg.maxSize = true ↔
          encode cfg z m = .error .tooLarge) ∧
    (∀ (cfg : Cfg) (h : Bytes) (H : Header), parseHeader cfg h = .ok H →
        Pyro.Gen.C06.receiverRefuses H.dataSize H.annSize cfg.maxSize = false) ∧
    Pyro.Gen.C06.senderLimitAfterCompression = true := by
  refine ⟨?_, ?_, ?_, by decide⟩
  · intro cfg m; simp [Pyro.Gen.C06.compressCond, isCompressed, compressThreshold]
  · intro cfg z m
    rw [C06_sender_limit]
    simp [Pyro.Gen.C06.senderRefuses]
  · intro cfg h H hp
    have := parseHeader_ok_size cfg h H hp
    simp only [Pyro.Gen.C06.receiverRefuses, decide_eq_false_iff_not, Nat.not_lt]
    omega

/-! ### non-vacuity -/

private def zId : Zlib := { compress := fun p => 0x78 :: p, decompress := fun d => d.tail? }
example : zId.Lawful := fun _ => rfl
private def m0 : Msg := { type := 4, serId := 2, flags := 2 + 8, seq := 65535, payload := [1, 2, 3],
                          anns := [([72, 77, 65, 67], [9, 9]), ([65, 66, 67, 68], [])], corr := some zeroCorr }
example : (encode ⟨false, 1000⟩ zId m0).toOption.isSome = true ∧ (keysOf m0.anns).Nodup := by decide
example : (recvStub ⟨false, 1000⟩ zId [4] (((encode ⟨false, 1000⟩ zId m0).toOption.getD []) ++ [7, 7])).out.toOption
    = some (decodedOf m0) := by decide

end Pyro.C06
