/-
  C14Src.lean — the transcription of `NameServer`'s methods (PyroModel/Gen/C14Src.lean, regenerated from
  Pyro5/nameserver.py on every run by harness/props/c14_tr.py) computes exactly what the hand-written model
  `nsStep` computes, and the C14 theorems restated about the transcription.

  * `count`, `lookup`, `register`, `set_metadata`: equal for EVERY storage back-end, environment, argument and state.
  * `list`, `yplookup`, `remove`: the source builds Python dicts (`result[name] = …` overwrites an existing key) and
    uses `list.remove` (first occurrence), the model conses / filters; the two agree because a mapping yields
    distinct keys — that is what the storage contract `StoreOK` provides, so these are proved for every back-end
    meeting the contract, in every state satisfying its invariant.
-/
import PyroModel.NameServer
import PyroModel.NsSrc
import PyroModel.Gen.C14Src
import PyroProofs.NSRefine
import PyroProofs.NsSrcLoops
import PyroProofs.NSMem
import PyroProofs.NSSql
import PyroProps.C14

namespace Pyro.C14

open Pyro.NS Pyro.NS.Src Pyro.NS.Sql Pyro.Gen.C14Src

variable {σ : Type}

/-! ### methods without containers: unconditional -/

/-- `NameServer.count` as transcribed = the model, for every back-end and state. -/
theorem C14_count_translated (S : Store σ) (env : Env) (s : σ) :
    countSrc S env s = nsStep S env .count s := rfl

/-- `NameServer.lookup` as transcribed = the model: KeyError → NamingError, a rejected stored URI → PyroError
    (not caught by `except KeyError`), with / without metadata. -/
theorem C14_lookup_translated (S : Store σ) (env : Env) (n : Str) (wm : Bool) (s : σ) :
    lookupSrc S env n wm s = nsStep S env (.lookup n wm) s := by
  simp only [lookupSrc, nsStep, tryExcept, withLock, getItemK, call, uriK]
  rcases h : S.getItem n s with ⟨o, s1⟩
  rcases o with _ | _ | e
  · simp
  · simp
  · by_cases hu : env.uriOk e.uri <;> cases wm <;> simp [hu]

/-- `NameServer.register` as transcribed = the model: validation order URI → metadata type → `safe` check,
    one `in` test only when `safe`, stored tags = the distinct members or nothing. -/
theorem C14_register_translated (S : Store σ) (env : Env) (n u : Str) (safe : Bool) (md : MetaArg) (s : σ) :
    registerSrc S env n u safe md s = nsStep S env (.register n u safe md) s := by
  simp only [registerSrc, nsStep, withLock, uriK, optTags_storedTags]
  by_cases hu : env.uriOk u <;> by_cases hm : md.isStr <;> cases safe <;> simp [hu, hm, call]

/-- `NameServer.set_metadata` as transcribed = the model. -/
theorem C14_setMeta_translated (S : Store σ) (env : Env) (n : Str) (md : MetaArg) (s : σ) :
    setMetaSrc S env n md s = nsStep S env (.setMeta n md) s := by
  simp only [setMetaSrc, nsStep, withLock, tryExcept, getItemK, optTags_storedTags]
  by_cases hm : md.isStr <;> simp [hm, call]
  rcases S.getItem n s with ⟨o, s1⟩
  rcases o with _ | _ | e
  · simp
  · simp
  · simp only []
    rcases S.setItem n e.uri (storedTags md) s1 with ⟨o2, s2⟩
    rcases o2 with _ | _ <;> simp

/-! ### containers: Python dict insertion and `list.remove` against the model's cons / filter
  (the loops and the key-list surgery: PyroProofs/NsSrcLoops.lean) -/

section loops
variable {abs : σ → List Entry} {inv : σ → Prop} {F : Prop}

/-- `NameServer.list` as transcribed = the model, on every back-end meeting the storage contract. -/
theorem C14_list_translated {S : Store σ} (ok : StoreOK abs inv F S) (env : Env) (pfx regex : Option Str) (wm : Bool)
    (s : σ) (hi : inv s) (hs : SpecInv (abs s)) :
    listSrc S env pfx regex wm s = nsList S env pfx regex wm s := by
  unfold listSrc nsList
  simp only [withLock, reCompileK]
  rcases truthy? pfx with _ | p <;> rcases truthy? regex with _ | r <;> simp only []
  · refine call_congr (ok.optRegex r wm s hi hs) fun o s1 _ h1 h2 => ?_
    cases o with
    | some l => rfl
    | none =>
      simp only []
      split
      · exact iter_listBody ok _ wm s1 h2 (h1 ▸ hs)
      · rfl
  · refine call_congr (ok.optPrefix p wm s hi hs) fun o s1 _ h1 h2 => ?_
    cases o with
    | some l => rfl
    | none => exact iter_listBody ok _ wm s1 h2 (h1 ▸ hs)

/-- `NameServer.yplookup` as transcribed = the model, on every back-end meeting the storage contract. -/
theorem C14_yplookup_translated {S : Store σ} (ok : StoreOK abs inv F S) (env : Env) (all any : MetaArg) (wm : Bool)
    (s : σ) (hi : inv s) (hs : SpecInv (abs s)) :
    yplookupSrc S env all any wm s = nsStep S env (.yplookup all any wm) s := by
  simp only [yplookupSrc, nsStep, withLock]
  by_cases ha : all.truthy <;> by_cases hb : any.truthy <;> simp only [ha, hb, if_true, if_false, Bool.and_true, Bool.and_false,
    Bool.false_and, Bool.true_and, Bool.false_eq_true]
  · by_cases hstr : all.isStr
    · simp [hstr, nsYp]
    · simp only [hstr, if_false, Bool.false_eq_true]
      exact yp_branch ok wm s hi hs true all ha (by simpa using hstr)
  · by_cases hstr : any.isStr
    · simp [hstr, nsYp]
    · simp only [hstr, if_false, Bool.false_eq_true]
      exact yp_branch ok wm s hi hs false any hb (by simpa using hstr)

/-- `NameServer.remove` as transcribed = the model, on every back-end meeting the storage contract
    (`items.remove(NS)` removes the first occurrence, the model filters: the same on a dict's key list). -/
theorem C14_remove_translated {S : Store σ} (ok : StoreOK abs inv F S) (env : Env) (name pfx regex : Option Str)
    (s : σ) (hi : inv s) (hs : SpecInv (abs s)) :
    removeSrc S env name pfx regex s = nsStep S env (.remove name pfx regex) s := by
  -- the prefix / regex tail from any state representing the same map, for either way the source may drop the
  -- name server's own name from the key list
  have rest := fun (f : List Str → List Str) hf (s1 : σ) (h2 : inv s1) (h1 : abs s1 = abs s) =>
    remove_tail_src ok env pfx regex s1 h2 (h1 ▸ hs) (lst := fun p r => listSrc S env p r false)
      (fun p r => C14_list_translated ok env p r false s1 h2 (h1 ▸ hs)) (f := f) hf
  simp only [removeSrc, nsStep, withLock, delItemK]
  cases truthy? name with
  | none => first | exact rest _ guardedErase_eq_filter s hi rfl | exact rest _ (fun _ _ => rfl) s hi rfl
  | some n =>
    refine call_congr (ok.contains n s hi hs) fun b s1 _ h1 h2 => ?_
    rw [bne_nsName]
    cases b <;> cases hn : (n != nsName) <;>
      simp only [Bool.true_and, Bool.false_and, Bool.and_true, Bool.and_false, if_true, if_false, Bool.false_eq_true] <;>
      first | exact rest _ guardedErase_eq_filter s1 h2 h1 | exact rest _ (fun _ _ => rfl) s1 h2 h1 | rfl

/-- **C14_ns_translated.**  Every `NameServer` method as transcribed from the source computes exactly what the
    hand-written model `nsStep` computes — same result, same storage calls in the same order, same final storage
    state — on every back-end meeting the storage contract, for every environment, argument and state. -/
theorem C14_ns_translated {S : Store σ} (ok : StoreOK abs inv F S) (env : Env) (op : Op) (s : σ)
    (hi : inv s) (hs : SpecInv (abs s)) : nsStepSrc S env op s = nsStep S env op s := by
  cases op with
  | count => exact C14_count_translated S env s
  | lookup n wm => exact C14_lookup_translated S env n wm s
  | register n u safe md => exact C14_register_translated S env n u safe md s
  | setMeta n md => exact C14_setMeta_translated S env n md s
  | remove name pfx regex => exact C14_remove_translated ok env name pfx regex s hi hs
  | list pfx regex wm => exact C14_list_translated ok env pfx regex wm s hi hs
  | yplookup all any wm => exact C14_yplookup_translated ok env all any wm s hi hs

/-- **C14_source_step_refines.**  The refinement theorem about the transcription: on any back-end meeting the
    contract, a transcribed operation either raises the storage error leaving the represented map untouched, or
    answers as the plain map and moves the represented map accordingly. -/
theorem C14_source_step_refines {S : Store σ} (ok : StoreOK abs inv F S) (env : Env) (op : Op) (s : σ)
    (hi : inv s) (hs : SpecInv (abs s)) :
    Good abs inv F (abs s) (specStep env op (abs s)) (nsStepSrc S env op s) := by
  rw [C14_ns_translated ok env op s hi hs]
  exact ns_step_refines ok env op s hi hs

end loops

/-- whole histories: the transcription and the model run identically from any state that represents a map -/
theorem hist_translated {abs : σ → List Entry} {inv : σ → Prop} {S : Store σ}
    (ok : StoreOK abs inv False S) (env : Env) :
    ∀ (ops : List Op) (s : σ), inv s → SpecInv (abs s) →
      runHist (nsStepSrc S env) ops s = runHist (nsStep S env) ops s
  | [], _, _, _ => rfl
  | op :: ops, s, hi, hs => by
    obtain ⟨h1, _, h3, h4⟩ := step_refines ok env op s (abs s) hi hs (.refl _)
    simp only [runHist, C14_ns_translated ok env op s hi hs]
    rw [hist_translated ok env ops _ h1 (h4.perm h3.symm)]

/-- **C14_source_mem_refines.**  `C14_mem_refines` about the transcribed methods. -/
theorem C14_source_mem_refines (env : Env) (ops : List Op) :
    ResListEquiv (runHist (nsStepSrc memStore env) ops []).1 (runHist (specStep env) ops []).1 ∧
    (runHist (nsStepSrc memStore env) ops []).2.Perm (runHist (specStep env) ops []).2 := by
  rw [hist_translated mem_storeOK env ops [] trivial specInv_nil]
  exact C14_mem_refines env ops

/-- `sqlRun` with the transcribed methods -/
def sqlRunSrc (env : Env) : List Cmd → SqlState → List Res × SqlState
  | [], s => ([], s)
  | .op o :: cs, s =>
    let (r, s1) := nsStepSrc sqlStore env o s
    let (rs, s2) := sqlRunSrc env cs s1
    (r :: rs, s2)
  | .reopen :: cs, s => sqlRunSrc env cs (reopen s)

theorem sqlRun_translated (env : Env) :
    ∀ (cs : List Cmd) (s : SqlState), invS False s → SpecInv s.db.abs →
      sqlRunSrc env cs s = sqlRun env cs s
  | [], _, _, _ => rfl
  | .op o :: cs, s, hi, hs => by
    obtain ⟨h1, _, h3, h4⟩ := step_refines (sql_storeOK False) env o s s.db.abs hi hs (.refl _)
    simp only [sqlRunSrc, sqlRun, C14_ns_translated (sql_storeOK False) env o s hi hs]
    rw [sqlRun_translated env cs _ h1 (h4.perm h3.symm)]
  | .reopen :: cs, s, hi, hs => by
    simp only [sqlRunSrc, sqlRun]
    exact sqlRun_translated env cs (reopen s) ⟨hi.1, fun _ => rfl⟩ hs

/-- **C14_source_sql_refines.**  `C14_sql_refines` (reopen points anywhere) about the transcribed methods. -/
theorem C14_source_sql_refines (env : Env) (cs : List Cmd) :
    ResListEquiv (sqlRunSrc env cs sqlInit).1 (runHist (specStep env) (opsOf cs) []).1 ∧
    (sqlRunSrc env cs sqlInit).2.db.abs.Perm (runHist (specStep env) (opsOf cs) []).2 := by
  rw [sqlRun_translated env cs sqlInit ⟨sqlInv_empty, fun _ => rfl⟩ specInv_nil]
  exact C14_sql_refines env cs

/-- **C14_source_backends_equal.**  The transcribed name server over the two back-ends is observationally the same. -/
theorem C14_source_backends_equal (env : Env) (cs : List Cmd) :
    ResListEquiv (sqlRunSrc env cs sqlInit).1 (runHist (nsStepSrc memStore env) (opsOf cs) []).1 ∧
    (sqlRunSrc env cs sqlInit).2.db.abs.Perm (runHist (nsStepSrc memStore env) (opsOf cs) []).2 := by
  obtain ⟨a1, a2⟩ := C14_source_sql_refines env cs
  obtain ⟨b1, b2⟩ := C14_source_mem_refines env (opsOf cs)
  exact ⟨a1.trans b1.symm, a2.trans b2.symm⟩

/-- **C14_source_atomic.**  `C14_atomic` about the transcribed methods: any failure counter, any operation. -/
theorem C14_source_atomic (env : Env) (op : Op) (db : Db) (fuel : Fuel) (hi : SqlInv db) (hs : SpecInv db.abs) :
    ((nsStepSrc sqlStore env op ⟨db, fuel⟩).1 = .err .storage ∧ (nsStepSrc sqlStore env op ⟨db, fuel⟩).2.db.abs = db.abs) ∨
    (Res.Equiv (nsStepSrc sqlStore env op ⟨db, fuel⟩).1 (specStep env op db.abs).1 ∧
      (nsStepSrc sqlStore env op ⟨db, fuel⟩).2.db.abs.Perm (specStep env op db.abs).2) := by
  rw [C14_ns_translated (sql_storeOK True) env op ⟨db, fuel⟩ ⟨hi, fun h => (h trivial).elim⟩ hs]
  exact C14_atomic env op db fuel hi hs

/-- **C14_source_counts.**  `C14_counts` about the transcribed `remove`. -/
theorem C14_source_counts {abs : σ → List Entry} {inv : σ → Prop} {S : Store σ}
    (ok : StoreOK abs inv False S) (env : Env) (name pfx regex : Option Str) (s : σ)
    (hi : inv s) (hs : SpecInv (abs s)) {k : Nat}
    (h : (removeSrc S env name pfx regex s).1 = .num k) :
    (abs (removeSrc S env name pfx regex s).2).length + k = (abs s).length := by
  rw [C14_remove_translated ok env name pfx regex s hi hs] at h ⊢
  exact C14_counts ok env name pfx regex s hi hs h

/-- **C14_source_ns_protected.**  `C14_ns_protected` about the transcribed `remove` (failures or not). -/
theorem C14_source_ns_protected {abs : σ → List Entry} {inv : σ → Prop} {F : Prop} {S : Store σ}
    (ok : StoreOK abs inv F S) (env : Env) (name pfx regex : Option Str) (s : σ)
    (hi : inv s) (hs : SpecInv (abs s)) {e : Entry} (he : e ∈ abs s) (hn : e.name = nsName) :
    e ∈ abs (removeSrc S env name pfx regex s).2 := by
  rw [C14_remove_translated ok env name pfx regex s hi hs]
  exact C14_ns_protected ok env name pfx regex s hi hs he hn

/-! ### whole histories with failing statements and reopen points -/

/-- a command of a history in which storage statements may fail: an operation together with its failure counter
    (`none` = nothing fails, `some k` = the k-th statement from now raises), or a reopen of the database file -/
inductive FCmd where
  | op (o : Op) (fuel : Fuel)
  | reopen

/-- the sqlite back-end follows the plain map through the whole history: an operation either raises the storage
    error and the map stays where it was (the operation is as if never issued), or answers as the map and moves it;
    a reopen changes nothing; at the end the tables stand for the map. -/
def FaultyRefines (step : Op → SqlState → Res × SqlState) (env : Env) : List FCmd → Db → Spec → Prop
  | [], db, spec => db.abs.Perm spec
  | .op o f :: cs, db, spec =>
    ((step o ⟨db, f⟩).1 = .err .storage ∧ FaultyRefines step env cs (step o ⟨db, f⟩).2.db spec) ∨
    (Res.Equiv (step o ⟨db, f⟩).1 (specStep env o spec).1 ∧
      FaultyRefines step env cs (step o ⟨db, f⟩).2.db (specStep env o spec).2)
  | .reopen :: cs, db, spec => FaultyRefines step env cs (reopen ⟨db, none⟩).db spec

theorem faulty_refines (step : Op → SqlState → Res × SqlState) (env : Env)
    (hstep : ∀ op db f, SqlInv db → SpecInv db.abs →
      Good absS (invS True) True db.abs (specStep env op db.abs) (step op ⟨db, f⟩)) :
    ∀ (cs : List FCmd) (db : Db) (spec : Spec), SqlInv db → SpecInv spec → db.abs.Perm spec →
      FaultyRefines step env cs db spec
  | [], _, _, _, _, hp => hp
  | .op o f :: cs, db, spec, hi, hs, hp => by
    have hs' : SpecInv db.abs := hs.perm hp.symm
    obtain ⟨h0, h⟩ := hstep o db f hi hs'
    obtain ⟨c1, c2, c3⟩ := specStep_sim env o hp hs'
    rcases h with ⟨_, h1, h2⟩ | ⟨e, p⟩
    · refine .inl ⟨h1, faulty_refines step env hstep cs _ spec h0.1 hs ?_⟩
      have : (step o ⟨db, f⟩).2.db.abs = db.abs := h2
      rw [this]; exact hp
    · exact .inr ⟨e.trans c1, faulty_refines step env hstep cs _ _ h0.1 (c3.perm c2) (p.trans c2)⟩
  | .reopen :: cs, db, spec, hi, hs, hp => faulty_refines step env hstep cs _ spec hi hs hp

/-- **C14_faulty_history.**  For EVERY history, every assignment of failure counters to its operations and reopen
    points anywhere, started on an empty database: each operation either fails with the storage error and has no
    effect on the map, or answers and acts as the plain map; the final tables stand for exactly the map produced by
    the operations that did not fail.  (The all-histories form of `C14_atomic` + `C14_reopen`.) -/
theorem C14_faulty_history (env : Env) (cs : List FCmd) : FaultyRefines (nsStep sqlStore env) env cs Db.empty [] :=
  faulty_refines _ env (fun op db f hi hs =>
      ns_step_refines (sql_storeOK True) env op ⟨db, f⟩ ⟨hi, fun h => (h trivial).elim⟩ hs)
    cs Db.empty [] sqlInv_empty specInv_nil (.refl _)

/-- **C14_source_faulty_history.**  The same about the transcribed methods. -/
theorem C14_source_faulty_history (env : Env) (cs : List FCmd) :
    FaultyRefines (nsStepSrc sqlStore env) env cs Db.empty [] :=
  faulty_refines _ env (fun op db f hi hs =>
      C14_source_step_refines (sql_storeOK True) env op ⟨db, f⟩ ⟨hi, fun h => (h trivial).elim⟩ hs)
    cs Db.empty [] sqlInv_empty specInv_nil (.refl _)

/-- non-vacuity of the failing alternative: statement 1 of a re-registration fails → storage error, tables as before;
    and of the other: with the counter beyond the last statement the operation runs through -/
example : (nsStepSrc sqlStore env0 (.register [97] uri0 false (.list [[116]])) ⟨(sqlRunSrc env0 demo sqlInit).2.db, some 1⟩).1
    = .err .storage := by decide +kernel
example : (nsStepSrc sqlStore env0 (.register [97] uri0 false (.list [[116]])) ⟨(sqlRunSrc env0 demo sqlInit).2.db, some 50⟩).1
    = .none := by decide +kernel

/-- non-vacuity: the transcription really runs — the 12-command demo history on both back-ends -/
example : (runHist (nsStepSrc memStore env0) (opsOf demo) []).1 = (runHist (nsStep memStore env0) (opsOf demo) []).1 := by decide +kernel
example : (sqlRunSrc env0 demo sqlInit).1 = (sqlRun env0 demo sqlInit).1 := by decide +kernel

end Pyro.C14
