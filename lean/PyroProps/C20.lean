/-
  C20 — The HTTP gateway forwards only authorised requests, and forwards them faithfully.
  Property theorems about `PyroModel.Gateway` (model of Pyro5/utils/httpgateway.py, with
  fixes/C20-dupkey.patch and fixes/C20-proxy-local-member.patch applied).
  Quantifiers: every configuration (key, expose pattern), every request (method, path, parsed
  query, key header, options, correlation id) and every backend (regex function, name server,
  proxies, remote objects) — no bound on any of them.
-/
import PyroModel.Gateway
import PyroModel.Gen.C20
import PyroProofs.Gateway

namespace Pyro.C20

open Pyro Pyro.Gateway

/-- The object and member a request names, when it is a call request: a GET or POST whose path
    (leading slashes dropped) is `pyro/<rest>` with `<rest>` non-empty and of the form
    `<object>/<member>` on its first line. -/
def callTarget (req : Req) : Option (Str × Str) :=
  match routed req with
  | some rest => if rest = [] then none else splitPath rest
  | none => none

/-- the gateway's own index page: GET or POST of exactly `pyro/` -/
def IsHomepage (req : Req) : Prop := routed req = some []

/-- the request names `obj`/`member`, presents the configured key (if one is configured), and the
    object name matches the configured expose pattern (if one is configured) -/
def Authorised (cfg : Cfg) (be : Backend) (req : Req) (obj member : Str) : Prop :=
  callTarget req = some (obj, member) ∧ keyOK cfg req (singlyfy req.query) = true ∧
    patternOK cfg be obj = true

/-- the query parameters that are passed on: all of them, minus `$key` when a key is configured -/
abbrev fwdParams (cfg : Cfg) (req : Req) : Params := forwardParams cfg (singlyfy req.query)

theorem callTarget_some {req : Req} {obj member : Str} (h : callTarget req = some (obj, member)) :
    ∃ rest, routed req = some rest ∧ rest ≠ [] ∧ splitPath rest = some (obj, member) := by
  unfold callTarget at h
  cases hr : routed req with
  | none => rw [hr] at h; contradiction
  | some rest =>
    rw [hr] at h
    dsimp only at h
    by_cases he : rest = []
    · rw [if_pos he] at h; contradiction
    · rw [if_neg he] at h; exact ⟨rest, rfl, he, h⟩

/-- an authorised request is answered by `forward`, whatever else is in it -/
theorem app_authorised {cfg : Cfg} {be : Backend} {req : Req} {obj member : Str}
    (h : Authorised cfg be req obj member) :
    app cfg be req = (.http (forward be req obj member (fwdParams cfg req)).1,
                      (forward be req obj member (fwdParams cfg req)).2) := by
  obtain ⟨ht, hk, hp⟩ := h
  obtain ⟨rest, hr, hne, hs⟩ := callTarget_some ht
  rw [app_of_routed cfg be hr, process_forward hne hs hk hp]

theorem app_homepage {cfg : Cfg} {be : Backend} {req : Req} (h : IsHomepage req) :
    app cfg be req = homepage cfg be := by
  rw [app_of_routed cfg be h, process_nil]

/-- every request is the index page, or refused without any action, or authorised -/
theorem app_char (cfg : Cfg) (be : Backend) (req : Req) :
    IsHomepage req ∨ (∃ r, app cfg be req = (.http r, []) ∧ Refusal req r) ∨
      ∃ obj member, Authorised cfg be req obj member := by
  cases hr : routed req with
  | none => exact Or.inr (Or.inl (app_of_not_routed cfg be hr))
  | some rest =>
    by_cases hne : rest = []
    · exact Or.inl (hr.trans (congrArg some hne))
    · by_cases hA : ∃ obj member, Authorised cfg be req obj member
      · exact Or.inr (Or.inr hA)
      · refine Or.inr (Or.inl ?_)
        rw [app_of_routed cfg be hr]
        apply process_refuses cfg be req _ hne
        simpa only [Authorised, callTarget, hr, if_neg hne] using hA

/-! ## Only authorised requests cause Pyro traffic -/

/-- **C20_no_traffic.**  If the gateway contacts the name server, a proxy or a remote object at
    all (its action list is not empty), then the request is either the gateway's own index page or
    a call request that presents the configured key and whose object name matches the configured
    expose pattern. -/
theorem C20_no_traffic (cfg : Cfg) (be : Backend) (req : Req) (h : (app cfg be req).2 ≠ []) :
    IsHomepage req ∨ ∃ obj member, Authorised cfg be req obj member := by
  rcases app_char cfg be req with hh | ⟨r, hr, _⟩ | hA
  · exact Or.inl hh
  · rw [hr] at h; exact absurd rfl h
  · exact Or.inr hA

/-- **C20_refused.**  Every request that is neither the index page nor an authorised call request
    is answered by the gateway itself, without any Pyro traffic: with 403, 404 or 405 — or, for the
    two requests that are not call requests at all, 302 (empty path: redirect to the index page)
    and 200 `OK` (the CORS preflight method OPTIONS). -/
theorem C20_refused (cfg : Cfg) (be : Backend) (req : Req)
    (hh : ¬ IsHomepage req) (ha : ¬ ∃ obj member, Authorised cfg be req obj member) :
    (app cfg be req).2 = [] ∧
    ∃ r, (app cfg be req).1 = .http r ∧
      (r.status = 403 ∨ r.status = 404 ∨ r.status = 405 ∨
       (r.status = 302 ∧ lstripSlash req.path = []) ∨
       (r = respOptions ∧ req.method = sOPTIONS)) := by
  rcases app_char cfg be req with h | ⟨r, hr, hf⟩ | hA
  · exact absurd h hh
  · rw [hr]; exact ⟨rfl, r, rfl, hf⟩
  · exact absurd hA ha

/-- **C20_no_escape.**  No request other than the index page makes an exception leave `pyro_app`:
    the gateway always answers with an HTTP response of its own.  (False for the unfixed tree:
    a repeated `$key` parameter raised AttributeError — finding F20.) -/
theorem C20_no_escape (cfg : Cfg) (be : Backend) (req : Req) (hh : ¬ IsHomepage req) :
    ∃ r, (app cfg be req).1 = .http r := by
  rcases app_char cfg be req with h | ⟨r, hr, _⟩ | ⟨o, m, hA⟩
  · exact absurd h hh
  · exact ⟨r, by rw [hr]⟩
  · exact ⟨_, by rw [app_authorised hA]⟩

/-- **C20_dupkey_refused.**  With a key configured and no key header, a `$key` parameter that is
    still a list after `singlyfy_parameters` (it was repeated in the query string) never passes the
    key check — whatever the values are; the request is refused like any other keyless one. -/
theorem C20_dupkey_refused (cfg : Cfg) (be : Backend) (req : Req) (vs : List Str)
    (hk : keyConfigured cfg = true) (hh : req.keyHeader = [])
    (hd : lookupP sKey (singlyfy req.query) = some (.many vs)) (hn : ¬ IsHomepage req) :
    keyOK cfg req (singlyfy req.query) = false ∧ (app cfg be req).2 = [] ∧
      ∃ r, (app cfg be req).1 = .http r := by
  have hko : keyOK cfg req (singlyfy req.query) = false := by
    simp [keyOK, hk, presentedKey, hh, hd]
  refine ⟨hko, ?_, C20_no_escape cfg be req hn⟩
  refine (C20_refused cfg be req hn ?_).1
  rintro ⟨o, m, _, hkey, _⟩
  rw [hkey] at hko; contradiction

/-! ## Authorised requests are forwarded faithfully -/

/-- **C20_actions_shape.**  Whatever the backend does, everything an authorised request causes
    concerns the named object only: the name-server handle, one lookup of exactly the named object,
    and — on the proxy for the URI that lookup returned — connect, metadata, release and an
    invocation that is either a call of exactly the named member with exactly the forwarded query
    parameters, or (only when there are no parameters) a read of exactly the named attribute. -/
theorem C20_actions_shape (cfg : Cfg) (be : Backend) (req : Req) (obj member : Str)
    (hA : Authorised cfg be req obj member) :
    ∀ a ∈ (app cfg be req).2,
      a = .getNameServer ∨ a = .lookup obj ∨
      ∃ uri, be.lookup obj = .ok uri ∧
        (a = .connect uri ∨ a = .getMetadata uri ∨ a = .release uri ∨
         (∃ ow, a = .call uri member (fwdParams cfg req) ow) ∨
         (a = .getattr uri member ∧ fwdParams cfg req = [])) := by
  rw [app_authorised hA]
  intro a ha
  rcases forward_log be req obj member (fwdParams cfg req) with ⟨_, h⟩ | ⟨_, h | ⟨uri, hlk, h | h⟩⟩ <;>
    rw [h] at ha <;>
    simp only [List.cons_append, List.nil_append, List.mem_cons, List.mem_append, List.not_mem_nil,
      or_false] at ha
  · exact Or.inl ha                                      -- no name server
  · exact ha.elim Or.inl fun e => Or.inr (Or.inl e)      -- lookup failed
  · rcases ha with e | e | e                             -- proxy creation failed
    · exact Or.inl e
    · exact Or.inr (Or.inl e)
    · exact Or.inr (Or.inr ⟨uri, hlk, Or.inl e⟩)
  · rcases ha with e | e | e | hw | e                    -- proxy block ran: `hw` is one of its actions
    · exact Or.inl e
    · exact Or.inr (Or.inl e)
    · exact Or.inr (Or.inr ⟨uri, hlk, Or.inl e⟩)
    · refine Or.inr (Or.inr ⟨uri, hlk, Or.inr ?_⟩)
      rcases withProxy_log be req uri member (fwdParams cfg req) with hnil | ⟨inv, hinv, hi⟩
      · rw [hnil] at hw; contradiction
      · rw [hinv] at hw
        rcases List.mem_cons.1 hw with e | hw
        · exact Or.inl e
        · rcases hi with rfl | ⟨ow, rfl⟩ | ⟨rfl, hps⟩
          · contradiction
          · exact Or.inr (Or.inr (Or.inl ⟨ow, List.mem_singleton.1 hw⟩))
          · exact Or.inr (Or.inr (Or.inr ⟨List.mem_singleton.1 hw, hps⟩))
    · exact Or.inr (Or.inr ⟨uri, hlk, Or.inr (Or.inr (Or.inl e))⟩)

/-- **C20_at_most_one_invocation.**  No request — authorised or not, whatever the backend answers —
    makes the gateway invoke more than one method or attribute. -/
theorem C20_at_most_one_invocation (cfg : Cfg) (be : Backend) (req : Req) :
    ((app cfg be req).2.filter isInvoke).length ≤ 1 := by
  rcases app_char cfg be req with hh | ⟨r, hr, _⟩ | ⟨o, m, hA⟩
  · have hno : (homepage cfg be).2.filter isInvoke = [] :=
      List.filter_eq_nil_iff.2 fun a ha => by rw [(homepage_listing cfg be a ha).2]; nofun
    rw [app_homepage hh, hno]
    exact Nat.zero_le 1
  · rw [hr]; exact Nat.zero_le 1
  · rw [app_authorised hA]
    exact forward_invoke_le be req o m (fwdParams cfg req)

/-- the backend lets the request through to the object: name server reachable, name known, proxy
    created, correlation id (if any) well formed, metadata `m` obtained -/
structure Reaches (be : Backend) (req : Req) (obj uri : Str) (m : Meta) : Prop where
  ns : be.nsGet = none
  lk : be.lookup obj = .ok uri
  conn : be.connect uri = none
  corr : req.corr ≠ .invalid
  md : be.getMeta uri = .ok m

theorem app_reaches {cfg : Cfg} {be : Backend} {req : Req} {obj member uri : Str} {m : Meta}
    (hA : Authorised cfg be req obj member) (hR : Reaches be req obj uri m) :
    app cfg be req =
      (.http (withProxy be req uri member (fwdParams cfg req)).1,
       [.getNameServer, .lookup obj, .connect uri] ++ (withProxy be req uri member (fwdParams cfg req)).2 ++
         [.release uri]) := by
  rw [app_authorised hA]
  unfold forward
  rw [hR.ns, hR.lk]
  dsimp only
  rw [hR.conn]

/-- **C20_faithful_call.**  An authorised request for a member that the remote object's metadata
    lists as a method (and not as an attribute, and that is not the pseudo-member `$meta`) makes
    the gateway perform exactly: get the name server, look up exactly the named object, create the
    proxy for the URI returned, fetch its metadata, invoke exactly the named method with exactly
    the query parameters (minus `$key` when a key is configured) exactly once, release the proxy —
    and the HTTP reply is the reply for that invocation's result.  (A query parameter called
    `self` cannot be passed by Pyro's `_RemoteMethod.__call__(self, ...)`: see `C20_self_param`.) -/
theorem C20_faithful_call (cfg : Cfg) (be : Backend) (req : Req) (obj member uri : Str) (m : Meta)
    (hA : Authorised cfg be req obj member) (hR : Reaches be req obj uri m)
    (hmeta : member ≠ sMeta) (hattr : m.attrs.contains member = false)
    (hmeth : m.methods.contains member = true) (hself : lookupP sSelf (fwdParams cfg req) = none) :
    app cfg be req =
      (.http (replyOfResult (onewayOpt req)
          (be.call uri member (fwdParams cfg req) (onewayOpt req || m.oneway.contains member))),
       [.getNameServer, .lookup obj, .connect uri, .getMetadata uri,
        .call uri member (fwdParams cfg req) (onewayOpt req || m.oneway.contains member),
        .release uri]) := by
  rw [app_reaches hA hR, withProxy_reached member _ hR.corr hR.md, if_neg hmeta, hattr, hmeth, hself]
  rfl

/-- **C20_faithful_attr.**  Same for a member the metadata lists as an attribute, requested
    without parameters: exactly one read of exactly that attribute of exactly that object. -/
theorem C20_faithful_attr (cfg : Cfg) (be : Backend) (req : Req) (obj member uri : Str) (m : Meta)
    (hA : Authorised cfg be req obj member) (hR : Reaches be req obj uri m)
    (hmeta : member ≠ sMeta) (hattr : m.attrs.contains member = true)
    (hps : fwdParams cfg req = []) :
    app cfg be req =
      (.http (replyOfResult (onewayOpt req) (be.getattr uri member)),
       [.getNameServer, .lookup obj, .connect uri, .getMetadata uri, .getattr uri member,
        .release uri]) := by
  rw [app_reaches hA hR, withProxy_reached member _ hR.corr hR.md, if_neg hmeta, hattr, hps]
  rfl

/-- **C20_faithful_meta.**  The pseudo-member `$meta` only reports the object's metadata: 200 with
    the method and attribute names, and nothing is invoked. -/
theorem C20_faithful_meta (cfg : Cfg) (be : Backend) (req : Req) (obj uri : Str) (m : Meta)
    (hA : Authorised cfg be req obj sMeta) (hR : Reaches be req obj uri m) :
    app cfg be req =
      (.http ⟨200, .json, true, .metaInfo m.methods m.attrs⟩,
       [.getNameServer, .lookup obj, .connect uri, .getMetadata uri, .release uri]) := by
  rw [app_reaches hA hR, withProxy_reached sMeta _ hR.corr hR.md, if_pos rfl]
  rfl

/-- **C20_unknown_member.**  A member name that the remote object's metadata lists neither as a
    method nor as an attribute (and that is not `$meta`) is answered 500 AttributeError and nothing
    is invoked — in particular for names that are attributes of the gateway's own proxy object
    (`_pyroInvoke`, `_pyroRelease`, …; finding F20b on the unfixed tree). -/
theorem C20_unknown_member (cfg : Cfg) (be : Backend) (req : Req) (obj member uri : Str) (m : Meta)
    (hA : Authorised cfg be req obj member) (hR : Reaches be req obj uri m)
    (hmeta : member ≠ sMeta) (hattr : m.attrs.contains member = false)
    (hmeth : m.methods.contains member = false) :
    app cfg be req =
      (.http (resp500 .attribute),
       [.getNameServer, .lookup obj, .connect uri, .getMetadata uri, .release uri]) := by
  rw [app_reaches hA hR, withProxy_reached member _ hR.corr hR.md, if_neg hmeta, hattr, hmeth]
  rfl

/-- **C20_self_param.**  The one call the gateway cannot express: with a query parameter named
    `self` the method call fails inside the gateway (TypeError, 500) before anything is sent. -/
theorem C20_self_param (cfg : Cfg) (be : Backend) (req : Req) (obj member uri : Str) (m : Meta)
    (hA : Authorised cfg be req obj member) (hR : Reaches be req obj uri m)
    (hmeta : member ≠ sMeta) (hattr : m.attrs.contains member = false)
    (hmeth : m.methods.contains member = true) (v : PVal)
    (hself : lookupP sSelf (fwdParams cfg req) = some v) :
    app cfg be req =
      (.http (resp500 .type),
       [.getNameServer, .lookup obj, .connect uri, .getMetadata uri, .release uri]) := by
  rw [app_reaches hA hR, withProxy_reached member _ hR.corr hR.md, if_neg hmeta, hattr, hmeth, hself]
  rfl

/-- **C20_params_exact.**  The parameters passed on are exactly the query parameters: without a
    configured key all of them, unchanged; with one, all except `$key` (which is never passed on),
    every other one unchanged. -/
theorem C20_params_exact (cfg : Cfg) (req : Req) :
    (keyConfigured cfg = false → fwdParams cfg req = singlyfy req.query) ∧
    (keyConfigured cfg = true →
      lookupP sKey (fwdParams cfg req) = none ∧
      ∀ k, k ≠ sKey → lookupP k (fwdParams cfg req) = lookupP k (singlyfy req.query)) := by
  unfold fwdParams forwardParams
  constructor
  · intro h; rw [h]; rfl
  · intro h
    rw [h, if_pos rfl]
    exact ⟨by rw [lookupP_eraseP, if_pos rfl], fun k hk => by rw [lookupP_eraseP, if_neg hk]⟩

/-- **C20_status.**  The HTTP client receives the invocation's answer: 200 with the call's
    serialized result exactly when it returned one (and no oneway option was given), 500 with the
    call's serialized error exactly when it answered with an exception, 500 with the error's class
    exactly when the invocation itself failed, and 200 without body for oneway. -/
theorem C20_status (ow : Bool) (res : CallResult) :
    ((replyOfResult ow res).status = 200 ∨ (replyOfResult ow res).status = 500) ∧
    (∀ d, replyOfResult ow res = ⟨200, .json, true, .raw d⟩ ↔ (res = .ret d ∧ ow = false)) ∧
    (∀ d, replyOfResult ow res = ⟨500, .json, false, .raw d⟩ ↔ (res = .exc d ∧ ow = false)) ∧
    (∀ c, replyOfResult ow res = resp500 c ↔ res = .raised c) ∧
    (replyOfResult ow res = ⟨200, .json, true, .empty⟩ ↔
      (res = .none ∨ (ow = true ∧ ∃ d, res = .ret d ∨ res = .exc d))) := by
  cases res with
  | none => simp [replyOfResult, resp500]
  | raised c => simp [replyOfResult, resp500]
  | ret d => cases ow <;> simp [replyOfResult, resp500]
  | exc d => cases ow <;> simp [replyOfResult, resp500]

/-! ## The index page is the only keyless exception -/

/-- **C20_homepage_only_keyless.**  A request that does not pass the key check and still causes
    Pyro traffic is the gateway's index page; and the index page (with or without key) only gets
    the name server, lists the names matching the configured pattern, looks up names from that
    listing and connects to fetch their metadata — it never invokes anything. -/
theorem C20_homepage_only_keyless (cfg : Cfg) (be : Backend) (req : Req) :
    (keyOK cfg req (singlyfy req.query) = false → (app cfg be req).2 ≠ [] → IsHomepage req) ∧
    (IsHomepage req →
      (∀ a ∈ (app cfg be req).2, isListing a = true ∧ isInvoke a = false) ∧
      (∀ r ∈ (app cfg be req).2, ∀ re, r = .nsList re → re = cfg.pattern) ∧
      (∀ names, .batchLookup names ∈ (app cfg be req).2 →
        ∃ keys, be.nsList cfg.pattern = .ok keys ∧ ∀ n ∈ names, n ∈ keys)) := by
  constructor
  · intro hk hne
    rcases C20_no_traffic cfg be req hne with h | ⟨o, m, _, hkey, _⟩
    · exact h
    · rw [hkey] at hk; contradiction
  · intro hh
    rw [app_homepage hh]
    refine ⟨homepage_listing cfg be, ?_, ?_⟩
    · intro r hr re hre
      subst hre
      rcases homepage_actions cfg be _ hr with h | h | ⟨_, _, h⟩ | h
      · contradiction
      · exact Action.nsList.inj h
      · contradiction
      · contradiction
    · intro names hn
      rcases homepage_actions cfg be _ hn with h | h | ⟨keys, hkeys, h⟩ | h
      · contradiction
      · contradiction
      · injection h with h
        exact ⟨keys, hkeys, fun n hnn => List.mem_of_mem_take ((mem_sortS n _).1 (h ▸ hnn))⟩
      · contradiction

/-! ## The path split is the regex `(.+)/(.+)` on the first line -/

/-- **C20_split_sound.**  The object and member the gateway takes from a path are a real split of
    the path's first line at a '/', both parts non-empty and free of newlines. -/
theorem C20_split_sound (p o m : Str) (h : splitPath p = some (o, m)) :
    firstLine p = o ++ cSlash :: m ∧ o ≠ [] ∧ m ≠ [] ∧ cNewline ∉ o ∧ cNewline ∉ m ∧
      ∃ t, p = o ++ cSlash :: m ++ t ∧ (t = [] ∨ ∃ t', t = cNewline :: t') := by
  obtain ⟨h1, h2, h3⟩ := (splitPath_best p).1 o m h
  have hnl := firstLine_no_newline p
  rw [h1] at hnl
  obtain ⟨t, ht, htc⟩ := firstLine_prefix p
  exact ⟨h1, h2, h3, fun hm => hnl (List.mem_append_left _ hm),
    fun hm => hnl (List.mem_append_right _ (List.mem_cons_of_mem _ hm)), t, h1 ▸ ht, htc⟩

/-- **C20_split_greedy.**  Among all ways to split the first line into non-empty object and member
    at a '/', the gateway takes the one with the longest object name (both regex groups are greedy). -/
theorem C20_split_greedy (p o m : Str) (h : splitPath p = some (o, m)) :
    ∀ o' m', firstLine p = o' ++ cSlash :: m' → o' ≠ [] → m' ≠ [] → o'.length ≤ o.length := by
  intro o' m' h1 h2 h3
  obtain ⟨o2, m2, hs, hl⟩ := splitPath_max ⟨h1, h2, h3⟩
  rw [h] at hs
  injection hs with hs
  injection hs with ho
  exact ho ▸ hl

/-- **C20_split_complete.**  The gateway answers 404 for want of object/member only when the first
    line has no admissible split at all. -/
theorem C20_split_complete (p : Str) (h : splitPath p = none) :
    ¬ ∃ o m, firstLine p = o ++ cSlash :: m ∧ o ≠ [] ∧ m ≠ [] := by
  rintro ⟨o', m', hv⟩
  obtain ⟨o2, m2, hs, _⟩ := splitPath_max hv
  rw [h] at hs
  contradiction

/-! ## Histories: the gateway is stateless, and every call travels as JSON -/

/-- the requests of a history, in order, each with the gateway settings of its moment -/
def requestsOf : List HEv → List (Cfg × Nat × Backend × Req)
  | [] => []
  | .perturb _ :: rest => requestsOf rest
  | .request cfg tmo be req :: rest => (cfg, tmo, be, req) :: requestsOf rest

/-- **C20_history.**  For every history — any number of requests, with arbitrary writes to the
    process-global Pyro configuration (serializer, timeout) by other code before, between and after
    them, from any starting configuration — each request is answered exactly as if it were the only
    one (`app` of its own settings, backend and request: no state is carried from request to
    request), and while it is handled the configuration is `SERIALIZER = json`,
    `COMMTIMEOUT = pyro_app.comm_timeout`: the forwarded call is sent, and its answer comes back,
    as JSON whatever happened in the process before. -/
theorem C20_history (c0 : PyroConfig) (evs : List HEv) :
    (runHistory c0 evs).map (fun o => (o.reply, o.actions, o.config)) =
    (requestsOf evs).map (fun r =>
      ((app r.1 r.2.2.1 r.2.2.2).1, (app r.1 r.2.2.1 r.2.2.2).2, (⟨.json, r.2.1⟩ : PyroConfig))) := by
  induction evs generalizing c0 with
  | nil => rfl
  | cons ev rest ih =>
    cases ev with
    | perturb c' => exact ih c'
    | request cfg tmo be req => exact congrArg (List.cons _) (ih _)

/-- **C20_history_json.**  In every history every request is handled under the JSON serializer. -/
theorem C20_history_json (c0 : PyroConfig) (evs : List HEv) :
    ∀ o ∈ runHistory c0 evs, o.config.serializer = .json := by
  induction evs generalizing c0 with
  | nil => exact fun o ho => nomatch ho
  | cons ev rest ih =>
    cases ev with
    | perturb c' => exact ih c'
    | request cfg tmo be req =>
      intro o ho
      rcases List.mem_cons.1 ho with h | h
      · rw [h]; rfl
      · exact ih _ o h

/-! ## obligations about facts extracted from the current source (PyroModel/Gen/C20.lean) -/

/-- What the real `pyro_app` did on the extractor's probe requests is what the model does: the prefix
    cut off a forwarded path and its length, the methods that are not 405 and the preflight one,
    the redirect target, the object/member split on a table of paths (`splitPath` gives exactly the
    observed split, or `none` where nothing was forwarded), the three request headers are honoured,
    the names `$key` / `$meta` / `oneway`, the status codes of all fixed replies and of a forwarded
    call, zero Pyro actions for a request refused for its key or for the pattern, the defaults
    (no key, pattern `http\.`), and — over a history of four requests with other code writing the
    global configuration in between — `SERIALIZER = json`, `COMMTIMEOUT = pyro_app.comm_timeout`
    already hold at the moment each request is first read (`writeConfig`). -/
theorem C20_gen_facts :
    Pyro.Gen.C20.routePrefix = sPyro ∧ Pyro.Gen.C20.routeSlice = sPyro.length ∧
    Pyro.Gen.C20.allowedMethods = [sGET, sPOST, sOPTIONS] ∧ Pyro.Gen.C20.optionsLiteral = sOPTIONS ∧
    Pyro.Gen.C20.redirectTarget = "/pyro/" ∧
    (∀ p ∈ Pyro.Gen.C20.splitProbes, splitPath p.1 = p.2) ∧ 10 ≤ Pyro.Gen.C20.splitProbes.length ∧
    Pyro.Gen.C20.headerProbes = [("HTTP_X_PYRO_GATEWAY_KEY", true), ("HTTP_X_PYRO_OPTIONS", true),
                                 ("HTTP_X_PYRO_CORRELATION_ID", true)] ∧
    Pyro.Gen.C20.keyParam = sKey ∧ Pyro.Gen.C20.metaMember = sMeta ∧ Pyro.Gen.C20.onewayOption = sOneway ∧
    Pyro.Gen.C20.statuses =
      [("notAllowed", resp405.status), ("optionsOk", respOptions.status), ("notFound", resp404.status),
       ("redirect", resp302.status), ("badKey", respBadKey.status), ("denied", respDenied.status),
       ("nsDown", respNsDown.status)] ∧
    Pyro.Gen.C20.otherStatuses = [200, 500] ∧
    Pyro.Gen.C20.refusalEvents = [("badKey", 0), ("denied", 0)] ∧
    Pyro.Gen.C20.defaultPattern = "http\\." ∧ Pyro.Gen.C20.defaultKeyIsNone = true ∧
    Pyro.Gen.C20.configAtFirstRead =
      List.replicate 4 ("json", (writeConfig Pyro.Gen.C20.configProbeTimeout ⟨.serpent, 0⟩).commTimeout) ∧
    (writeConfig Pyro.Gen.C20.configProbeTimeout ⟨.serpent, 0⟩).serializer = .json := by decide +kernel

/-! ## non-vacuity: concrete requests meeting the hypotheses -/

section Examples

/-- "http.a" -/
def exObj : Str := [104, 116, 116, 112, 46, 97]
/-- "echo" -/
def exEcho : Str := [101, 99, 104, 111]
/-- "PYRO" (stands for a uri; any text will do) -/
def exUri : Str := [80, 89, 82, 79]
/-- "msg" -/
def exMsg : Str := [109, 115, 103]

/-- a backend with one object "http.a" exposing method `echo`; pattern matching = "starts with http." -/
def exBe : Backend where
  rmatch := fun _ n => [104, 116, 116, 112, 46].isPrefixOf n
  nsGet := none
  nsGetIsNaming := false
  nsList := fun _ => .ok [exObj]
  lookup := fun n => if n = exObj then .ok exUri else .error (.other 0)
  connect := fun _ => none
  isPyroError := fun _ => true
  bind := fun _ => none
  getMeta := fun _ => .ok { methods := [exEcho], attrs := [[118]], oneway := [] }
  call := fun _ _ _ _ => .ret [1, 2, 3]
  getattr := fun _ _ => .ret [4]

def exCfg : Cfg := { key := some [75], pattern := some [104, 116, 116, 112, 92, 46] }   -- key b"K", pattern r"http\."

/-- GET /pyro/http.a/echo?msg=hi&$key=K -/
def exReq : Req where
  method := sGET
  path := [47] ++ sPyro ++ exObj ++ [47] ++ exEcho
  query := [(exMsg, [[104, 105]]), (sKey, [[75]])]
  keyHeader := []
  options := []
  corr := .absent

-- the authorised request: one call of `echo` with {msg: "hi"} ($key removed), answer passed through
example : app exCfg exBe exReq =
    (.http ⟨200, .json, true, .raw [1, 2, 3]⟩,
     [.getNameServer, .lookup exObj, .connect exUri, .getMetadata exUri,
      .call exUri exEcho [(exMsg, .one [104, 105])] false, .release exUri]) := by decide +kernel
example : Authorised exCfg exBe exReq exObj exEcho := ⟨by decide +kernel, by decide +kernel, by decide +kernel⟩
example : Reaches exBe exReq exObj exUri { methods := [exEcho], attrs := [[118]], oneway := [] } :=
  ⟨rfl, rfl, rfl, by decide, rfl⟩
-- wrong key: refused, no traffic
example : app exCfg exBe { exReq with query := [(sKey, [[76]])] } = (.http respBadKey, []) := by decide +kernel
-- repeated $key (F20's witness): refused, no traffic, no escaping exception
example : app exCfg exBe { exReq with query := [(sKey, [[75], [75]])] } = (.http respBadKey, []) := by decide +kernel
-- a name that differs from the exposed one by a prefix: denied by the pattern, no traffic
example : app exCfg exBe { exReq with path := [47] ++ sPyro ++ [120] ++ exObj ++ [47] ++ exEcho }
    = (.http respDenied, []) := by decide +kernel
-- a member that is an attribute of the gateway's own proxy object, "_pyroRelease" (F20b's witness): 500, nothing invoked
example : app exCfg exBe { exReq with
      path := [47] ++ sPyro ++ exObj ++ [47, 95, 112, 121, 114, 111, 82, 101, 108, 101, 97, 115, 101] }
    = (.http (resp500 .attribute),
       [.getNameServer, .lookup exObj, .connect exUri, .getMetadata exUri, .release exUri]) := by decide +kernel
-- the index page needs no key
example : (app exCfg exBe { exReq with path := [47] ++ sPyro, query := [] }).1
    = .http ⟨200, .html, false, .homepage [(exObj, true)]⟩ := by decide +kernel
example : IsHomepage { exReq with path := [47] ++ sPyro, query := [] } := by
  show routed _ = some []; decide +kernel
-- greedy split: "a/b/c" names object "a/b", member "c"; "a/b\nc/d" only sees its first line
example : splitPath [97, 47, 98, 47, 99] = some ([97, 47, 98], [99]) := by decide +kernel
example : splitPath [97, 47, 98, 10, 99, 47, 100] = some ([97], [98]) := by decide +kernel
example : splitPath [47, 98] = none := by decide +kernel

-- a history: request, other code switches the process to serpent, request again: same answer, JSON both times
example : (runHistory ⟨.serpent, 0⟩ [.request exCfg 5000 exBe exReq, .perturb ⟨.serpent, 0⟩, .request exCfg 5000 exBe exReq]).map
      (fun o => (o.reply, o.config))
    = [(.http ⟨200, .json, true, .raw [1, 2, 3]⟩, ⟨.json, 5000⟩), (.http ⟨200, .json, true, .raw [1, 2, 3]⟩, ⟨.json, 5000⟩)] := by
  decide +kernel

end Examples

end Pyro.C20
