/-
  C17 — Socket reads and writes are exact under fragmentation and transient errors.
  Property theorems about `PyroModel.SockIO` (model of socketutil.receive_data / send_data).
  Quantifiers: every request size, every stream, every script of socket behaviours (no bound).
-/
import PyroModel.SockIO
import PyroModel.Gen.C17

namespace Pyro.C17

open Pyro Pyro.SockIO

/-- What a receive outcome is allowed to look like, relative to the bytes `got` taken off the stream. -/
def RecvOutcomeOK (size : Nat) (got : Bytes) : RecvResult → Prop
  | .ok d => d = got ∧ got.length = size
  | .closed (some p) => p = got ∧ got.length < size
  | .closed none => True
  | .timeout => True
  | .scriptEnd => True

theorem recvLoop_spec (size : Nat) (script : List Ev) (data stream : Bytes) (hle : data.length ≤ size) :
    ∃ got, data ++ stream = got ++ (recvLoop size data stream script).2.1 ∧
      RecvOutcomeOK size got (recvLoop size data stream script).1 := by
  fun_induction recvLoop size data stream script
  case case4 h _ n chunk _ ih =>
    obtain ⟨got, hgot, hout⟩ := ih (by simp only [List.length_append, chunk, n, List.length_take]; omega)
    exact ⟨got, by rw [← hgot, List.append_assoc, List.take_append_drop], hout⟩
  case case5 ih | case8 ih => exact ih hle
  case case2 h | case10 h =>
    have : _ = size := Nat.le_antisymm hle (Nat.le_of_not_lt h)
    simp only [recvFinish, this, if_true]
    exact ⟨_, rfl, rfl, this⟩
  case case3 h _ _ _ _ => exact ⟨_, rfl, rfl, h⟩
  all_goals exact ⟨_, rfl, trivial⟩

theorem recvWaitall_spec (size : Nat) (script : List Ev) (stream : Bytes) :
    ∃ got, stream = got ++ (recvWaitall size stream script).2.1 ∧
      RecvOutcomeOK size got (recvWaitall size stream script).1 := by
  fun_induction recvWaitall size stream script
  case case2 hc => exact ⟨_, (List.take_append_drop _ _).symm, rfl, hc⟩
  case case3 rest n chunk _ =>
    obtain ⟨got, hgot, hout⟩ := recvLoop_spec size rest chunk (stream.drop n)
      (Nat.le_trans (List.length_take_le _ _) (Nat.min_le_right _ _))
    exact ⟨got, by rw [← hgot, List.take_append_drop], hout⟩
  case case4 ih | case7 ih => exact ih
  all_goals exact ⟨[], rfl, trivial⟩

theorem receive_spec (waitall : Bool) (size : Nat) (stream : Bytes) (script : List Ev) :
    ∃ got, stream = got ++ (receive waitall size stream script).2.1 ∧
      RecvOutcomeOK size got (receive waitall size stream script).1 := by
  unfold receive
  cases waitall with
  | true => simpa using recvWaitall_spec size script stream
  | false =>
    have := recvLoop_spec size script [] stream (Nat.zero_le _)
    simpa using this

/-- **C17_recv_exact.**  If `receive_data` returns, it returns exactly the next `size` bytes of the
    stream, in order, and leaves exactly the rest of the stream unread — whatever the script of
    fragmentations and retryable errors was, with and without MSG_WAITALL. -/
theorem C17_recv_exact (waitall : Bool) (size : Nat) (stream : Bytes) (script : List Ev)
    (d rest : Bytes) (script' : List Ev)
    (h : receive waitall size stream script = (.ok d, rest, script')) :
    d = stream.take size ∧ rest = stream.drop size ∧ d.length = size := by
  obtain ⟨got, hs, hout⟩ := receive_spec waitall size stream script
  rw [h] at hs hout
  simp only [RecvOutcomeOK] at hout
  obtain ⟨hd, hl⟩ := hout
  subst hd
  simp only at hs
  subst hs
  refine ⟨?_, ?_, hl⟩
  · rw [← hl, List.take_left']; rfl
  · rw [← hl, List.drop_left']; rfl

/-- **C17_recv_fail.**  A connection-closed error that carries `partialData` carries exactly the
    bytes consumed so far — a strict prefix of the request — and the unread stream is what follows
    them; no outcome consumes bytes out of order (the stream is always `got ++ unread`). -/
theorem C17_recv_fail (waitall : Bool) (size : Nat) (stream : Bytes) (script : List Ev)
    (p rest : Bytes) (script' : List Ev)
    (h : receive waitall size stream script = (.closed (some p), rest, script')) :
    p.length < size ∧ stream = p ++ rest := by
  obtain ⟨got, hs, hout⟩ := receive_spec waitall size stream script
  rw [h] at hs hout
  simp only [RecvOutcomeOK] at hout
  obtain ⟨hd, hl⟩ := hout
  subst hd
  exact ⟨hl, hs⟩

/-- Every outcome leaves the stream split into a consumed prefix and the unread rest. -/
theorem C17_recv_no_reorder (waitall : Bool) (size : Nat) (stream : Bytes) (script : List Ev) :
    ∃ got, stream = got ++ (receive waitall size stream script).2.1 :=
  let ⟨got, hs, _⟩ := receive_spec waitall size stream script; ⟨got, hs⟩

/-- A script is benign when every event either delivers at least one byte or is a retryable error. -/
def Benign : List Ev → Prop
  | [] => True
  | .deliver k :: rest => 0 < k ∧ Benign rest
  | .retryable :: rest => Benign rest
  | .partialFail _ true :: rest => Benign rest
  | _ :: _ => False

def deliveries : List Ev → Nat
  | [] => 0
  | .deliver _ :: rest => 1 + deliveries rest
  | _ :: rest => deliveries rest

theorem recvLoop_total (size : Nat) (script : List Ev) (data stream : Bytes) (hb : Benign script)
    (hle : data.length ≤ size) (hs : size ≤ data.length + stream.length) (hd : size ≤ data.length + deliveries script) :
    ∃ d, (recvLoop size data stream script).1 = .ok d := by
  fun_induction recvLoop size data stream script
  case case2 h | case10 h =>
    have : _ = size := Nat.le_antisymm hle (Nat.le_of_not_lt h)
    simp only [recvFinish, this, if_true]
    exact ⟨_, rfl⟩
  case case1 h => exact absurd hd (by simp only [deliveries]; omega)
  case case3 h k n chunk hc =>
    -- a delivery of k ≥ 1 bytes cannot come back empty while the stream still holds what is missing
    have := congrArg List.length (List.isEmpty_iff.mp hc)
    simp only [chunk, n, recvCap, List.length_take, List.length_nil] at this
    have := hb.1
    omega
  case case4 data stream _ _ _ n chunk hc ih =>
    have h0 : 0 < chunk.length := List.length_pos_iff.mpr (mt List.isEmpty_iff.mpr hc)
    have h1 : chunk.length ≤ size - data.length :=
      Nat.le_trans (List.length_take_le _ _) (Nat.le_trans (Nat.min_le_right _ _) (Nat.min_le_right _ _))
    have h2 : chunk.length + (stream.drop n).length = stream.length := by
      rw [← List.length_append, List.take_append_drop]
    simp only [deliveries] at hd
    apply ih hb.2 <;> simp only [List.length_append] <;> omega
  case case5 ih | case8 ih => exact ih hb hle hs hd
  all_goals exact hb.elim

/-- **C17_recv_total.**  If the peer has `size` bytes to give and the script contains only
    deliveries of ≥ 1 byte and retryable errors, with at least `size` deliveries (enough for the
    worst fragmentation, one byte at a time), the read succeeds — retryable errors never turn
    into a failure.  (Non-waitall path; the waitall path falls into it after its first chunk.) -/
theorem C17_recv_total (size : Nat) (stream : Bytes) (script : List Ev)
    (hb : Benign script) (hs : size ≤ stream.length) (hd : size ≤ deliveries script) :
    (receive false size stream script).1 = .ok (stream.take size) := by
  have ⟨d, hd'⟩ := recvLoop_total size script [] stream hb (Nat.zero_le _) (by simpa using hs) (by simpa using hd)
  have hr : (receive false size stream script).1 = .ok d := by simpa [receive] using hd'
  obtain ⟨got, hst, hout⟩ := receive_spec false size stream script
  rw [hr] at hout ⊢
  obtain ⟨rfl, hl⟩ := hout
  rw [hst, List.take_left' hl]

/-! ### sending -/

theorem sendLoop_spec (script : List Ev) (data acc : Bytes) :
    ∃ sent, (sendLoop data acc script).2.1 = acc ++ sent ∧ sent <+: data ∧
      ((sendLoop data acc script).1 = .ok → sent = data) := by
  fun_induction sendLoop data acc script
  case case1 h | case3 h =>
    cases List.isEmpty_iff.mp h
    exact ⟨[], by simp, List.prefix_refl _, fun _ => rfl⟩
  case case4 ih =>
    obtain ⟨sent, h1, ⟨t, ht⟩, h3⟩ := ih
    exact ⟨List.take _ _ ++ sent, by rw [h1, List.append_assoc],
      ⟨t, by rw [List.append_assoc, ht, List.take_append_drop]⟩, fun hok => by rw [h3 hok, List.take_append_drop]⟩
  case case5 ih | case8 ih => exact ih
  all_goals exact ⟨[], by simp, List.nil_prefix, fun h => by cases h⟩

/-- **C17_send_exact / C17_send_prefix.**  Whatever the script of partial writes and retryable
    errors, the bytes accepted by the peer are a prefix of the buffer, in order, each byte at most
    once; and if `send_data` returns normally the peer accepted exactly the whole buffer. -/
theorem C17_send (blocking : Bool) (data : Bytes) (script : List Ev) :
    (send blocking data script).2.1 <+: data ∧
      ((send blocking data script).1 = .ok → (send blocking data script).2.1 = data) := by
  unfold send
  cases blocking with
  | true =>
    simp only [if_true]
    cases script with
    | nil => exact ⟨List.nil_prefix, fun h => by cases h⟩
    | cons ev rest =>
      cases ev with
      | deliver k => exact ⟨List.prefix_refl _, fun _ => rfl⟩
      | retryable => exact ⟨List.nil_prefix, fun h => by cases h⟩
      | fatal => exact ⟨List.nil_prefix, fun h => by cases h⟩
      | timeout => exact ⟨List.nil_prefix, fun h => by cases h⟩
      | partialFail k r => exact ⟨List.take_prefix _ _, fun h => by cases h⟩
  | false =>
    simp only [Bool.false_eq_true, if_false]
    obtain ⟨sent, h1, h2, h3⟩ := sendLoop_spec script data []
    simp only [List.nil_append] at h1
    rw [h1]
    exact ⟨h2, h3⟩

/-- Retryable errors alone never make a send fail: with only deliveries ≥ 1 byte and retryable
    errors, and at least `len data` deliveries, the whole buffer is transmitted. -/
theorem C17_send_total (script : List Ev) (data acc : Bytes) (hb : Benign script)
    (hd : data.length ≤ deliveries script) : (sendLoop data acc script).1 = .ok := by
  fun_induction sendLoop data acc script
  case case2 h => exact absurd (List.isEmpty_iff.mpr (List.length_eq_zero_iff.mp (Nat.le_zero.mp hd))) h
  case case4 data _ _ h _ n ih =>
    have : data.length ≠ 0 := fun h0 => h (List.isEmpty_iff.mpr (List.length_eq_zero_iff.mp h0))
    have := hb.1
    simp only [deliveries] at hd
    exact ih hb.2 (by simp only [n, List.length_drop]; omega)
  case case5 ih | case8 ih => exact ih hb hd
  case case1 | case3 => rfl
  all_goals exact hb.elim

/-! ### obligations about facts extracted from the current source (PyroModel/Gen/C17.lean) -/

/-- The retryable errno set of the source is exactly {EINTR, EAGAIN, EWOULDBLOCK, EINPROGRESS}:
    the model's `retryable` event stands for exactly these, every other errno is `fatal`. -/
theorem C17_gen_retry_set : Pyro.Gen.C17.errnoRetries = Pyro.Gen.C17.expectedRetries := by decide

/-- The receive loop's per-call cap in the source is the model's `recvCap`, and the only
    exceptions `receive_data` / `send_data` raise are the timeout and connection-closed errors. -/
theorem C17_gen_cap :
    Pyro.Gen.C17.recvCaps = [recvCap] ∧
    (∀ n ∈ Pyro.Gen.C17.recvRaises, n = "TimeoutError" ∨ n = "ConnectionClosedError" ∨ n = "err") ∧
    (∀ n ∈ Pyro.Gen.C17.sendRaises, n = "TimeoutError" ∨ n = "ConnectionClosedError") := by decide +kernel

/-! ### non-vacuity: concrete scripts meeting the hypotheses -/

-- 5 bytes requested, delivered as 2 + (EINTR) + 1 + 2, non-waitall path
example : receive false 5 [1,2,3,4,5,6,7] [.deliver 2, .retryable, .deliver 1, .deliver 9]
    = (.ok [1,2,3,4,5], [6,7], []) := by decide
-- waitall path: short first chunk then the rest
example : receive true 5 [1,2,3,4,5,6,7] [.retryable, .deliver 3, .deliver 2, .deliver 1]
    = (.ok [1,2,3,4,5], [6,7], [.deliver 1]) := by decide
-- peer closes early: partialData = the 3 bytes received
example : receive true 5 [1,2,3] [.deliver 3, .deliver 0]
    = (.closed (some [1,2,3]), [], []) := by decide
example : Benign [.deliver 2, .retryable, .deliver 1, .deliver 9, .deliver 1, .deliver 1] ∧
    5 ≤ deliveries [.deliver 2, .retryable, .deliver 1, .deliver 9, .deliver 1, .deliver 1] := by
  simp [Benign, deliveries]
example : send false [1,2,3,4] [.deliver 1, .retryable, .deliver 0, .deliver 7]
    = (.ok, [1,2,3,4], []) := by decide
example : send false [1,2,3,4] [.deliver 1, .fatal] = (.closed, [1], []) := by decide
-- blocking sendall that transmitted 2 bytes and then failed: an error, and the peer holds a prefix
example : send true [1,2,3,4] [.partialFail 2 true] = (.closed, [1,2], []) := by decide

end Pyro.C17
