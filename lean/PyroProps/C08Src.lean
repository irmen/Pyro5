/-
  C08 — `Daemon._handshake` transcribed from the source on every run (`Pyro.Gen.C08Src.handshakeSrc`,
  harness/props/c08_tr.py) against the hand-written statement-level model `Pyro.Handshake.handshakeM`
  and the abstract `Pyro.Server.handshake` all other C08 theorems are about.
-/
import PyroModel.Handshake
import PyroModel.Gen.C08Src
import PyroProps.C08

namespace Pyro.C08

open Pyro.Server Pyro.Handshake

/-- **C08_handshake_translated.**  For every behaviour of every collaborator and every `denied_reason`, the
    transcription of `Daemon._handshake` computes exactly what the hand-written model does. -/
theorem C08_handshake_translated (w : World) (d : Option String) :
    Pyro.Gen.C08Src.handshakeSrc w d = handshakeM w d := by
  unfold Pyro.Gen.C08Src.handshakeSrc handshakeM MSG_CONNECT
  -- the two functions are the same tree down to the payload (the source's handler is `failWith`, its tail `finish`, by
  -- unfolding); there the source tests `isDict` / `item` where the model matches on the payload's shape.
  -- The source's `let`s become local definitions first: with a copy of the handler in every branch the steps are slow.
  extract_lets
  cases w.recv [1] with
  | error e => rfl
  | ok m =>
    cases truthy d with
    | true => rfl
    | false =>
      dsimp only
      cases w.serializer m.serId with
      | error e => rfl
      | ok ser =>
        dsimp only
        cases w.loads ser m.data with
        | error e => rfl
        | ok p =>
          cases p with
          | notDict => rfl
          | dict hs obj => cases hs <;> cases obj <;> rfl

/-! ### what the statement-level model does, for every behaviour of the collaborators -/

/-- `World.serializer` (the look-up that raises) succeeds exactly on the keys of the table `World.serializers` -/
theorem serializer_ok {w : World} {k s : Nat} : w.serializer k = .ok s ↔ w.serializers k = some s := by
  unfold World.serializer
  cases w.serializers k <;> simp

/-- Case principle for `_handshake`: its result is that of an except clause (`failWith`), or that of the final send
    (`finish`) after every step before it succeeded. -/
theorem hs_run (w : World) (d : Option String) (P : Except Err Result → Prop)
    (hfail : ∀ cc e sq i, P (failWith w cc e sq i))
    (hok : ∀ m ser h o r md data, w.recv [MSG_CONNECT] = .ok m → truthy d = false → w.serializer m.serId = .ok ser →
      w.loads ser m.data = .ok (.dict (some h) (some o)) → w.validate h = .ok r → w.metadata o = .ok md →
      w.dumps ser (.response r md) = .ok data →
      P (finish w ⟨true, if m.hasCorr then .ofMsg m.corrId else .fresh⟩ MSG_CONNECTOK m.seq m.serId data)) :
    P (handshakeM w d) := by
  unfold handshakeM
  cases hrecv : w.recv [MSG_CONNECT] with
  | error e => exact hfail ..
  | ok m =>
    cases hd : truthy d with
    | true => exact hfail _ (.other (strOf d)) m.seq marshalId
    | false =>
      simp only [Bool.false_eq_true, if_false]
      cases hser : w.serializer m.serId with
      | error e => exact hfail ..
      | ok ser =>
        dsimp only
        cases hl : w.loads ser m.data with
        | error e => exact hfail ..
        | ok p =>
          cases p with
          | notDict => exact hfail ..
          | dict hs obj =>
            cases hs with
            | none => exact hfail ..
            | some h =>
              dsimp only
              cases hv : w.validate h with
              | error e => exact hfail ..
              | ok r =>
                cases obj with
                | none => exact hfail ..
                | some o =>
                  dsimp only
                  cases hm : w.metadata o with
                  | error e => exact hfail ..
                  | ok md =>
                    dsimp only
                    cases hdu : w.dumps ser (.response r md) with
                    | error e => exact hfail ..
                    | ok data => exact hok m ser h o r md data hrecv hd hser hl hv hm hdu

theorem finish_ok {w : World} {cc : Ctx} {t sq i : Nat} {data : Blob} {res : Result}
    (h : finish w cc t sq i data = .ok res) :
    ∃ ann, w.annotations = .ok ann ∧ w.send ⟨t, 0, sq, i, data, ann⟩ = .ok () ∧
      res = ⟨cc, [⟨t, 0, sq, i, data, ann⟩], t == MSG_CONNECTOK⟩ := by
  unfold finish at h
  split at h
  · cases h
  · rename_i ann ha
    dsimp only at h
    split at h
    · cases h
    · rename_i u hs
      cases h
      exact ⟨ann, ha, hs, rfl⟩

/-- the except clauses never report success: nothing is sent for a ConnectionClosedError, one CONNECTFAIL otherwise -/
theorem failWith_ok {w : World} {cc : Ctx} {e : Err} {sq i : Nat} {res : Result}
    (h : failWith w cc e sq i = .ok res) :
    res.ret = false ∧ ((e = .connClosed ∧ res.sent = []) ∨
      ∃ m, res.sent = [m] ∧ m.type = MSG_CONNECTFAIL ∧ m.seq = sq) := by
  unfold failWith at h
  cases e with
  | connClosed =>
    cases h
    exact ⟨rfl, .inl ⟨rfl, rfl⟩⟩
  | other r =>
    dsimp only at h
    split at h
    · cases h
    · split at h
      · cases h
      · obtain ⟨ann, _, _, rfl⟩ := finish_ok h
        exact ⟨rfl, .inr ⟨_, rfl, rfl, rfl⟩⟩

/-- **C08_hs_accept_iff.**  For every behaviour of the collaborators: `_handshake` returns True exactly when a CONNECT
    arrived, no denial reason was given, the serializer is known, the payload is a dict WITH a "handshake" entry that
    the validator accepted (returned normally for), WITH an "object" entry whose metadata lookup succeeded, and the
    answer could be serialised, annotated and sent.  (Any payload shape without a "handshake" entry, any validator
    that raises - whatever exception - and any unknown object are on the other side.) -/
theorem C08_hs_accept_iff (w : World) (d : Option String) :
    (∃ res, handshakeM w d = .ok res ∧ res.ret = true) ↔
    ∃ m ser h o r md data ann,
      w.recv [MSG_CONNECT] = .ok m ∧ truthy d = false ∧ w.serializers m.serId = some ser ∧
      w.loads ser m.data = .ok (.dict (some h) (some o)) ∧ w.validate h = .ok r ∧ w.metadata o = .ok md ∧
      w.dumps ser (.response r md) = .ok data ∧ w.annotations = .ok ann ∧
      w.send ⟨MSG_CONNECTOK, 0, m.seq, m.serId, data, ann⟩ = .ok () := by
  constructor
  · rintro ⟨res, h, hret⟩
    refine hs_run w d (fun x => x = .ok res → _) (fun _ _ _ _ h => ?_)
      (fun m ser h o r md data h1 h2 h3 h4 h5 h6 h7 hfin => ?_) h
    · rw [(failWith_ok h).1] at hret
      cases hret
    · obtain ⟨ann, ha, hsend, _⟩ := finish_ok hfin
      exact ⟨m, ser, h, o, r, md, data, ann, h1, h2, serializer_ok.mp h3, h4, h5, h6, h7, ha, hsend⟩
  · rintro ⟨m, ser, h, o, r, md, data, ann, h1, h2, h3, h4, h5, h6, h7, h8, h9⟩
    refine ⟨⟨{ annCleared := true, corr := if m.hasCorr then .ofMsg m.corrId else .fresh },
      [⟨MSG_CONNECTOK, 0, m.seq, m.serId, data, ann⟩], true⟩, ?_, rfl⟩
    unfold handshakeM
    simp only [h1, h2, World.serializer, h3, h4, h5, h6, h7, finish, h8, h9]
    rfl

/-- **C08_hs_fail_reply.**  A handshake that returns False has sent nothing at all (a ConnectionClosedError was raised:
    the peer is gone, or a collaborator raised one) or exactly one message, a CONNECTFAIL; one that returns True has
    sent exactly one message, a CONNECTOK. -/
theorem C08_hs_fail_reply (w : World) (d : Option String) (res : Result) (h : handshakeM w d = .ok res) :
    (res.ret = false → res.sent = [] ∨ ∃ m, res.sent = [m] ∧ m.type = MSG_CONNECTFAIL) ∧
    (res.ret = true → ∃ m, res.sent = [m] ∧ m.type = MSG_CONNECTOK) := by
  refine hs_run w d (fun x => x = .ok res → _) (fun _ _ _ _ h => ?_) (fun _ _ _ _ _ _ _ _ _ _ _ _ _ _ hfin => ?_) h
  · obtain ⟨hf, hs⟩ := failWith_ok h
    refine ⟨fun _ => ?_, fun ht => by rw [hf] at ht; cases ht⟩
    rcases hs with ⟨_, hs⟩ | ⟨m, hs, hm, _⟩
    · exact .inl hs
    · exact .inr ⟨m, hs, hm⟩
  · obtain ⟨ann, _, _, rfl⟩ := finish_ok hfin
    exact ⟨nofun, fun _ => ⟨_, rfl, rfl⟩⟩

/-- **C08_hs_refusing_validator.**  With a validator that never returns normally (raises whatever exception for
    whatever it is shown) no first message of any shape is accepted. -/
theorem C08_hs_refusing_validator (w : World) (d : Option String) (res : Result)
    (hv : ∀ h r, w.validate h ≠ .ok r) (h : handshakeM w d = .ok res) : res.ret = false :=
  hs_run w d (fun x => x = .ok res → _) (fun _ _ _ _ h => (failWith_ok h).1)
    (fun _ _ h _ r _ _ _ _ _ _ hvalidate _ _ _ => absurd hvalidate (hv h r)) h

section
attribute [local simp] handshakeM handshake worldOf recvOf payloadOf World.serializer failWith finish abstract truthy
  MSG_CONNECT MSG_CONNECTFAIL MSG_CONNECTOK marshalId

/-- **C08_hs_refines.**  On the world a history item of `Server.lean` stands for, the statement-level model reports
    exactly what the abstract `Server.handshake` (the subject of C08_accept_iff ... C08_daemon) reports: same reply
    (type, sequence number, serializer) or none, same flag. -/
theorem C08_hs_refines (it : Item) : abstract (handshakeM (worldOf it) none) = some (handshake it) := by
  -- the simp set unfolds the constants: 2 is `marshalId`, 1 is `MSG_CONNECT`
  have hk : knownSerializer 2 = true := by decide
  cases it with
  | cut => rfl
  | garbage => rfl
  | timeout => rfl
  | msg m =>
    obtain ⟨ty, sid, sq, ow, body⟩ := m
    by_cases h1 : ty = 1
    · subst h1
      by_cases h2 : knownSerializer sid = true
      · -- only a well-formed handshake reaches the validator
        cases body with
        | undecodable b => simp [h2]
        | call t => simp [h2]
        | handshake wf ok v =>
          cases wf with
          | false => simp [h2]
          | true =>
            cases v with
            | accept => cases ok <;> simp [h2]
            | raises => simp [h2]
            | unserialisableReply => cases ok <;> simp [h2]
      · simp [show knownSerializer sid = false by simpa using h2, hk]
    · simp [h1, hk]

end

/-- **C08_hs_validator_before_lookup.**  With a validator that never returns normally, what `_handshake` does (reply,
    result, context) does not depend on the metadata lookup of the requested object at all: the object named in the
    payload is not looked at before the validator has accepted. -/
theorem C08_hs_validator_before_lookup (w : World) (d : Option String) (f : Nat → Except Err Nat)
    (hv : ∀ h r, w.validate h ≠ .ok r) :
    handshakeM { w with metadata := f } d = handshakeM w d := by
  -- such a validator is `fun h => .error (g h)`; with that put in, both sides reduce to the same term, because the
  -- match on the validator's answer takes its first arm before `metadata` is mentioned
  obtain ⟨g, hg⟩ : ∃ g : Nat → Err, ∀ h, w.validate h = .error (g h) := by
    refine ⟨fun h => match w.validate h with | .error e => e | .ok _ => .connClosed, fun h => ?_⟩
    dsimp only
    cases hr : w.validate h with
    | error e => rfl
    | ok r => exact absurd hr (hv h r)
  obtain ⟨recv, serializers, loads, validate, metadata, dumps, annotations, send⟩ := w
  obtain rfl : validate = _ := funext hg
  rfl

/-- **C08_hs_never_raises.**  "Every exception becomes CONNECTFAIL / False": if the marshal serializer exists, a reason
    text can always be serialised, and the daemon's `annotations()` hook and the send do not raise, then no exception
    leaves `_handshake`, whatever `recv_stub`, the deserialiser, the validator and the metadata lookup raise. -/
theorem C08_hs_never_raises (w : World) (d : Option String)
    (hm : (w.serializers marshalId).isSome = true) (hdump : ∀ ser s, ∃ b, w.dumps ser (.reason s) = .ok b)
    (ha : ∃ a, w.annotations = .ok a) (hsend : ∀ m, w.send m = .ok ()) :
    ∃ res, handshakeM w d = .ok res := by
  obtain ⟨a, ha⟩ := ha
  have fin : ∀ cc t sq i data, ∃ res, finish w cc t sq i data = .ok res := by
    intro cc t sq i data
    unfold finish
    simp only [ha, hsend]
    exact ⟨_, rfl⟩
  refine hs_run w d (fun x => ∃ res, x = .ok res) (fun cc e sq i => ?_) (fun _ _ _ _ _ _ _ _ _ _ _ _ _ _ => fin ..)
  unfold failWith
  cases e with
  | connClosed => exact ⟨_, rfl⟩
  | other r =>
    simp only
    -- the serializer used for the reason text exists: the message's own if it is known, the marshal serializer if not
    have hk : ∃ ser, w.serializer (if (w.serializers i).isNone = true then marshalId else i) = .ok ser := by
      cases hi : w.serializers i with
      | some s => exact ⟨s, serializer_ok.mpr hi⟩
      | none =>
        obtain ⟨s, hs⟩ := Option.isSome_iff_exists.mp hm
        exact ⟨s, serializer_ok.mpr hs⟩
    obtain ⟨ser, hk⟩ := hk
    rw [hk]
    obtain ⟨b, hb⟩ := hdump ser r
    simp only [hb]
    exact fin ..

/-! ### the same, about the transcription of the source -/

/-- **C08_source_accept_iff.**  C08_hs_accept_iff about `handshakeSrc`, the function transcribed from server.py. -/
theorem C08_source_accept_iff (w : World) (d : Option String) :
    (∃ res, Pyro.Gen.C08Src.handshakeSrc w d = .ok res ∧ res.ret = true) ↔
    ∃ m ser h o r md data ann,
      w.recv [MSG_CONNECT] = .ok m ∧ truthy d = false ∧ w.serializers m.serId = some ser ∧
      w.loads ser m.data = .ok (.dict (some h) (some o)) ∧ w.validate h = .ok r ∧ w.metadata o = .ok md ∧
      w.dumps ser (.response r md) = .ok data ∧ w.annotations = .ok ann ∧
      w.send ⟨MSG_CONNECTOK, 0, m.seq, m.serId, data, ann⟩ = .ok () := by
  rw [C08_handshake_translated]
  exact C08_hs_accept_iff w d

/-- **C08_source_fail_reply.**  C08_hs_fail_reply about the transcription. -/
theorem C08_source_fail_reply (w : World) (d : Option String) (res : Result)
    (h : Pyro.Gen.C08Src.handshakeSrc w d = .ok res) :
    (res.ret = false → res.sent = [] ∨ ∃ m, res.sent = [m] ∧ m.type = MSG_CONNECTFAIL) ∧
    (res.ret = true → ∃ m, res.sent = [m] ∧ m.type = MSG_CONNECTOK) := by
  rw [C08_handshake_translated] at h
  exact C08_hs_fail_reply w d res h

/-- **C08_source_refusing_validator.**  C08_hs_refusing_validator about the transcription. -/
theorem C08_source_refusing_validator (w : World) (d : Option String) (res : Result)
    (hv : ∀ h r, w.validate h ≠ .ok r) (h : Pyro.Gen.C08Src.handshakeSrc w d = .ok res) : res.ret = false := by
  rw [C08_handshake_translated] at h
  exact C08_hs_refusing_validator w d res hv h

/-- **C08_source_validator_before_lookup.**  C08_hs_validator_before_lookup about the transcription. -/
theorem C08_source_validator_before_lookup (w : World) (d : Option String) (f : Nat → Except Err Nat)
    (hv : ∀ h r, w.validate h ≠ .ok r) :
    Pyro.Gen.C08Src.handshakeSrc { w with metadata := f } d = Pyro.Gen.C08Src.handshakeSrc w d := by
  rw [C08_handshake_translated, C08_handshake_translated]
  exact C08_hs_validator_before_lookup w d f hv

/-- **C08_source_never_raises.**  C08_hs_never_raises about the transcription. -/
theorem C08_source_never_raises (w : World) (d : Option String)
    (hm : (w.serializers marshalId).isSome = true) (hdump : ∀ ser s, ∃ b, w.dumps ser (.reason s) = .ok b)
    (ha : ∃ a, w.annotations = .ok a) (hsend : ∀ m, w.send m = .ok ()) :
    ∃ res, Pyro.Gen.C08Src.handshakeSrc w d = .ok res := by
  rw [C08_handshake_translated]
  exact C08_hs_never_raises w d hm hdump ha hsend

/-- the handshake step of a connection as the transcription computes it on a history item -/
def handshakeOfSrc (it : Item) : Option Reply × Bool :=
  (abstract (Pyro.Gen.C08Src.handshakeSrc (worldOf it) none)).getD (none, false)

/-- **C08_source_refines.**  The transcription, run on the world a history item stands for, IS `Server.handshake`. -/
theorem C08_source_refines : handshakeOfSrc = handshake := by
  funext it
  unfold handshakeOfSrc
  rw [C08_handshake_translated, C08_hs_refines]
  rfl

/-- the per-connection life cycle of `Server.connEvent` with the handshake step as a parameter -/
def connEventWith (hs : Item → Option Reply × Bool) (c : Conn) (it : Item) : Conn :=
  match c.phase with
  | .fresh =>
    let (reply, ok) := hs it
    let c := { c with outbox := c.outbox ++ reply.toList }
    if ok then { c with phase := .active, slot := true }
    else { c.close with phase := .closed }
  | _ => connEvent c it

theorem connEventWith_handshake : connEventWith handshake = connEvent := by
  funext c it
  unfold connEventWith connEvent
  cases c.phase <;> rfl

/-- **C08_source_no_exec_before.**  The main theorem with the handshake step computed by the transcription of
    `Daemon._handshake`: for every sequence of items on a new connection, if anything was executed on its behalf the
    first message sent on it was a CONNECTOK. -/
theorem C08_source_no_exec_before (items : List Item) :
    let c := items.foldl (connEventWith handshakeOfSrc) {}
    c.execs ≠ [] → AcceptedFirst c := by
  rw [C08_source_refines, connEventWith_handshake]
  exact C08_no_exec_before items

/-- **C08_source_failed_then_anything.**  ... and whatever is pipelined behind a first item the transcription refuses is
    never executed. -/
theorem C08_source_failed_then_anything (it : Item) (items : List Item) (h : (handshakeOfSrc it).2 = false) :
    ((it :: items).foldl (connEventWith handshakeOfSrc) {}).execs = [] := by
  rw [C08_source_refines] at h ⊢
  rw [connEventWith_handshake]
  exact C08_failed_then_anything it items h

/-! ### non-vacuity -/
private def okItem : Item := .msg { type := 1, serId := 3, seq := 7, body := .handshake true true .accept }
example : abstract (Pyro.Gen.C08Src.handshakeSrc (worldOf okItem) none) = some (some ⟨2, 7, 3, false, []⟩, true) := by decide
example : abstract (Pyro.Gen.C08Src.handshakeSrc (worldOf okItem) (some "no free workers")) = some (some ⟨3, 7, 2, false, []⟩, false) := by
  decide
/-- a payload dict without a "handshake" entry in front of a validator that would accept: refused, one CONNECTFAIL sent -/
example : (match handshakeM { worldOf okItem with loads := fun _ _ => .ok (.dict none (some 0)) } none with
    | .ok r => r.sent.map (·.type) | .error _ => []) = [3] := by rfl

end Pyro.C08
