/-
  C06Src.lean — `protocol.recv_stub`, transcribed from the source on every run by the shallow translator of this property
  (harness/props/c06_tr.py → `Pyro.Gen.C06.recvStubGlueSrc`), is the model's `Wire.recvStub`:

  * `C06_recv_stub_translated`  with the model's own collaborators (`parseHeader`, `addPayload`, the 6-byte prefix test) the
    transcription computes, for every stream / accepted list / limit / zlib, the outcome, the number of bytes requested and the
    unread rest that `recvStub` computes;
  * `C06_source_recv_stub`      with the *transcribed* collaborators (`validate`, `ReceivingMessage.__init__`, `add_payload`, run
    by the PyIR interpreter) it still does: the whole decode path of the source, no hand-written glue left;
  * `C06_source_…`              the property theorems restated about that whole-source decoder.
-/
import PyroModel.PyIR
import PyroModel.Wire
import PyroModel.C06Glue
import PyroModel.Gen.C06
import PyroModel.C06AstRun
import PyroProofs.Wire
import PyroProofs.WireStages
import PyroProps.C06
import PyroProps.C06Ast
import PyroProps.C06EncAst

namespace Pyro.C06Src

open Pyro Pyro.Wire Pyro.C06Glue Pyro.C06AstRun

/-- **`recv_stub`, as written now, is the model's `recvStub`** (collaborators = the model's operations) — for every limit,
    zlib, accepted-types list and stream: same outcome, same number of bytes requested from the connection, same unread rest. -/
theorem C06_recv_stub_translated (cfg : Cfg) (z : Zlib) (accepted : List Nat) (stream : Bytes) :
    run (Gen.C06.recvStubGlueSrc (modelOps cfg z) accepted) stream = some (recvStub cfg z accepted stream) := by
  unfold run Gen.C06.recvStubGlueSrc recvStub
  simp only [gBind, gRecv, gLift, modelOps]
  cases h6e : recvN 6 stream with
  | none => rfl
  | some p =>
    obtain ⟨h6, s1⟩ := p
    simp only []
    by_cases ht : List.take 4 h6 = tagPYRO
    · by_cases hv : List.drop 4 h6 = toBE 2 protocolVersion
      · simp only [ht, hv, ne_eq, not_true_eq_false, if_false]
        have e34 : headerSize - 6 = 34 := by decide
        rw [e34]
        cases h34e : recvN 34 s1 with
        | none => rfl
        | some q =>
          obtain ⟨h34, s2⟩ := q
          simp only [recvStage2]
          cases hp : parseHeader cfg (h6 ++ h34) with
          | error e => rfl
          | ok hdr =>
            simp only []
            cases hc : (!accepted.isEmpty && !accepted.contains hdr.type) with
            | true => simp; rfl
            | false =>
              simp only [Bool.false_eq_true, if_false, recvStage3, gBind, gRecv, gLift, gRet]
              cases hbe : recvN (hdr.annSize + hdr.dataSize) s2 with
              | none => simp [headerSize]; omega
              | some r =>
                obtain ⟨body, s3⟩ := r
                simp only [headerSize]
                generalize addPayload z hdr body = ap
                cases ap <;> simp <;> omega
      · simp [ht, hv]
    · simp [ht]

/-- the collaborators as the source writes them: the three transcribed functions run by the PyIR interpreter
    (`none` = the interpreter left its fragment / ran out of fuel) -/
def srcOps (cfg : PyIR.Cfg) : Ops where
  validate := fun d =>
    match runValidate cfg Gen.C06.validateSrc d with
    | .raise (.exc .protocolError _ _) _ _ => some (.error .protocol)
    | .normal _ _ => some (.ok ())
    | _ => none
  construct := fun h => toHeader (runInit cfg Gen.C06.initSrc h)
  addPayload := fun hdr body => toDecoded hdr (runAddPayload cfg Gen.C06.addPayloadSrc hdr body)

/-- the whole decode path of the source: transcribed `recv_stub` around the transcribed `validate`, `__init__`, `add_payload` -/
def recvStubSource (cfg : PyIR.Cfg) (accepted : List Nat) (stream : Bytes) : Option StubResult :=
  run (Gen.C06.recvStubGlueSrc (srcOps cfg) accepted) stream

/-- **C06_source_recv_stub.**  The source's whole decode path — `recv_stub` as written now calling `validate`,
    `ReceivingMessage.__init__` and `add_payload` as written now — decodes every stream exactly as the model's `recvStub`
    does (same outcome, same bytes requested, same rest), and never leaves the translated fragment. -/
theorem C06_source_recv_stub (cfg : PyIR.Cfg) (wcfg : Wire.Cfg) (z : Zlib) (hm : cfg.maxSize = wcfg.maxSize)
    (hz : cfg.unzip = z.decompress) (accepted : List Nat) (stream : Bytes) :
    recvStubSource cfg accepted stream = some (recvStub wcfg z accepted stream) := by
  rw [← C06_recv_stub_translated wcfg z accepted stream]
  unfold recvStubSource run Gen.C06.recvStubGlueSrc
  simp only [gBind, gRecv, gLift, modelOps, srcOps]
  cases h6e : recvN 6 stream with
  | none => rfl
  | some p =>
    obtain ⟨h6, s1⟩ := p
    have hl6 := C06Ast.recvN_length h6e
    obtain ⟨hbad, hgood⟩ := C06Ast.validate_translated cfg h6 hl6
    simp only []
    cases hb : C06Ast.prefixBad h6 with
    | true =>
      obtain ⟨env, w, hv⟩ := hbad hb
      rw [hv]
      simp only [C06Ast.prefixBad, Bool.or_eq_true, bne_iff_ne, ne_eq] at hb
      rcases hb with hb | hb
      · simp [hb]
      · by_cases ht : List.take 4 h6 = tagPYRO
        · simp [ht, hb]
        · simp [ht]
    | false =>
      obtain ⟨env, w, hv⟩ := hgood hb
      rw [hv]
      simp only [C06Ast.prefixBad, Bool.or_eq_false_iff, bne_eq_false_iff_eq] at hb
      simp only [hb.1, hb.2, ne_eq, not_true_eq_false, if_false]
      cases h34e : recvN 34 s1 with
      | none => rfl
      | some q =>
        obtain ⟨h34, s2⟩ := q
        have hl34 := C06Ast.recvN_length h34e
        have h40 : (h6 ++ h34).length = 40 := by simp [hl6, hl34]
        simp only []
        rw [C06Ast.init_translated cfg wcfg hm (h6 ++ h34) h40]
        cases hp : parseHeader wcfg (h6 ++ h34) with
        | error e => rfl
        | ok hdr =>
          simp only []
          cases hc : (!accepted.isEmpty && !accepted.contains hdr.type) with
          | true => simp
          | false =>
            simp only [Bool.false_eq_true, if_false, gBind, gRecv, gLift, gRet]
            cases hbe : recvN (hdr.annSize + hdr.dataSize) s2 with
            | none => rfl
            | some r =>
              obtain ⟨body, s3⟩ := r
              simp only []
              rw [C06Ast.addPayload_translated z cfg hz hdr body]

/-! ### the property, about the whole-source decoder -/

/-- **"accepts only what is well formed", about the source's whole decode path**: whatever byte string it accepts is a 40-byte
    header that parses, an annotation area tiled exactly by chunks, exactly `data_size` data bytes and the untouched rest;
    exactly the message's bytes were requested, and the message type passed the filter. -/
theorem C06_source_decoder_accepts_only_wellformed (cfg : PyIR.Cfg) (wcfg : Wire.Cfg) (z : Zlib)
    (hm : cfg.maxSize = wcfg.maxSize) (hz : cfg.unzip = z.decompress) (accepted : List Nat) (stream : Bytes)
    (d : Decoded) (n : Nat) (rest : Bytes)
    (h : recvStubSource cfg accepted stream = some ⟨.ok d, n, rest⟩) :
    ∃ (hdr : Bytes) (H : Header) (chunks : List (Bytes × Bytes)) (data : Bytes),
      stream = hdr ++ (rawChunks chunks ++ (data ++ rest)) ∧
      hdr.length = headerSize ∧ parseHeader wcfg hdr = .ok H ∧
      (rawChunks chunks).length = H.annSize ∧ data.length = H.dataSize ∧
      n = headerSize + H.annSize + H.dataSize ∧
      (accepted = [] ∨ H.type ∈ accepted) ∧
      d.anns = chunks.foldl (fun a c => dictSet a (c.1.map UInt8.toNat) c.2) [] := by
  rw [C06_source_recv_stub cfg wcfg z hm hz] at h
  have h' : recvStub wcfg z accepted stream = ⟨.ok d, n, rest⟩ := by injection h
  obtain ⟨hdr, H, chunks, data, h1, h2, h3, h4, h5, h6, h7, h8, _⟩ :=
    Pyro.C06.C06_accepts_only_wellformed wcfg z accepted stream d n rest h'
  exact ⟨hdr, H, chunks, data, h1, h2, h3, h4, h5, h6, h7, h8⟩

/-- **receiver-side limit, about the source's whole decode path**: if it asks the connection for anything beyond the 40 header
    bytes, the header declared `data + annotations ≤ MAX_MESSAGE_SIZE` — an oversized message is refused before any of its body
    is read. -/
theorem C06_source_decoder_receiver_limit (cfg : PyIR.Cfg) (wcfg : Wire.Cfg) (z : Zlib)
    (hm : cfg.maxSize = wcfg.maxSize) (hz : cfg.unzip = z.decompress) (accepted : List Nat) (stream : Bytes)
    (r : StubResult) (h : recvStubSource cfg accepted stream = some r) (hreq : r.requested > headerSize) :
    ∃ H, parseHeader wcfg (stream.take headerSize) = .ok H ∧ H.dataSize + H.annSize ≤ wcfg.maxSize ∧
      r.requested = headerSize + H.annSize + H.dataSize := by
  rw [C06_source_recv_stub cfg wcfg z hm hz] at h
  have h' : recvStub wcfg z accepted stream = r := by injection h
  subst h'
  exact Pyro.C06.C06_receiver_limit wcfg z accepted stream hreq

/-- **round trip, source to source**: whatever the source's `SendingMessage.__init__` puts into `.data`, the source's
    `recv_stub` (with the source's `validate` / `__init__` / `add_payload`) reads back as the same message, consuming exactly
    those bytes — every message with distinct annotation keys, every configuration, every lawful zlib, every accepted-types
    list that lets the type through, whatever follows on the stream. -/
theorem C06_source_decoder_roundtrip (cfg : Wire.Cfg) (z : Zlib) (m : Msg) (bs rest : Bytes) (accepted : List Nat)
    (rcfg : PyIR.Cfg) (hm : rcfg.maxSize = cfg.maxSize) (hzr : rcfg.unzip = z.decompress)
    (hz : z.Lawful) (hnd : (keysOf m.anns).Nodup) (hcorr : ∀ c, m.corr = some c → c.length = 16)
    (hsend : toEncoded (runSendInit (sendCfg cfg z m.corr) Gen.C06.sendInitSrc m) = some (.ok bs))
    (hacc : accepted = [] ∨ m.type ∈ accepted) :
    recvStubSource rcfg accepted (bs ++ rest) = some ⟨.ok (C06.decodedOf m), bs.length, rest⟩ := by
  have h := C06EncAst.C06_source_roundtrip cfg z m bs rest accepted rcfg hm hzr hz hnd hcorr hsend hacc
  rw [C06Ast.C06_source_recvStub rcfg cfg z hm hzr accepted (bs ++ rest)] at h
  rw [C06_source_recv_stub rcfg cfg z hm hzr accepted (bs ++ rest)]
  exact h

/-- non-vacuity: the transcribed `recv_stub` run on a concrete stream (header + one annotation chunk + 2 data bytes + 1 stray
    byte; accepted types [4]) accepts, requests 40 + 10 + 2 bytes and leaves the stray byte -/
example :
    (match run (Gen.C06.recvStubGlueSrc (modelOps ⟨false, 1000⟩ ⟨id, some⟩) [4])
        ([80, 89, 82, 79, 1, 246, 4, 2, 0, 0, 0, 7, 0, 0, 0, 2, 0, 0, 0, 10] ++ List.replicate 16 0 ++ [0, 0, 77, 197] ++
         [65, 66, 67, 68, 0, 0, 0, 2, 5, 6] ++ [1, 2] ++ [9]) with
     | some r => (r.requested, r.rest, r.out.toOption.map (·.anns)) == (52, [9], some [([65, 66, 67, 68], [5, 6])])
     | none => false) = true := by decide +kernel

/-- ... and refuses a message of a type outside the accepted list after exactly the 40 header bytes -/
example :
    (match run (Gen.C06.recvStubGlueSrc (modelOps ⟨false, 1000⟩ ⟨id, some⟩) [5, 6])
        ([80, 89, 82, 79, 1, 246, 4, 2, 0, 0, 0, 7, 0, 0, 0, 2, 0, 0, 0, 0] ++ List.replicate 16 0 ++ [0, 0, 77, 197] ++ [1, 2]) with
     | some r => (r.requested, r.rest, r.out.toOption.isSome) == (40, [1, 2], false)
     | none => false) = true := by decide +kernel

/-! ### stronger statements -/

/-- **C06_accept_independent_of_rest.**  An accepted message is a prefix of the stream (`stream = take n ++ rest`, exactly `n`
    bytes were requested) and acceptance depends on those bytes alone: followed by ANY other continuation the same message is
    decoded, the same `n` bytes are requested and the continuation is left untouched. -/
theorem C06_accept_independent_of_rest (cfg : Cfg) (z : Zlib) (accepted : List Nat) (stream : Bytes)
    (d : Decoded) (n : Nat) (rest : Bytes)
    (h : recvStub cfg z accepted stream = ⟨.ok d, n, rest⟩) :
    stream = stream.take n ++ rest ∧ (stream.take n).length = n ∧
    ∀ rest', recvStub cfg z accepted (stream.take n ++ rest') = ⟨.ok d, n, rest'⟩ := by
  rcases recvStub_inv cfg z accepted stream with ⟨e, he, _⟩ | ⟨h6, h34, s2, rfl, l6, l34, ht, hv⟩
  · rw [h] at he
    cases he
  · rw [recvStub_append cfg z accepted h6 h34 s2 l6 l34 ht hv] at h
    rcases stage2_inv cfg z accepted (h6 ++ h34) s2 with ⟨e, he, _⟩ | ⟨H, _, _, hs⟩
    · rw [h] at he
      cases he
    · rw [hs] at h
      obtain ⟨body, rfl, lb, hadd, hn⟩ := stage3_ok z H s2 d n rest h
      have htake : (h6 ++ (h34 ++ (body ++ rest))).take n = h6 ++ (h34 ++ body) := by
        rw [hn, ← List.append_assoc h34, ← List.append_assoc h6]
        apply List.take_left'
        simp only [List.length_append, l6, l34, lb, headerSize]; omega
      rw [htake]
      refine ⟨?_, ?_, ?_⟩
      · simp only [List.append_assoc]
      · simp only [List.length_append, l6, l34, lb, hn, headerSize]; omega
      · intro rest'
        rw [List.append_assoc, List.append_assoc, recvStub_append cfg z accepted h6 h34 _ l6 l34 ht hv, hs]
        unfold recvStage3
        rw [recvN_append body _ _ lb]
        simp only [hadd, hn]

/-- ... and so for the source's whole decode path -/
theorem C06_source_decoder_independent_of_rest (cfg : PyIR.Cfg) (wcfg : Wire.Cfg) (z : Zlib)
    (hm : cfg.maxSize = wcfg.maxSize) (hz : cfg.unzip = z.decompress) (accepted : List Nat) (stream : Bytes)
    (d : Decoded) (n : Nat) (rest : Bytes)
    (h : recvStubSource cfg accepted stream = some ⟨.ok d, n, rest⟩) :
    stream = stream.take n ++ rest ∧
    ∀ rest', recvStubSource cfg accepted (stream.take n ++ rest') = some ⟨.ok d, n, rest'⟩ := by
  rw [C06_source_recv_stub cfg wcfg z hm hz] at h
  have h' : recvStub wcfg z accepted stream = ⟨.ok d, n, rest⟩ := by injection h
  obtain ⟨h1, _, h3⟩ := C06_accept_independent_of_rest wcfg z accepted stream d n rest h'
  refine ⟨h1, fun rest' => ?_⟩
  rw [C06_source_recv_stub cfg wcfg z hm hz, h3 rest']

/-- `recv_stub` called `k` times on the same connection: the messages in order and what is left unread;
    `none` as soon as one call raises -/
def recvSeq (cfg : Cfg) (z : Zlib) (accepted : List Nat) : Nat → Bytes → Option (List Decoded × Bytes)
  | 0, s => some ([], s)
  | k + 1, s =>
    match (recvStub cfg z accepted s).out with
    | .error _ => none
    | .ok d =>
      match recvSeq cfg z accepted k (recvStub cfg z accepted s).rest with
      | none => none
      | some (ds, r) => some (d :: ds, r)

/-- **C06_roundtrip_sequence** (all histories of the per-message round trip).  `k` messages sent back to back on one connection,
    followed by anything: `k` calls of `recv_stub` return the `k` messages in order (each call consumes exactly its message, or the
    next one would not parse) and leave exactly what followed the last one. -/
theorem C06_roundtrip_sequence (cfg : Cfg) (z : Zlib) (accepted : List Nat) (hz : z.Lawful)
    (ps : List (Msg × Bytes)) (rest : Bytes)
    (hall : ∀ p ∈ ps, encode cfg z p.1 = .ok p.2 ∧ (keysOf p.1.anns).Nodup ∧ (accepted = [] ∨ p.1.type ∈ accepted)) :
    recvSeq cfg z accepted ps.length ((ps.map (·.2)).flatten ++ rest) = some (ps.map (fun p => C06.decodedOf p.1), rest) := by
  induction ps with
  | nil => simp [recvSeq]
  | cons p ps' ih =>
    obtain ⟨he, hnd, hacc⟩ := hall p (by simp)
    have ih' := ih (fun q hq => hall q (by simp [hq]))
    obtain ⟨h1, h2, _⟩ := C06.C06_roundtrip cfg z p.1 p.2 ((ps'.map (·.2)).flatten ++ rest) accepted hz hnd he hacc
    simp only [List.length_cons, List.map_cons, List.flatten_cons, List.append_assoc, recvSeq, h1, h2, ih']

/-- non-vacuity: two messages and a stray byte -/
example : (recvSeq ⟨false, 1000⟩ ⟨id, some⟩ [] 2
    ((((encode ⟨false, 1000⟩ ⟨id, some⟩ ⟨4, 2, 0, 7, [1, 2], [([65, 66, 67, 68], [5])], none⟩).toOption.getD []) ++
      ((encode ⟨false, 1000⟩ ⟨id, some⟩ ⟨5, 2, 0, 8, [], [], none⟩).toOption.getD [])) ++ [9])).map
      (fun p => (p.1.map (·.seq), p.2)) = some ([7, 8], [9]) := by decide +kernel

end Pyro.C06Src
