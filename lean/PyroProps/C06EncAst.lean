/-
  C06EncAst.lean — `SendingMessage.__init__`, transcribed from the source into PyIR on every run
  (PyroModel/Gen/C06.lean, `sendInitSrc`), computes exactly what the hand-written `Wire.encode` computes:
  the same bytes in `.data`, or an exception of the class that belongs to the model's error kind — for every message,
  every configuration, every zlib and every correlation id of 16 bytes.  Composed with C06Ast (the receiving side, also
  transcribed) this gives the round trip about the two transcriptions: what the source's sender writes, the source's
  receiver reads back.

  Plan.  The transcription is cut by pattern matching into the eleven statements before the header pack (`prefixL`, run
  by `execSeq`: `prefix_ok`) and the rest (`tailPart`: header pack, annotation loop, `.data`); `seqs` puts the two together
  again (`src_shape`).  Inside the tail the loop is a parameter (`tailWith`), so that the tail is run with the loop
  abstract (`tail_gen`, from `LoopOK`) and the loop by induction on the annotations (`enc_loop`); `sendInit_gen` joins
  prefix and tail, `sendInit_translated` puts the actual loop and tail in (`tail_shape`, `encLoop_shape`).
  The translator's names: p1 … p6 = msgtype, flags, seq, serializer_id, payload, annotations (PyroModel/C06AstRun.lean);
  v0 = annotations_size, v2 = total size, v3 = the packed header, v4 = the list of annotation chunks, v5 / v1 = key / value
  of the current annotation, t1 / t0 = its encoded key / its packed chunk header.
-/
import PyroModel.PyIR
import PyroModel.Wire
import PyroModel.Gen.C06
import PyroModel.C06AstRun
import PyroProps.C06Ast

namespace Pyro.C06EncAst

open Pyro Pyro.Wire Pyro.PyIR Pyro.C06AstRun

attribute [local simp] exec eval truth truthy List.lookup_cons

/-! ### `x |= 2`, `x |= 64` -/

/-- `x ||| c` sets bit `c` of `x`, for `c` a power of two below `K = 2c`; `key` is the same fact for the residues below `K` -/
theorem lor_small (K c : Nat) (hK : K = 2 ^ (K.log2)) (x : Nat)
    (key : ∀ r, r < K → (r ||| c = if r / c % 2 = 1 then r else r + c) ∧ (r ||| c) < K)
    (hKc : K = c * 2) (hc : 0 < c) :
    x ||| c = if x / c % 2 = 1 then x else x + c := by
  have hdiv (q r : Nat) : (K * q + r) / c % 2 = r / c % 2 := by
    rw [hKc, Nat.mul_assoc, Nat.mul_add_div hc, Nat.mul_add_mod]
  have hKpos : 0 < K := by rw [hK]; exact Nat.two_pow_pos _
  have hx : x = K * (x / K) + x % K := (Nat.div_add_mod x K).symm
  have hr : x % K < K := Nat.mod_lt _ hKpos
  generalize x / K = q at hx
  generalize x % K = r at hx hr
  subst hx
  have hr' : r < 2 ^ K.log2 := by rw [← hK]; exact hr
  have e1 : K * q + r = K * q ||| r := by
    have := Nat.two_pow_add_eq_or_of_lt hr' q
    rw [← hK] at this; exact this
  have hk := key r hr
  have hlt : (r ||| c) < 2 ^ K.log2 := by rw [← hK]; exact hk.2
  have e2 : K * q + (r ||| c) = K * q ||| (r ||| c) := by
    have := Nat.two_pow_add_eq_or_of_lt hlt q
    rw [← hK] at this; exact this
  have : (K * q + r) ||| c = K * q + (r ||| c) := by
    rw [e2, ← Nat.or_assoc, ← e1]
  rw [this, hk.1, hdiv q r]
  split <;> omega

theorem lor_two (x : Nat) : x ||| 2 = setBit x 2 := by
  have := lor_small 4 2 (by decide) x (by decide) rfl (by decide)
  rw [this]; unfold setBit; split <;> rfl

theorem lor_64 (x : Nat) : x ||| 64 = setBit x 64 := by
  have := lor_small 128 64 (by decide) x (by decide) rfl (by decide)
  rw [this]; unfold setBit; split <;> rfl

theorem clear_two (x : Nat) : x - (x &&& 2) = clearBit x 2 := by
  rw [C06Ast.land_two]; unfold clearBit; split <;> omega

/-! ### `struct.pack` of the header -/

theorem hdr_pack (t s f q d a : Nat) (c : Bytes) (hc : c.length = 16) :
    packAll [(.raw 4, .bytes [80, 89, 82, 79]), (.uint 2, .int 502), (.uint 1, .int t), (.uint 1, .int s), (.uint 2, .int f),
             (.uint 2, .int q), (.uint 4, .int d), (.uint 4, .int a), (.raw 16, .bytes c), (.uint 2, .int 0), (.uint 2, .int 19909)] =
      if t ≥ 256 ∨ s ≥ 256 ∨ f ≥ 65536 ∨ q ≥ 65536 ∨ d ≥ 2 ^ 32 ∨ a ≥ 2 ^ 32 then none
      else some (packHeader t s f q d a c) := by
  have hpad : List.take 16 c ++ List.replicate (16 - c.length) (0 : UInt8) = c := by
    rw [hc]; simp [List.take_of_length_le (Nat.le_of_eq hc)]
  have i (v : Nat) : ((v : Int) < 256 ↔ v < 256) ∧ ((v : Int) < 256 ^ 2 ↔ v < 65536) ∧ ((v : Int) < 256 ^ 4 ↔ v < 2 ^ 32) := by
    omega
  simp only [packAll, fits, packOne, Int.pow_one, i, Int.natCast_nonneg, true_and, Option.some.injEq, decide_eq_true_eq]
  by_cases h : t ≥ 256 ∨ s ≥ 256 ∨ f ≥ 65536 ∨ q ≥ 65536 ∨ d ≥ 2 ^ 32 ∨ a ≥ 2 ^ 32
  · rw [if_pos h]
    rcases h with h | h | h | h | h | h <;> simp [Nat.not_lt.mpr h]
  · rw [if_neg h]
    simp only [not_or, Nat.not_le] at h
    simp [h, hpad, packHeader, headerPrefix, tagPYRO, protocolVersion, magicNumber]

/-! ### `sum([8 + _nbytes(v) for v in annotations.values()])` -/

theorem sumOver_len (items : List Ann) :
    sumOver (fun v => some (Val.int (8 + (v.length : Int)))) items = some ((annSize items : Nat) : Int) := by
  induction items with
  | nil => simp [sumOver, annSize]
  | cons a rest ih =>
    obtain ⟨k, v⟩ := a
    simp only [sumOver, ih]
    simp [annSize]

theorem orElse_dict (cfg : PyIR.Cfg) (env : Env) (x : String) (d : List Ann) (h : env.lookup x = some (.dict d)) :
    eval cfg env (.orElse (.var x) .emptyDict) = some (.dict d) := by
  cases d <;> simp [h]

/-! ### sequences -/

def seqs : List Stmt → Stmt → Stmt
  | [], t => t
  | s :: r, t => .seq s (seqs r t)

def execSeq (cfg : PyIR.Cfg) : List Stmt → Nat → Option Val → Env → World → Res
  | [], _, _, env, w => .normal env w
  | s :: r, F, cur, env, w =>
    match exec cfg s F cur env w with
    | .normal env w => execSeq cfg r F cur env w
    | x => x

theorem exec_seqs (cfg : PyIR.Cfg) (T : Stmt) (F : Nat) (cur : Option Val) :
    ∀ (l : List Stmt) (env : Env) (w : World),
      exec cfg (seqs l T) F cur env w =
        match execSeq cfg l F cur env w with
        | .normal env w => exec cfg T F cur env w
        | r => r := by
  intro l
  induction l with
  | nil => intro env w; simp [seqs, execSeq]
  | cons s r ih =>
    intro env w
    simp only [seqs, execSeq, exec]
    cases hs : exec cfg s F cur env w <;> simp [ih]

theorem execSeq_append (cfg : PyIR.Cfg) (F : Nat) (cur : Option Val) (l₂ : List Stmt) :
    ∀ (l₁ : List Stmt) (env : Env) (w : World),
      execSeq cfg (l₁ ++ l₂) F cur env w =
        match execSeq cfg l₁ F cur env w with
        | .normal env w => execSeq cfg l₂ F cur env w
        | r => r := by
  intro l₁
  induction l₁ with
  | nil => intro env w; rfl
  | cons s r ih =>
    intro env w
    simp only [List.cons_append, execSeq]
    cases exec cfg s F cur env w <;> simp only [ih]

/-! ### the shape of the transcription -/

def prefixL : List Stmt :=
  match Gen.C06.sendInitSrc with
  | .seq a1 (.seq a2 (.seq a3 (.seq a4 (.seq a5 (.seq a6 (.seq a7 (.seq a8 (.seq a9 (.seq a10 (.seq a11 _)))))))))) =>
    [a1, a2, a3, a4, a5, a6, a7, a8, a9, a10, a11]
  | _ => []

def tailPart : Stmt :=
  match Gen.C06.sendInitSrc with
  | .seq _ (.seq _ (.seq _ (.seq _ (.seq _ (.seq _ (.seq _ (.seq _ (.seq _ (.seq _ (.seq _ t)))))))))) => t
  | _ => .skip

theorem src_shape : Gen.C06.sendInitSrc = seqs prefixL tailPart := by rfl

def encLoop : Stmt :=
  match tailPart with
  | .seq _ (.seq _ (.seq l _)) => l
  | _ => .skip

def encBody : Stmt :=
  match encLoop with
  | .forEachItem _ _ _ b => b
  | _ => .skip

theorem encLoop_shape : encLoop = .forEachItem "v5" "v1" (.var "p6") encBody := by rfl

/-- the tail with `L` in place of the annotation loop -/
def tailWith (L : Stmt) : Stmt :=
  match tailPart with
  | .seq a (.seq b (.seq _ z)) => .seq a (.seq b (.seq L z))
  | s => s

theorem tail_shape : tailPart = tailWith encLoop := by rfl

/-! ### the annotation loop -/

/-- what the tail needs of the loop `L e` over the dict `e`: it appends the encoded annotations to the chunk list `v4`, leaves
    `v3` and `p5` alone, or raises the exception of `encodeAnns`' error -/
def LoopOK (cfg : PyIR.Cfg) (L : Expr → Stmt) : Prop :=
  ∀ (items : List Ann) (F : Nat) (cur : Option Val) (env : Env) (w : World) (acc : List Bytes) (e : Expr),
    items.length + 1 ≤ F → eval cfg env e = some (.dict items) → env.lookup "v4" = some (.chunks acc) →
    match encodeAnns items with
    | .ok bs => ∃ env' acc', exec cfg (L e) F cur env w = .normal env' w ∧ env'.lookup "v4" = some (.chunks acc') ∧
        acc'.flatten = acc.flatten ++ bs ∧ env'.lookup "v3" = env.lookup "v3" ∧ env'.lookup "p5" = env.lookup "p5"
    | .error er => ∃ env', exec cfg (L e) F cur env w = .raise (.exc (encErrCls er) false none) env' w

theorem enc_loop (cfg : PyIR.Cfg) : LoopOK cfg (fun e => .forEachItem "v5" "v1" e encBody) := by
  intro items
  induction items with
  | nil =>
    intro F cur env w acc e hF he hv4
    obtain ⟨G, rfl⟩ : ∃ G, F = G + 1 := ⟨F - 1, by omega⟩
    simp only [encodeAnns]
    exact ⟨env, acc, by simp [he], hv4, by simp, rfl, rfl⟩
  | cons kv rest ih =>
    intro F cur env w acc e hF he hv4
    obtain ⟨k, v⟩ := kv
    obtain ⟨G, rfl⟩ : ∃ G, F = G + 1 := ⟨F - 1, by omega⟩
    have e32 : (2 : Nat) ^ 32 = 4294967296 := by decide
    have e4 : (256 : Int) ^ 4 = 4294967296 := by decide
    simp only [encodeAnns]
    by_cases hk : k.length ≠ 4
    · have hkI : ((k.length : Int) != 4) = true := by simp; omega
      rw [if_pos hk]
      refine ⟨("v1", .bytes v) :: ("v5", .str k) :: env, ?_⟩
      simp [he, encBody, encLoop, tailPart, Gen.C06.sendInitSrc, hkI, encErrCls]
    · have hk4 : k.length = 4 := by omega
      have hkI : ((k.length : Int) != 4) = false := by simp; omega
      rw [if_neg hk]
      by_cases hany : k.any (· ≥ 128) = true
      · rw [if_pos hany]
        refine ⟨("v1", .bytes v) :: ("v5", .str k) :: env, ?_⟩
        simp at hany
        simp [he, encBody, encLoop, tailPart, Gen.C06.sendInitSrc, hkI, hany, encErrCls]
      · rw [if_neg hany]
        simp at hany
        have hnot : ¬ ∃ x, x ∈ k ∧ 128 ≤ x := by
          rintro ⟨x, hx, hge⟩
          have := hany x hx
          omega
        by_cases hv : v.length ≥ 2 ^ 32
        · rw [if_pos hv]
          have g : ¬ ((v.length : Int) < 4294967296) := by rw [e32] at hv; omega
          refine ⟨("t1", .bytes (k.map UInt8.ofNat)) :: ("v1", .bytes v) :: ("v5", .str k) :: env, ?_⟩
          simp [he, encBody, encLoop, tailPart, Gen.C06.sendInitSrc, hkI, hnot, encErrCls, evalPack, evalArgs, packAll, fits, e4, g]
        · rw [if_neg hv]
          have g : ((v.length : Int) < 4294967296) := by rw [e32] at hv; omega
          have hpad : List.take 4 (List.map UInt8.ofNat k) = List.map UInt8.ofNat k :=
            List.take_of_length_le (by simp [hk4])
          let env' : Env := ("v4", Val.chunks (acc ++ [List.map UInt8.ofNat k ++ toBE 4 v.length] ++ [v])) ::
            ("v4", Val.chunks (acc ++ [List.map UInt8.ofNat k ++ toBE 4 v.length])) ::
            ("t0", Val.bytes (List.map UInt8.ofNat k ++ toBE 4 v.length)) ::
            ("t1", Val.bytes (List.map UInt8.ofNat k)) :: ("v1", Val.bytes v) :: ("v5", Val.str k) :: env
          have step : exec cfg (.forEachItem "v5" "v1" e encBody) (G + 1) cur env w =
              exec cfg (.forEachItem "v5" "v1" (.lit (.dict rest)) encBody) G cur env' w := by
            simp [he, encBody, encLoop, tailPart, Gen.C06.sendInitSrc, hnot, evalPack, evalArgs, packAll, fits, packOne,
              e4, g, hv4, hpad, hk4, env']
          have hrec := ih G cur env' w (acc ++ [List.map UInt8.ofNat k ++ toBE 4 v.length] ++ [v]) (.lit (.dict rest))
            (by simp at hF ⊢; omega) (by simp) (by simp [env'])
          rw [step]
          cases hr : encodeAnns rest with
          | error er =>
            rw [hr] at hrec
            simpa using hrec
          | ok bs =>
            rw [hr] at hrec
            obtain ⟨env'', acc', hex, h4, hfl, h3, h5⟩ := hrec
            refine ⟨env'', acc', hex, h4, ?_, ?_, ?_⟩
            · rw [hfl]; simp
            · rw [h3]; simp [env']
            · rw [h5]; simp [env']

/-! ### from the header pack to `.data` -/

/-- where the statements from the compression step on find the constructor's arguments and the annotation size -/
def Args (env : Env) (t s f q : Nat) (P : Bytes) (a : Nat) (anns : List Ann) : Prop :=
  env.lookup "p1" = some (.int t) ∧ env.lookup "p4" = some (.int s) ∧ env.lookup "p2" = some (.int f) ∧
  env.lookup "p3" = some (.int q) ∧ env.lookup "p5" = some (.bytes P) ∧ env.lookup "v0" = some (.int a) ∧
  env.lookup "p6" = some (.dict anns)

/-- the outcome of `encode` after its size check (bytes, or the class of the exception), in terms of what the prefix has left
    in the environment -/
def tailExpected (t s f q a : Nat) (P c : Bytes) (anns : List Ann) : Except Cls Bytes :=
  if t ≥ 256 ∨ s ≥ 256 ∨ f ≥ 65536 ∨ q ≥ 65536 ∨ P.length ≥ 2 ^ 32 ∨ a ≥ 2 ^ 32 then .error .structError
  else match encodeAnns anns with
    | .error e => .error (encErrCls e)
    | .ok ab => .ok (packHeader t s f q P.length a c ++ (ab ++ P))

/-- the tail `T`, from any environment holding the arguments and a 16-byte correlation id, ends as `tailExpected` says -/
def TailOK (cfg : PyIR.Cfg) (T : Stmt) : Prop :=
  ∀ (F : Nat) (cur : Option Val) (env : Env) (w : World) (t s f q a : Nat) (P c : Bytes) (anns : List Ann),
    anns.length + 1 ≤ F → c.length = 16 → Args env t s f q P a anns → env.lookup "self.corr_id" = some (.bytes c) →
    toEncoded (exec cfg T F cur env w) = some (tailExpected t s f q a P c anns)

theorem tail_gen (cfg : PyIR.Cfg) (L : Expr → Stmt) (hL : LoopOK cfg L) : TailOK cfg (tailWith (L (.var "p6"))) := by
  intro F cur env w t s f q a P c anns hF hc ⟨h1, h4, h2, h3, h5, h0, h6⟩ hcid
  have hp := hdr_pack t s f q P.length a c hc
  unfold tailExpected
  by_cases hbad : t ≥ 256 ∨ s ≥ 256 ∨ f ≥ 65536 ∨ q ≥ 65536 ∨ P.length ≥ 2 ^ 32 ∨ a ≥ 2 ^ 32
  · rw [if_pos hbad] at hp ⊢
    simp [tailWith, tailPart, Gen.C06.sendInitSrc, evalPack, evalArgs, fits, h1, h2, h3, h4, h5, h0, hcid, hp, toEncoded]
  · rw [if_neg hbad] at hp ⊢
    have hloop := hL anns F cur (("v4", .chunks []) :: ("v3", .bytes (packHeader t s f q P.length a c)) :: env) w [] (.var "p6") hF
      (by simp [h6]) (by simp)
    cases hr : encodeAnns anns with
    | error er =>
      rw [hr] at hloop
      obtain ⟨env', he⟩ := hloop
      simp [tailWith, tailPart, Gen.C06.sendInitSrc, evalPack, evalArgs, fits, h1, h2, h3, h4, h5, h0, hcid, hp, he, toEncoded]
    | ok bs =>
      rw [hr] at hloop
      obtain ⟨env', acc', he, hv4, hfl, hv3, hp5⟩ := hloop
      simp [h5] at hv3 hp5 hfl
      simp [tailWith, tailPart, Gen.C06.sendInitSrc, evalPack, evalArgs, fits, h1, h2, h3, h4, h5, h0, hcid, hp, he,
        toEncoded, hv4, hv3, hp5, hfl]

/-! ### the statements before the header pack -/

theorem prefix_ok (cfg : Wire.Cfg) (z : Zlib) (m : Msg) (F : Nat) (w : World) :
    if (wirePayload cfg z m).length + annSize m.anns > cfg.maxSize then
      ∃ env', execSeq (sendCfg cfg z m.corr) prefixL F none (sendEnv m) w = .raise (.exc .protocolError false none) env' w
    else
      ∃ env', execSeq (sendCfg cfg z m.corr) prefixL F none (sendEnv m) w = .normal env' w ∧
        env'.lookup "p1" = some (.int m.type) ∧ env'.lookup "p4" = some (.int m.serId) ∧
        env'.lookup "p2" = some (.int (headerFlags cfg m)) ∧ env'.lookup "p3" = some (.int m.seq) ∧
        env'.lookup "p5" = some (.bytes (wirePayload cfg z m)) ∧ env'.lookup "v0" = some (.int (annSize m.anns)) ∧
        env'.lookup "self.corr_id" = some (.bytes (m.corr.getD zeroCorr)) ∧ env'.lookup "p6" = some (.dict m.anns) := by
  -- Four stretches, split where the source branches.  After each only `Args` is kept of the environment, so every
  -- statement is run once per branch it lies on and later look-ups do not walk through the earlier bindings.
  have hsplit : prefixL = prefixL.take 6 ++ ((prefixL.drop 6).take 1 ++ ((prefixL.drop 7).take 3 ++ prefixL.drop 10)) := rfl
  rw [hsplit]
  -- attribute assignments, `annotations or {}`, the annotation size, `flags &= ~FLAGS_COMPRESSED`
  obtain ⟨env₁, h₁, a1, a4, a2, a3, a5, a0, a6⟩ : ∃ env,
    execSeq (sendCfg cfg z m.corr) (prefixL.take 6) F none (sendEnv m) w = .normal env w ∧
      Args env m.type m.serId (clearBit m.flags 2) m.seq m.payload (annSize m.anns) m.anns :=
    ⟨_, by
      simp [prefixL, Gen.C06.sendInitSrc, execSeq, sendEnv, sumOver_len, clear_two,
        ↓(fun env => orElse_dict (sendCfg cfg z m.corr) env "p6" m.anns)]
      rfl, by simp [Args]⟩
  -- the compression step
  obtain ⟨env₂, h₂, a1, a4, a2, a3, a5, a0, a6⟩ : ∃ env,
    execSeq (sendCfg cfg z m.corr) ((prefixL.drop 6).take 1) F none env₁ w = .normal env w ∧
      Args env m.type m.serId (if isCompressed cfg m then setBit (clearBit m.flags 2) 2 else clearBit m.flags 2) m.seq
        (wirePayload cfg z m) (annSize m.anns) m.anns := by
    have i2 : ((100 : Int) < (m.payload.length : Int)) ↔ 100 < m.payload.length := by omega
    cases hc : isCompressed cfg m
    all_goals
      exact ⟨_, by
        simp only [isCompressed, compressThreshold, gt_iff_lt] at hc
        simp [prefixL, Gen.C06.sendInitSrc, execSeq, sendCfg, a5, a2, i2, hc, lor_two]
        rfl, by simp [Args, wirePayload, hc, a1, a4, a2, a3, a5, a0, a6]⟩
  -- `self.flags`, the total size, its comparison with MAX_MESSAGE_SIZE
  have i1 : ((cfg.maxSize : Int) < ((wirePayload cfg z m).length : Int) + (annSize m.anns : Int)) ↔
      cfg.maxSize < (wirePayload cfg z m).length + annSize m.anns := by omega
  simp only [execSeq_append, h₁, h₂]
  split <;> rename_i h
  · exact ⟨_, by
      simp [prefixL, Gen.C06.sendInitSrc, execSeq, sendCfg, a5, a2, a0, i1, gt_iff_lt.mp h]
      rfl⟩
  · obtain ⟨env₃, h₃, a1, a4, a2, a3, a5, a0, a6⟩ : ∃ env,
        execSeq (sendCfg cfg z m.corr) ((prefixL.drop 7).take 3) F none env₂ w = .normal env w ∧
        Args env m.type m.serId (if isCompressed cfg m then setBit (clearBit m.flags 2) 2 else clearBit m.flags 2) m.seq
          (wirePayload cfg z m) (annSize m.anns) m.anns :=
      ⟨_, by
        simp [prefixL, Gen.C06.sendInitSrc, execSeq, sendCfg, a5, a2, a0, i1, h]
        rfl, by simp [Args, a1, a4, a2, a3, a5, a0, a6]⟩
    -- the correlation id of the current context, if any, and its flag
    rw [h₃]
    cases hk : m.corr
    all_goals
      exact ⟨_, by
        simp [prefixL, Gen.C06.sendInitSrc, execSeq, sendCfg, a2, lor_64]
        rfl, by simp [headerFlags, FLAGS_COMPRESSED, FLAGS_CORR_ID, zeroCorr, hk, a1, a4, a2, a3, a5, a0, a6]⟩

/-! ### the whole constructor -/

theorem sendInit_gen (cfg : Wire.Cfg) (z : Zlib) (m : Msg) (hcorr : ∀ c, m.corr = some c → c.length = 16)
    (T : Stmt) (hT : TailOK (sendCfg cfg z m.corr) T) :
    toEncoded (runSendInit (sendCfg cfg z m.corr) (seqs prefixL T) m) = some (encExpected (encode cfg z m)) := by
  unfold runSendInit
  rw [exec_seqs]
  have hp := prefix_ok cfg z m (m.anns.length + 2) ⟨[], [], [], []⟩
  have hc16 : (m.corr.getD zeroCorr).length = 16 := by
    cases hk : m.corr with
    | none => simp [zeroCorr]
    | some c => simpa using hcorr c hk
  by_cases htl : (wirePayload cfg z m).length + annSize m.anns > cfg.maxSize
  · rw [if_pos htl] at hp
    obtain ⟨env', he⟩ := hp
    rw [he]
    simp [toEncoded, encode, htl, encExpected, encErrCls]
  · rw [if_neg htl] at hp
    obtain ⟨env', he, l1, l4, l2, l3, l5, l0, lc, l6⟩ := hp
    rw [he]
    simp only []
    rw [hT (m.anns.length + 2) none env' ⟨[], [], [], []⟩ m.type m.serId (headerFlags cfg m) m.seq (annSize m.anns)
      (wirePayload cfg z m) (m.corr.getD zeroCorr) m.anns (by omega) hc16 ⟨l1, l4, l2, l3, l5, l0, l6⟩ lc]
    simp only [tailExpected, encode, htl, hc16, if_false, ne_eq, not_true_eq_false]
    split
    · rfl
    · cases encodeAnns m.anns with
      | error e => rfl
      | ok ab => rfl

/-- **`SendingMessage.__init__`, as written now, is the model's `encode`** — for every message, configuration, zlib and
    16-byte correlation id: the same `.data`, or an exception of the class that belongs to the model's error kind -/
theorem sendInit_translated (cfg : Wire.Cfg) (z : Zlib) (m : Msg) (hcorr : ∀ c, m.corr = some c → c.length = 16) :
    toEncoded (runSendInit (sendCfg cfg z m.corr) Gen.C06.sendInitSrc m) = some (encExpected (encode cfg z m)) := by
  rw [src_shape, tail_shape, encLoop_shape]
  exact sendInit_gen cfg z m hcorr _ (tail_gen _ (fun e => .forEachItem "v5" "v1" e encBody) (enc_loop _))

/-- the transcribed constructor never leaves the fragment and never runs out of fuel: it ends with `.data` set or with an
    exception (of a class that `encErrCls` names) -/
theorem C06_source_send_outcomes (cfg : Wire.Cfg) (z : Zlib) (m : Msg) (hcorr : ∀ c, m.corr = some c → c.length = 16) :
    (toEncoded (runSendInit (sendCfg cfg z m.corr) Gen.C06.sendInitSrc m)).isSome := by
  rw [sendInit_translated cfg z m hcorr]; rfl

theorem encode_of_source_ok (cfg : Wire.Cfg) (z : Zlib) (m : Msg) (hcorr : ∀ c, m.corr = some c → c.length = 16) (bs : Bytes)
    (hsend : toEncoded (runSendInit (sendCfg cfg z m.corr) Gen.C06.sendInitSrc m) = some (.ok bs)) :
    encode cfg z m = .ok bs := by
  rw [sendInit_translated cfg z m hcorr] at hsend
  cases he : encode cfg z m with
  | error e => rw [he] at hsend; simp [encExpected] at hsend
  | ok b => rw [he] at hsend; simp [encExpected] at hsend; rw [hsend]

/-- **C06 sender limit, about the source as written now**: the transcribed `SendingMessage.__init__` raises ProtocolError
    when, and produces bytes only when not, wire payload + annotation area exceed MAX_MESSAGE_SIZE -/
theorem C06_source_sender_limit (cfg : Wire.Cfg) (z : Zlib) (m : Msg) (hcorr : ∀ c, m.corr = some c → c.length = 16) :
    ((wirePayload cfg z m).length + annSize m.anns > cfg.maxSize →
      toEncoded (runSendInit (sendCfg cfg z m.corr) Gen.C06.sendInitSrc m) = some (.error .protocolError)) ∧
    (∀ bs, toEncoded (runSendInit (sendCfg cfg z m.corr) Gen.C06.sendInitSrc m) = some (.ok bs) →
      (wirePayload cfg z m).length + annSize m.anns ≤ cfg.maxSize) := by
  constructor
  · intro h
    rw [sendInit_translated cfg z m hcorr, (C06.C06_sender_limit cfg z m).mpr h]
    rfl
  · intro bs hb
    have he := encode_of_source_ok cfg z m hcorr bs hb
    by_cases h : (wirePayload cfg z m).length + annSize m.anns > cfg.maxSize
    · rw [(C06.C06_sender_limit cfg z m).mpr h] at he; cases he
    · omega

/-- **C06 round trip, about the two transcriptions**: whatever the source's `SendingMessage.__init__` puts into `.data`,
    the source's `validate` / `ReceivingMessage.__init__` / `add_payload` (assembled as `recv_stub` calls them) read back as
    the same message, consuming exactly those bytes — for every message with distinct annotation keys, every configuration,
    every lawful zlib, every accepted-types list that admits the type and whatever follows on the stream -/
theorem C06_source_roundtrip (cfg : Wire.Cfg) (z : Zlib) (m : Msg) (bs rest : Bytes) (accepted : List Nat) (rcfg : PyIR.Cfg)
    (hm : rcfg.maxSize = cfg.maxSize) (hzr : rcfg.unzip = z.decompress)
    (hz : z.Lawful) (hnd : (keysOf m.anns).Nodup) (hcorr : ∀ c, m.corr = some c → c.length = 16)
    (hsend : toEncoded (runSendInit (sendCfg cfg z m.corr) Gen.C06.sendInitSrc m) = some (.ok bs))
    (hacc : accepted = [] ∨ m.type ∈ accepted) :
    C06Ast.recvStubSrc rcfg accepted (bs ++ rest) = some ⟨.ok (C06.decodedOf m), bs.length, rest⟩ := by
  have he := encode_of_source_ok cfg z m hcorr bs hsend
  obtain ⟨h1, h2, h3⟩ := C06.C06_roundtrip cfg z m bs rest accepted hz hnd he hacc
  rw [C06Ast.C06_source_recvStub rcfg cfg z hm hzr accepted (bs ++ rest)]
  congr 1
  cases hr : recvStub cfg z accepted (bs ++ rest) with
  | mk o r s =>
    rw [hr] at h1 h2 h3
    simp only at h1 h2 h3
    rw [h1, h2, h3]

/-- non-vacuity: a concrete run of the transcribed constructor (compression on, two annotations, a correlation id) -/
example :
    let z : Zlib := { compress := fun b => 9 :: b, decompress := fun b => some b.tail }
    let m : Msg := { type := 4, serId := 2, flags := 3, seq := 7, payload := [1, 2, 3],
                     anns := [([65, 66, 67, 68], [5, 6]), ([69, 70, 71, 72], [])], corr := some (List.replicate 16 7) }
    (match toEncoded (runSendInit (sendCfg ⟨true, 1000⟩ z m.corr) Gen.C06.sendInitSrc m) with
     | some (.ok b) => b == ([80, 89, 82, 79, 1, 246, 4, 2, 0, 65, 0, 7, 0, 0, 0, 3, 0, 0, 0, 18] ++ List.replicate 16 7 ++
         [0, 0, 77, 197] ++ [65, 66, 67, 68, 0, 0, 0, 2, 5, 6, 69, 70, 71, 72, 0, 0, 0, 0] ++ [1, 2, 3])
     | _ => false) = true := by
  intro z m
  rw [sendInit_translated ⟨true, 1000⟩ z m (by intro c hc; cases hc; rfl)]
  decide +kernel

end Pyro.C06EncAst
