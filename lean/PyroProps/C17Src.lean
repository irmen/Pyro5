/-
  C17Src.lean — the back-off of `socketutil`, and what C17 implies beyond exact transfer.
  (1) the back-off generator `__retrydelays`, translated from the source on every run (harness/props/c17_tr.py →
      `Pyro.Gen.C17.Src`), yields exactly the documented sequence, for every k, and is never exhausted;
  (2) the transfer loops with the sleeps counted (`PyroModel/SockIODelays.lean`) are the loops of `SockIO.lean` (erasure),
      and sleep exactly once per retryable error they consume;
  (3) further consequences of the property: a non-blocking `send_data` over partial writes and
      retryable errors transmits the whole buffer (model and transcription of the source).
-/
import PyroModel.SockIODelays
import PyroModel.Gen.C17
import PyroProps.C17
import PyroProps.C17Ast

namespace Pyro.C17Src

open Pyro Pyro.SockIO
open Pyro.Gen.C17.Src

/-! ### (1) `__retrydelays` -/

/-- the literals of the generator are multiples of 0.1 ms and one of them is not a multiple of anything coarser -/
theorem C17_gen_delay_unit : delayDen = 10000 := by decide

theorem loopNth_succ {σ : Type} (body : σ → List Nat × σ) (f : Nat) (s : σ) (k : Nat) :
    loopNth body (f + 1) s k
      = if k < (body s).1.length then (body s).1[k]? else loopNth body f (body s).2 (k - (body s).1.length) := rfl

/-- one pass through the loop body as written now: yields `d`, goes on with `d + 0.1 s` -/
theorem body_eq (d : Nat) : retryDelaysBody { v0 := d } = ([d], { v0 := d + 1000 }) := rfl

/-- the loop of the generator as written now: started with `d`, its n-th value is `d + n * 0.1 s` -/
theorem loop_nth : ∀ (n d : Nat), loopNth retryDelaysBody (n + 1) { v0 := d } n = some (d + 1000 * n) := by
  intro n
  induction n with
  | zero => intro d; rw [loopNth_succ, body_eq]; rfl
  | succ n ih =>
    intro d
    rw [loopNth_succ, body_eq]
    simp only [List.length_singleton]
    rw [if_neg (by omega), Nat.add_sub_cancel, ih]
    congr 1
    omega

theorem retryDelay_pos : ∀ k, 0 < retryDelay k
  | 0 => by decide
  | 1 => by decide
  | 2 => by decide
  | k + 3 => by unfold retryDelay; rw [if_neg (by omega)]; omega

/-- **`__retrydelays`, as written now, is the documented back-off sequence**: for every k the k-th `next(delays)` yields a
    value (the generator is never exhausted, so a retry never dies of StopIteration) and that value is `retryDelay k` -/
theorem C17_retrydelays_translated (k : Nat) :
    genNth retryDelaysPre retryDelaysInit retryDelaysBody retryDelaysLoops k = some (retryDelay k) := by
  match k with
  | 0 => decide
  | 1 => decide
  | 2 => decide
  | k + 3 =>
    have hp : retryDelaysPre.length = 3 := by decide
    have hl : retryDelaysLoops = true := by decide
    have hi : retryDelaysInit = { v0 := 1000 } := by decide
    unfold genNth
    rw [hp, if_neg (by omega), hl, if_pos rfl, hi]
    have : k + 3 - 3 = k := by omega
    rw [this, loop_nth k 1000]
    unfold retryDelay
    rw [if_neg (by omega)]
    congr 1
    omega

/-- the back-off of the source never gives up: every `next(delays)` yields -/
theorem C17_source_backoff_never_exhausted (k : Nat) :
    (genNth retryDelaysPre retryDelaysInit retryDelaysBody retryDelaysLoops k).isSome := by
  rw [C17_retrydelays_translated]; rfl

/-- the k-th delay of the source: 0.1 ms, 1 ms, 10 ms, then (k-2)·100 ms — positive and never shorter than the one before -/
theorem C17_source_backoff_sequence (k : Nat) :
    ∃ d d', genNth retryDelaysPre retryDelaysInit retryDelaysBody retryDelaysLoops k = some d ∧
      genNth retryDelaysPre retryDelaysInit retryDelaysBody retryDelaysLoops (k + 1) = some d' ∧
      0 < d ∧ d ≤ d' ∧ (3 ≤ k → d = 1000 * (k - 2)) := by
  refine ⟨_, _, C17_retrydelays_translated k, C17_retrydelays_translated (k + 1), ?_, ?_, ?_⟩
  · exact retryDelay_pos k
  · match k with
    | 0 => decide
    | 1 => decide
    | 2 => decide
    | k + 3 =>
      unfold retryDelay
      rw [if_neg (by omega), if_neg (by omega)]
      omega
  · intro h
    unfold retryDelay
    rw [if_neg (by omega)]

/-! ### (2) the loops with their sleeps -/

theorem recvLoopS_fst (size : Nat) (script : List Ev) (data stream : Bytes) (n : Nat) :
    (recvLoopS size data stream n script).1 = recvLoop size data stream script := by
  fun_induction recvLoopS size data stream n script
  case case1 => rfl
  case case2 h _ _ _ hc => simp only [recvLoop, h, if_true]; exact (if_pos hc).symm
  case case3 h _ _ _ hc ih => simp only [recvLoop, h, if_true]; exact ih.trans (if_neg hc).symm
  all_goals simp only [recvLoop, *, if_true, if_false]

theorem recvWaitallS_fst (size : Nat) (stream : Bytes) (script : List Ev) (n : Nat) :
    (recvWaitallS size stream n script).1 = recvWaitall size stream script := by
  fun_induction recvWaitallS size stream n script
  case case2 hc => simp only [recvWaitall]; exact (if_pos hc).symm
  case case3 hc => simp only [recvWaitall, recvLoopS_fst]; exact (if_neg hc).symm
  all_goals simp only [recvWaitall, *]

theorem sendLoopS_fst (script : List Ev) (data acc : Bytes) (n : Nat) :
    (sendLoopS data acc n script).1 = sendLoop data acc script := by
  fun_induction sendLoopS data acc n script
  case case3 ih => simp only [sendLoop, *, if_false, Bool.false_eq_true]; rfl
  all_goals simp only [sendLoop, *, if_true, if_false, Bool.false_eq_true]

/-- **erasure**: counting the sleeps changes nothing — the instrumented functions compute what `receive` / `send` compute -/
theorem C17_sleeps_erase_recv (waitall : Bool) (size : Nat) (stream : Bytes) (script : List Ev) :
    (receiveS waitall size stream script).1 = receive waitall size stream script := by
  unfold receiveS receive
  cases waitall with
  | true => simp only [if_true]; exact recvWaitallS_fst size stream script 0
  | false => simp only [Bool.false_eq_true, if_false]; exact recvLoopS_fst size script [] stream 0

theorem C17_sleeps_erase_send (blocking : Bool) (data : Bytes) (script : List Ev) :
    (sendS blocking data script).1 = send blocking data script := by
  unfold sendS send
  cases blocking with
  | true => simp
  | false => simp only [Bool.false_eq_true, if_false]; exact sendLoopS_fst script data [] 0

/-- what "sleeps exactly once per retryable error it consumed" means for an instrumented run that started with `n` sleeps -/
def SleepsExact (script : List Ev) (n : Nat) (left : List Ev) (n' : Nat) : Prop :=
  ∃ used, script = used ++ left ∧ n' = n + used.countP Ev.isRetry

theorem SleepsExact.cons {ev : Ev} {rest left : List Ev} {n n' : Nat} (b : Nat)
    (hb : b = if ev.isRetry then 1 else 0) (h : SleepsExact rest (n + b) left n') : SleepsExact (ev :: rest) n left n' := by
  obtain ⟨used, h1, h2⟩ := h
  refine ⟨ev :: used, by rw [h1]; rfl, ?_⟩
  rw [h2, hb, List.countP_cons]
  cases ev.isRetry <;> simp <;> omega

theorem SleepsExact.here (ev : Ev) (rest : List Ev) (n : Nat) (h : ev.isRetry = false) :
    SleepsExact (ev :: rest) n rest n :=
  ⟨[ev], rfl, by simp [h]⟩

theorem SleepsExact.none (script : List Ev) (n : Nat) : SleepsExact script n script n := ⟨[], rfl, by simp⟩

theorem recvFinish_script (size : Nat) (data stream : Bytes) (script : List Ev) :
    (recvFinish size data stream script).2.2 = script := by
  unfold recvFinish
  split <;> rfl

theorem recvLoopS_sleeps (size : Nat) (script : List Ev) (data stream : Bytes) (n : Nat) :
    SleepsExact script n (recvLoopS size data stream n script).1.2.2 (recvLoopS size data stream n script).2 := by
  fun_induction recvLoopS size data stream n script
  case case1 =>
    split
    · exact SleepsExact.none _ _
    · rw [recvFinish_script]; exact SleepsExact.none _ _
  case case9 => rw [recvFinish_script]; exact SleepsExact.none _ _
  case case3 ih => exact SleepsExact.cons 0 rfl ih
  case case4 ih | case7 ih => exact SleepsExact.cons 1 rfl ih
  all_goals exact SleepsExact.here _ _ _ rfl

theorem recvWaitallS_sleeps (size : Nat) (stream : Bytes) (script : List Ev) (n : Nat) :
    SleepsExact script n (recvWaitallS size stream n script).1.2.2 (recvWaitallS size stream n script).2 := by
  fun_induction recvWaitallS size stream n script
  case case1 => exact SleepsExact.none _ _
  case case3 => exact SleepsExact.cons 0 rfl (recvLoopS_sleeps ..)
  case case4 ih | case7 ih => exact SleepsExact.cons 1 rfl ih
  all_goals exact SleepsExact.here _ _ _ rfl

theorem sendLoopS_sleeps (script : List Ev) (data acc : Bytes) (n : Nat) :
    SleepsExact script n (sendLoopS data acc n script).1.2.2 (sendLoopS data acc n script).2 := by
  fun_induction sendLoopS data acc n script
  case case1 => split <;> exact SleepsExact.none _ _
  case case2 => exact SleepsExact.none _ _
  case case3 ih => exact SleepsExact.cons 0 rfl ih
  case case4 ih | case7 ih => exact SleepsExact.cons 1 rfl ih
  all_goals exact SleepsExact.here _ _ _ rfl

/-- **C17_recv_sleeps_exact.**  `receive_data` sleeps exactly once for every retryable error it meets, and never otherwise:
    the script splits into the events the call consumed and the ones it left, and the number of
    `time.sleep(next(delays))` is the number of retryable events among the consumed ones (all histories, both paths) -/
theorem C17_recv_sleeps_exact (waitall : Bool) (size : Nat) (stream : Bytes) (script : List Ev) :
    ∃ used, script = used ++ (receive waitall size stream script).2.2 ∧
      (receiveS waitall size stream script).2 = used.countP Ev.isRetry := by
  have e := C17_sleeps_erase_recv waitall size stream script
  rw [← e]
  unfold receiveS
  cases waitall with
  | true =>
    simp only [if_true]
    obtain ⟨u, h1, h2⟩ := recvWaitallS_sleeps size stream script 0
    exact ⟨u, h1, by simpa using h2⟩
  | false =>
    simp only [Bool.false_eq_true, if_false]
    obtain ⟨u, h1, h2⟩ := recvLoopS_sleeps size script [] stream 0
    exact ⟨u, h1, by simpa using h2⟩

/-- **C17_send_sleeps_exact.**  The send loop of a non-blocking socket sleeps exactly once per retryable error it consumes -/
theorem C17_send_sleeps_exact (data : Bytes) (script : List Ev) :
    ∃ used, script = used ++ (send false data script).2.2 ∧
      (sendS false data script).2 = used.countP Ev.isRetry := by
  have e := C17_sleeps_erase_send false data script
  rw [← e]
  unfold sendS
  simp only [Bool.false_eq_true, if_false]
  obtain ⟨u, h1, h2⟩ := sendLoopS_sleeps script data [] 0
  exact ⟨u, h1, by simpa using h2⟩

/-- the delays slept by a call that slept n times, read off the source's generator: the i-th is the i-th documented delay -/
theorem C17_source_sleeps (n i : Nat) (h : i < n) :
    (sleepsOf n)[i]? = genNth retryDelaysPre retryDelaysInit retryDelaysBody retryDelaysLoops i := by
  rw [C17_retrydelays_translated]
  simp [sleepsOf, h]

/-! ### (3) further consequences -/

/-- **C17_send_nonblocking_complete.**  On a socket that is not in blocking mode (`gettimeout()` is not None — 0.0 included),
    a script of partial writes (≥ 1 byte each) and retryable errors with enough writes gets the WHOLE buffer to the peer,
    exactly once and in order, and `send_data` returns: would-block / try-again never turn into a failure or a short send -/
theorem C17_send_nonblocking_complete (data : Bytes) (script : List Ev)
    (hb : Pyro.C17.Benign script) (hd : data.length ≤ Pyro.C17.deliveries script) :
    (send false data script).1 = .ok ∧ (send false data script).2.1 = data := by
  have h1 : (send false data script).1 = .ok := by
    simp only [send, Bool.false_eq_true, if_false]
    exact Pyro.C17.C17_send_total script data [] hb hd
  exact ⟨h1, (Pyro.C17.C17_send false data script).2 h1⟩

/-- the same about `send_data` as it is written now (through `send_translated`) -/
theorem C17_source_send_nonblocking_complete (cfg : PyIR.Cfg) (hsub : cfg.isSub = Gen.C17.isSub) (hnb : cfg.blocking = false)
    (data : Bytes) (script : List Ev) (hb : Pyro.C17.Benign script) (hd : data.length ≤ Pyro.C17.deliveries script) :
    ∃ out, PyIR.toSend (PyIR.runSend cfg Gen.C17.sendData data script) = some out ∧ out.1 = .ok ∧ out.2.1 = data := by
  refine ⟨_, Pyro.C17Ast.send_translated cfg hsub data script, ?_⟩
  rw [hnb]
  exact C17_send_nonblocking_complete data script hb hd

/-- blocking mode: one `sendall`; whatever happens, nothing is sent twice and an error after a partial write raises -/
theorem C17_send_blocking_one_call (data : Bytes) (script : List Ev) :
    (send true data script).2.2 = script.drop 1 := by
  unfold send
  simp only [if_true]
  cases script with
  | nil => rfl
  | cons ev rest => cases ev <;> rfl

/-! ### non-vacuity -/

example : (List.range 6).map (genNth retryDelaysPre retryDelaysInit retryDelaysBody retryDelaysLoops)
    = [some 1, some 10, some 100, some 1000, some 2000, some 3000] := by decide
example : receiveS true 5 [1,2,3,4,5,6,7] [.retryable, .deliver 3, .partialFail 0 true, .retryable, .deliver 2, .deliver 1]
    = ((.ok [1,2,3,4,5], [6,7], [.deliver 1]), 3) := by decide
example : sendS false [1,2,3,4] [.deliver 1, .retryable, .deliver 0, .retryable, .deliver 7, .retryable]
    = ((.ok, [1,2,3,4], [.retryable]), 2) := by decide
example : Pyro.C17.Benign [.deliver 1, .retryable, .deliver 2, .partialFail 3 true, .deliver 9] ∧
    ([1,2,3] : Bytes).length ≤ Pyro.C17.deliveries [.deliver 1, .retryable, .deliver 2, .partialFail 3 true, .deliver 9] := by
  simp [Pyro.C17.Benign, Pyro.C17.deliveries]

end Pyro.C17Src
