/-
  C09 — the transcription of `Daemon._getInstance` (PyroModel/Gen/C09Src.lean, regenerated from the python ast
  of the current source on every run by harness/props/c09_tr.py) computes exactly what the hand model
  `Pyro.Inst.getInstance` computes, for every class table, connection, class, behaviour of user code and
  every state (`⟨.isNone, .isNone⟩` = `Pyro.C09.fixed`, the `is None` tests).  This file does not depend on PyroProps/C09.lean,
  so that it is checked (and reported) on its own; the property theorems restated about the transcription are in
  PyroProps/C09Src.lean.
-/
import PyroModel.Instances
import PyroModel.InstancesSrc
import PyroModel.Gen.C09Src
import PyroProofs.Instances

namespace Pyro.C09

open Pyro Pyro.Inst Pyro.Inst.Src Pyro.Gen.C09Src

/-- the translator understood the whole function (otherwise the generated transcription is `stuck`) -/
theorem C09_src_translated_flag : Pyro.Gen.C09Src.translated = true := by decide

/-- The finished run that shows the model's result `p` of a call in which user code does `o`, entered with lock flag `h`
    and the ghost counters at 0 (a new object is an instance of the class iff `o` is `ok`). -/
def ofRes (h : Bool) (o : Outcome) (p : State × Res) : R Val :=
  match p.2 with
  | .served i created called =>
    .ok (if created then .obj i (o matches .ok ..) else .stored i) ⟨p.1, h, called.toNat, created.toNat⟩
  | .typeError => .exc .typeError ⟨p.1, h, 1, 0⟩
  | .raised called => .exc .user ⟨p.1, h, called.toNat, 0⟩
  | .daemonError => .exc .daemonError ⟨p.1, h, 0, 0⟩
  | .done => .stuck

theorem toRes_ofRes (o : Outcome) (p : State × Res) (h : p.2 ≠ .done) : toRes (ofRes false o p) = some p := by
  obtain ⟨st, res⟩ := p
  cases res with
  | served i created called => cases created <;> cases called <;> rfl
  | raised called => cases called <;> rfl
  | done => exact absurd rfl h
  | _ => rfl

theorem ofRes_cases (h : Bool) (o : Outcome) (p : State × Res) (hp : p.2 ≠ .done) :
    ∃ s', ((∃ v, ofRes h o p = .ok v s') ∨ ∃ e, ofRes h o p = .exc e s') ∧
      s'.held = h ∧ s'.creatorCalls ≤ 1 ∧ s'.made ≤ 1 := by
  obtain ⟨st, res⟩ := p
  cases res with
  | served i created called => exact ⟨_, .inl ⟨_, rfl⟩, rfl, Bool.toNat_le _, Bool.toNat_le _⟩
  | typeError => exact ⟨_, .inr ⟨_, rfl⟩, rfl, Nat.le_refl _, Nat.zero_le _⟩
  | raised called => exact ⟨_, .inr ⟨_, rfl⟩, rfl, Bool.toNat_le _, Nat.zero_le _⟩
  | daemonError => exact ⟨_, .inr ⟨_, rfl⟩, rfl, Nat.zero_le _, Nat.zero_le _⟩
  | done => exact absurd rfl hp

theorem tryExcept_rethrow {α : Type} (body : M α) (all : Bool) :
    tryExcept body all (fun e => throw e) = body := by
  funext env s
  unfold tryExcept
  cases body env s <;> simp [Src.throw]

/-- `getInstanceSrc_f0` transcribes the nested helper `createInstance(clazz, creator)` of `_getInstance` -/
theorem create_run (k : Nat) (cr : Creator) (env : Env) (st : State) (h : Bool) :
    getInstanceSrc_f0 (.cls k) (creatorVal cr) env ⟨st, h, 0, 0⟩ = ofRes h env.o (createIn cr none env.o st) := by
  rw [getInstanceSrc_f0, tryExcept_rethrow]
  obtain ⟨spec, o, ub⟩ := env
  cases o <;> cases cr <;> rfl

/-- `instance = tbl.get(clazz)`, and if it `is None`: create one, `tbl[clazz] = instance`; then `return instance` -/
def findSrc (tbl clazz creator : Val) : M Val :=
  Src.bind (tabGet tbl clazz) fun v =>
  Src.cond (isNone v) (
    Src.bind (getInstanceSrc_f0 clazz creator) fun v =>
    Src.bind (tabSet tbl clazz v) fun _ =>
    Src.pure v) (
    Src.pure v)

/-- `hget`, `hset`: key `.cls k` of table `t` is slot `sl` of the model's table (the daemon's table under the lock, a
    connection's table) -/
theorem findSrc_run {t : Val} {sl : Slot} {k : Nat} {env : Env} {st : State} {h : Bool} (cr : Creator)
    (hget : tabGet t (.cls k) env ⟨st, h, 0, 0⟩ = .ok (ofOpt (st.tab sl)) ⟨st, h, 0, 0⟩)
    (hset : ∀ i b st' c m, tabSet t (.cls k) (.obj i b) env ⟨st', h, c, m⟩ = .ok () (store ⟨st', h, c, m⟩ sl i)) :
    findSrc t (.cls k) (creatorVal cr) env ⟨st, h, 0, 0⟩ = ofRes h env.o (findOrCreate .isNone cr sl env.o st) := by
  simp only [findSrc, Src.bind, hget, findOrCreate]
  cases st.tab sl with
  | some i => rfl
  | none =>
    simp only [ofOpt, isNone, Src.cond, Src.bind, Src.pure, if_true, create_run, createIn]
    cases createInstance cr env.o st.next with
    | inst i called => simp only [ofRes, if_true, hset]; rfl
    | typeError => rfl
    | raised called => rfl

theorem withLock_ofRes {body : M Val} {env : Env} {st : State} {o : Outcome} {p : State × Res}
    (h : body env ⟨st, true, 0, 0⟩ = ofRes true o p) :
    withLock .lock body env ⟨st, false, 0, 0⟩ = ofRes false o p := by
  obtain ⟨st', res⟩ := p
  simp only [withLock, h]
  cases res <;> rfl

theorem getInstanceSrc_run (spec : Nat → ClassSpec) (conn cls : Nat) (o : Outcome) (ub : Bool) (s : State) :
    getInstanceSrc .self (.cls cls) (.conn conn) ⟨spec, o, ub⟩ (start s) =
      ofRes false o (getInstance ⟨.isNone, .isNone⟩ (spec cls) conn cls o s) := by
  simp only [getInstanceSrc, Src.bind, instancing, getInstance]
  cases (spec cls).mode with
  | single =>
    exact withLock_ofRes (findSrc_run (t := .dtab) (sl := .single cls) (h := true) (spec cls).creator rfl fun _ _ _ _ _ => rfl)
  | session =>
    exact findSrc_run (t := .ctab conn) (sl := .sess conn cls) (h := false) (spec cls).creator rfl fun _ _ _ _ _ => rfl
  | percall => exact create_run cls (spec cls).creator ⟨spec, o, ub⟩ s false
  | invalid => rfl

/-- **C09_getInstance_translated.**  For all inputs and states: running the transcription of the CURRENT source of
    `_getInstance` (all three modes, the invalid-mode branch, the creation helper with creator / plain constructor /
    `TypeError` on a foreign result, exceptions of user code whether `Exception`s or not) yields exactly the state
    and the observation of the hand model with the `is None` tests.  As `toRes` is `none` for `stuck`, this also says:
    no operation is applied to a value it is not defined for, the daemon's table is never touched without
    `create_single_instance_lock`, the lock is never taken twice and is released when the call ends. -/
theorem C09_getInstance_translated (spec : Nat → ClassSpec) (conn cls : Nat) (o : Outcome) (ub : Bool) (s : State) :
    runCall getInstanceSrc spec conn cls o ub s = some (getInstance ⟨.isNone, .isNone⟩ (spec cls) conn cls o s) := by
  rw [runCall, getInstanceSrc_run]
  exact toRes_ofRes o _ getInstance_ne_done

/-- one step of a history: the transcription where the model has `getInstance` -/
theorem stepEvSrc_eq (spec : Nat → ClassSpec) (ub : Bool) (s : State) (e : Event) :
    stepEvSrc getInstanceSrc spec ub s e = some (stepEv ⟨.isNone, .isNone⟩ spec s e) := by
  cases e with
  | call c k o => exact C09_getInstance_translated spec c k o ub s
  | openConn c k => rfl
  | close c => rfl

/-- **C09_runHist_translated.**  Every history of connections opening, calling and closing, every call made by the
    transcription of the current source: never stuck, and final state and all observations are the model's. -/
theorem C09_runHist_translated (spec : Nat → ClassSpec) (ub : Bool) :
    ∀ (h : List Event) (s : State), runHistSrc getInstanceSrc spec ub s h = some (runHist ⟨.isNone, .isNone⟩ spec s h) := by
  intro h
  induction h with
  | nil => intro s; rfl
  | cons e es ih =>
    intro s
    simp only [runHistSrc, stepEvSrc_eq, ih, runHist]

/-- **C09_source_lock.**  For all inputs: the run of the transcription is not stuck — in particular every access of
    `self._pyroInstances` happened while `create_single_instance_lock` was held and the lock was not taken twice —
    and when the call ends, normally or with an exception, the lock is released. -/
theorem C09_source_lock (spec : Nat → ClassSpec) (conn cls : Nat) (o : Outcome) (ub : Bool) (s : State) :
    (∃ v s', getInstanceSrc .self (.cls cls) (.conn conn) ⟨spec, o, ub⟩ (start s) = .ok v s' ∧ s'.held = false) ∨
    (∃ e s', getInstanceSrc .self (.cls cls) (.conn conn) ⟨spec, o, ub⟩ (start s) = .exc e s' ∧ s'.held = false) := by
  rw [getInstanceSrc_run]
  obtain ⟨s', hr, hl, _⟩ := ofRes_cases false o _ getInstance_ne_done
  exact hr.imp (fun ⟨v, h⟩ => ⟨v, s', h, hl⟩) fun ⟨e, h⟩ => ⟨e, s', h, hl⟩

/-- the kit really refuses an unlocked access of the daemon's table, a second acquisition of the lock, and a foreign
    object put into a table (non-vacuity of "not stuck") -/
example (env : Env) (s : State) : toRes (bind (tabGet .dtab (.cls 0)) (fun v => Src.pure v) env (start s)) = none := rfl
example (env : Env) (s : State) : toRes (withLock .lock (withLock .lock (Src.pure Val.none)) env (start s)) = none := rfl
example (env : Env) (s : State) : toRes (bind (tabSet (.ctab 0) (.cls 0) (.foreign true 0)) (fun _ => Src.pure Val.none) env (start s)) = none := rfl

/-- **C09_source_creator_count.**  Exactly once, counted: in one call of the transcription the creator is evaluated
    at most once and user code hands out at most one object; when the count is positive is `C09_source_creator_once`
    (iff the class has a creator `if creator:` sees and no instance was found). -/
theorem C09_source_creator_count (spec : Nat → ClassSpec) (conn cls : Nat) (o : Outcome) (ub : Bool) (s : State) :
    ∀ r, getInstanceSrc .self (.cls cls) (.conn conn) ⟨spec, o, ub⟩ (start s) = r →
      match r with
      | .ok _ s' => s'.creatorCalls ≤ 1 ∧ s'.made ≤ 1
      | .exc _ s' => s'.creatorCalls ≤ 1 ∧ s'.made ≤ 1
      | .stuck => False := by
  rintro _ rfl
  rw [getInstanceSrc_run]
  obtain ⟨s', hr, _, hc⟩ := ofRes_cases false o _ getInstance_ne_done
  rcases hr with ⟨v, h⟩ | ⟨e, h⟩
  · rw [h]; exact hc
  · rw [h]; exact hc

end Pyro.C09
