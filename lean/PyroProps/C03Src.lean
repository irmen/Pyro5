/-
  C03Src.lean — the TRANSCRIPTION of the source (PyroModel/Gen/C03Src.lean, regenerated from Pyro5/client.py on every run by
  harness/props/c03_tr.py) computes what the hand-written model computes, for all inputs; the main theorems of C03 restated
  about the transcription.
-/
import PyroModel.Call
import PyroModel.CallOps
import PyroModel.Gen.C03Src
import PyroProofs.Call
import PyroProps.C03

namespace Pyro.C03
open Pyro Pyro.Call Pyro.CallOps Pyro.Gen.C03Src

/-- agreement of two results: same outcome; and identical worlds / remaining scripts unless the (artificial) outcome is
    `scriptEnd` (the fault script ran out — the model reports the state at a different point then) -/
def Agree (a b : Outcome × World × List Ev) : Prop := a.1 = b.1 ∧ (b.1 ≠ .scriptEnd → a = b)

theorem Agree.refl (a : Outcome × World × List Ev) : Agree a a := ⟨rfl, fun _ => rfl⟩

theorem and_mask (n : Nat) : n &&& 65535 = n % 65536 := Nat.and_two_pow_sub_one_eq_mod n 16

/-- `connSend` reads nothing of the request's flags but FLAGS_ONEWAY -/
theorem connSend_flags (k : Kind) (tok : Nat) {x y : Nat} (h : ((x &&& 4) != 0) = ((y &&& 4) != 0)) (q : Nat) :
    connSend k tok (mkRequest 4 x q) = connSend k tok (mkRequest 4 y q) := by
  funext st
  simp only [connSend, mkRequest, h]
  rfl

/-- the blob variant of the request differs from the plain one in a flag bit that nothing on the way reads -/
theorem pyroInvokeSrc_blob (blob raw : Bool) (k : Kind) (tok : Nat) :
    pyroInvokeSrc blob raw k tok = pyroInvokeSrc false raw k tok := by
  cases blob
  case false => rfl
  have h : (((if inOnewaySet k then (flagsParam k ||| 32) ||| 4 else flagsParam k ||| 32) &&& 4) != 0)
      = (((if inOnewaySet k then flagsParam k ||| 4 else flagsParam k) &&& 4) != 0) := by cases k <;> rfl
  simp only [pyroInvokeSrc, blobBadArgs, if_true, Bool.false_eq_true, if_false, connSend_flags k tok h, h]

theorem flags_oneway (k : Kind) : (((if inOnewaySet k then flagsParam k ||| 4 else flagsParam k) &&& 4) != 0) = k.isOneway := by
  cases k <;> rfl

section
attribute [local simp] Agree tryExcept CallOps.bind connSend mkRequest flags_oneway ret raise release recvStub msgType readSeq
  delivered serializerMismatch isStreamReply streamRefused World.sent reply seqMod

/-- on a live connection the plain variant of the transcription, whatever the transport still holds (`p`, `l`), does what
    `invokeOn real` does -/
theorem invokeOn_translated (raw : Bool) (k : Kind) (tok : Nat) (W : World) (c : Conn) (s : List Ev) (h : W.pc = .live c)
    (p : Pend) (l : List Msg) :
    Agree (run (pyroInvokeSrc false raw k tok) ⟨W, s, p, l, W.seq⟩) (invokeOn real k tok W c s) := by
  -- only the source side is unfolded, up to the `try`; the model side stays folded for `invokeOn_cases`
  generalize hsrc : run (pyroInvokeSrc false raw k tok) ⟨W, s, p, l, W.seq⟩ = src
  simp only [run, pyroInvokeSrc, Bool.false_eq_true, if_false, flags_oneway, checkOwner, readConnIsNone, CallOps.bind, pure', h,
    readSeq, writeSeq, and_mask] at hsrc
  subst hsrc
  apply invokeOn_cases (P := fun r => Agree _ r)
  case dead => intro hd; simp [hd]
  case scriptEnd => intro hd hs; simp [hd, hs]
  case unsent => intro ev s' hd hs hr; simp [hd, hs, hr]
  case oneway => intro ev s' hd hs hr hk; simp [hd, hs, hr, hk]
  case accepted =>
    intro ev s' m rest hd hs hr hk d hq hm hms
    simp only [d, reply, seqMod] at hq hms
    simp [hd, hs, hr, hk, hq, hm, hms, d]
  case rejected =>
    intro ev s' m rest hd hs hr hk hq hm
    simp only [reply, seqMod] at hq hm
    cases hh : m.hs
    · simp only [hh, Bool.false_eq_true, false_or] at hm
      simp [hd, hs, hr, hk, hq, hh, hm]
    · simp [hd, hs, hr, hk, hq, hh]
  case raised =>
    intro ev s' e hd hs hr hk hq he
    simp only [reply, seqMod] at hq he
    cases hp : (deliver ev W.hist (hsMsg W.seq) [⟨false, (W.seq + 1) % 65536, k, tok, W.sends + 1⟩]).pend <;> rw [hp] at he
    case block => cases he
    all_goals
      cases he
      simp [hd, hs, hr, hk, hq, hp]
end

theorem readConnIsNone_eq (st : PSt) : readConnIsNone st = (.ok (!st.W.pc.isLive), st) := by
  unfold readConnIsNone; cases st.W.pc <;> rfl

/-- **C03_pyroInvoke_translated.**  For every payload mode (blob arguments or not, wire-level response mode or not), call kind,
    token, world and fault script: running the transcription of `Proxy._pyroInvoke` (helpers inlined) over the operations of
    CallOps gives the outcome, world and remaining script of the hand model `Call.invoke real`. -/
theorem C03_pyroInvoke_translated (blob raw : Bool) (k : Kind) (tok : Nat) (W : World) (s : List Ev) :
    Agree (invokeSrc blob raw k tok W s) (invoke real k tok W s) := by
  unfold invokeSrc start
  rw [pyroInvokeSrc_blob blob]
  cases hl : W.pc.isLive
  case true =>
    match hpc : W.pc with
    | .live c => simpa only [invoke, hpc] using invokeOn_translated raw k tok W c s hpc .block []
    | .fresh | .idle => rw [hpc] at hl; cases hl
  case false =>
    have hf := connect_facts W s
    rw [invoke_of_not_live real k tok hl]
    rcases hc : connect W s with ⟨r, W', s'⟩
    rw [hc] at hf
    simp only [run, pyroInvokeSrc, checkOwner, readConnIsNone_eq, CallOps.bind, pure', hl, Bool.not_false, if_true, createConnection, hc]
    cases r with
    | err o => cases o <;> exact Agree.refl _
    | ok c =>
      obtain ⟨hpc, _, _⟩ := hf.ok c rfl
      have := invokeOn_translated raw k tok W' c s' hpc .block []
      rw [hf.seq] at this
      simp only at hpc
      simpa only [run, pyroInvokeSrc, checkOwner, readConnIsNone_eq, CallOps.bind, pure', hpc, PConn.isLive, Bool.not_true,
        Bool.false_eq_true, if_false] using this

/-! ### the whole call with the single attempt taken from the transcription -/

theorem retryLoopG_model (k : Kind) (tok : Nat) (n : Nat) : ∀ W s, retryLoopG (invoke real) k tok n W s = retryLoop real k tok n W s := by
  induction n with
  | zero => intro W s; rfl
  | succ n ih =>
    intro W s
    simp only [retryLoopG, retryLoop, ih]
    rfl

theorem callG_model (retries : Nat) (k : Kind) (tok : Nat) (W : World) (s : List Ev) :
    callG (invoke real) retries k tok W s = call real retries k tok W s := by
  simp only [callG, call, bodyG, body, retryLoopG_model]
  rfl

theorem retryLoopG_agree {i1 i2 : Inv} (h : ∀ k t W s, Agree (i1 k t W s) (i2 k t W s)) (k : Kind) (tok : Nat) (n : Nat) :
    ∀ W s, Agree (retryLoopG i1 k tok n W s) (retryLoopG i2 k tok n W s) := by
  induction n with
  | zero => intro W s; exact h k tok W s
  | succ n ih =>
    intro W s
    obtain ⟨ho, he⟩ := h k tok W s
    simp only [retryLoopG]
    generalize i1 k tok W s = r1, i2 k tok W s = r2 at ho he ⊢
    obtain ⟨o, W', s'⟩ := r2
    cases o with
    | scriptEnd =>
      obtain ⟨o1, W1, s1⟩ := r1
      cases ho
      exact ⟨rfl, fun hne => absurd rfl hne⟩
    | failed e =>
      rw [he (by simp)]
      simp only
      split
      · exact ih _ _
      · exact Agree.refl _
    | _ =>
      rw [he (by simp)]
      exact Agree.refl _

theorem callG_agree {i1 i2 : Inv} (h : ∀ k t W s, Agree (i1 k t W s) (i2 k t W s)) (retries : Nat) (k : Kind) (tok : Nat)
    (W : World) (s : List Ev) : Agree (callG i1 retries k tok W s) (callG i2 retries k tok W s) := by
  have hb : ∀ W s, Agree (bodyG i1 retries k tok W s) (bodyG i2 retries k tok W s) := by
    intro W s
    unfold bodyG
    split
    · exact retryLoopG_agree h k tok retries W s
    · exact h k tok W s
  unfold callG
  cases W.pc with
  | live c => exact hb W s
  | idle =>
    simp only
    split
    · exact Agree.refl _
    · exact hb W s
  | fresh =>
    simp only
    split
    · exact Agree.refl _
    · split
      · rcases connect W s with ⟨c | o, W', s'⟩
        · exact hb W' s'
        · exact Agree.refl _
      · exact hb W s

/-- **C03_call_translated.**  A whole call (metadata lookup, stream precheck, retry loop) built on the transcribed `_pyroInvoke`
    agrees with the hand model `Call.call real`, for all inputs. -/
theorem C03_call_translated (blob raw : Bool) (retries : Nat) (k : Kind) (tok : Nat) (W : World) (s : List Ev) :
    Agree (callSrc blob raw retries k tok W s) (call real retries k tok W s) := by
  rw [← callG_model]
  exact callG_agree (fun k t W s => C03_pyroInvoke_translated blob raw k t W s) retries k tok W s

theorem callSrc_eq {blob raw : Bool} {retries : Nat} {k : Kind} {tok : Nat} {W : World} {s : List Ev} {o : Outcome}
    (h : (callSrc blob raw retries k tok W s).1 = o) (ho : o ≠ .scriptEnd) :
    callSrc blob raw retries k tok W s = call real retries k tok W s :=
  have ⟨h1, h2⟩ := C03_call_translated blob raw retries k tok W s
  h2 (h1 ▸ h ▸ ho)

/-- **C03_source_own_reply.**  `C03_own_reply_partial` about the transcription: a call running the source's `_pyroInvoke` that
    returns, returns the body of its own invocation (young-reachable state, young script). -/
theorem C03_source_own_reply {W : World} (hW : ReachableYoung W) (blob raw : Bool) (retries : Nat) (k : Kind) (tok : Nat)
    (s : List Ev) (hy : Young W s) (k' : Kind) (t' : Nat)
    (h : (callSrc blob raw retries k tok W s).1 = .returned k' t') : k' = k ∧ t' = tok :=
  C03_own_reply_partial hW retries k tok s hy k' t' ((C03_call_translated blob raw retries k tok W s).1 ▸ h)

/-- **C03_source_oneway.**  A oneway call through the transcription never returns a reply, takes nothing off the stream when it
    completes, runs its method exactly once when it returns None and not at all when it fails. -/
theorem C03_source_oneway (blob raw : Bool) (W : World) (retries : Nat) (k : Kind) (tok : Nat) (s : List Ev) (hk : k.isOneway = true) :
    (∀ k' t', (callSrc blob raw retries k tok W s).1 ≠ .returned k' t') ∧
    ((callSrc blob raw retries k tok W s).1 = .none_ →
        (callSrc blob raw retries k tok W s).2.1.reads = W.reads ∧
        (k.executes = true → execs tok (callSrc blob raw retries k tok W s).2.1 = execs tok W + 1)) ∧
    (∀ e, (callSrc blob raw retries k tok W s).1 = .failed e →
        (callSrc blob raw retries k tok W s).2.1.reads = W.reads ∧
        execs tok (callSrc blob raw retries k tok W s).2.1 = execs tok W) := by
  obtain ⟨hret, hreads, hnone, hfail, _⟩ := C03_oneway W retries k tok s hk
  refine ⟨fun k' t' h => hret k' t' ((C03_call_translated blob raw retries k tok W s).1 ▸ h), fun h => ?_, fun e h => ?_⟩
  · have hq := callSrc_eq h (by simp)
    rw [hq] at h ⊢
    exact ⟨hreads, hnone h⟩
  · have hq := callSrc_eq h (by simp)
    rw [hq] at h ⊢
    exact ⟨hreads, hfail e h⟩

/-- **C03_source_released.**  A call through the transcription that failed leaves the proxy without a connection. -/
theorem C03_source_released (blob raw : Bool) (W : World) (retries : Nat) (k : Kind) (tok : Nat) (s : List Ev) (e : Err)
    (h : (callSrc blob raw retries k tok W s).1 = .failed e) :
    (callSrc blob raw retries k tok W s).2.1.pc.isLive = false := by
  have hq := callSrc_eq h (by simp)
  rw [hq] at h ⊢
  exact (call_spec retries k tok W s).facts.released e h

/-- **C03_source_recovers.**  After a call through the transcription failed, the proxy holds no connection, and the next call
    (any kind but a stream fetch) through the transcription over a healthy transport returns its own outcome. -/
theorem C03_source_recovers (blob raw : Bool) (W : World) (retries : Nat) (k : Kind) (tok : Nat) (s : List Ev) (e : Err)
    (h : (callSrc blob raw retries k tok W s).1 = .failed e)
    (blob2 raw2 : Bool) (retries2 : Nat) (k2 : Kind) (tok2 : Nat) (s2 : List Ev) (hk2 : k2.precheck = false) :
    (callSrc blob2 raw2 retries2 k2 tok2 (callSrc blob raw retries k tok W s).2.1 (.ok :: .ok :: s2)).1 = ownOutcome k2 tok2 := by
  have hq := callSrc_eq h (by simp)
  rw [hq] at h ⊢
  rw [(C03_call_translated blob2 raw2 retries2 k2 tok2 _ _).1]
  exact (C03_recovers W retries k tok s e h retries2 k2 tok2 s2 hk2).2.1

/-- the protocol constants the operations of CallOps use are the ones of protocol.py -/
theorem C03_gen_src_consts : protoConsts = [2, 4, 5, 4, 8] := by decide

/-- non-vacuity: the transcription, run on a duplicated reply, rejects it on the next call -/
example : (callSrc false false 0 .normal 2 (callSrc false false 0 .normal 1 (init 0) [.ok, .dup]).2.1 [.ok]).1 = .failed .protocol := by
  decide
example : (callSrc true true 1 .oneway 7 (init 65535) [.ok, .ok]).1 = .none_ := by decide

/-! ### the retry loop -/

/-- `_RemoteMethod.__call__` as the model has it (`Call.retryLoop`), over an arbitrary `send`: `n` = retries still allowed -/
def retrySpec (send : M Outcome) : Nat → M Unit
  | 0 => fun st =>
    match send st with
    | (.ok o, st') => (.ret o, st')
    | (.raise e, st') => (.raise e, st')
    | (.ret o, st') => (.ret o, st')
    | (.abort o, st') => (.abort o, st')
  | n + 1 => fun st =>
    match send st with
    | (.ok o, st') => (.ret o, st')
    | (.raise e, st') => if e.retryable then retrySpec send n st' else (.raise e, st')
    | (.ret o, st') => (.ret o, st')
    | (.abort o, st') => (.abort o, st')

theorem retrySpec_not_ok (send : M Outcome) (n : Nat) : ∀ st u st', retrySpec send n st ≠ (.ok u, st') := by
  induction n with
  | zero => intro st u st'; simp only [retrySpec]; split <;> simp
  | succ n ih =>
    intro st u st'; simp only [retrySpec]; split <;> try simp
    split
    · exact ih _ _ _
    · simp

/-- `r` retries are left when iteration `i` of the `for` loop starts (`i + r = n`); `hbody` is what one iteration does -/
theorem loop_spec (send : M Outcome) (n : Nat) (body : Nat → M Unit)
    (hbody : ∀ i st, body i st = match send st with
      | (.ok o, st') => (.ret o, st')
      | (.raise e, st') => if e.retryable then (if i ≥ n then (.raise e, st') else (.ok (), st')) else (.raise e, st')
      | (.ret o, st') => (.ret o, st')
      | (.abort o, st') => (.abort o, st')) :
    ∀ r i, i + r = n → ∀ st, forLoop body (r + 1) i st = retrySpec send r st := by
  intro r
  induction r with
  | zero =>
    intro i hi st
    simp only [forLoop, CallOps.bind, retrySpec, hbody]
    rcases send st with ⟨x, st'⟩
    cases x <;> simp [pure']
    rename_i e
    have : i ≥ n := by omega
    cases e <;> simp [Err.retryable, this]
  | succ r ih =>
    intro i hi st
    rw [forLoop]
    simp only [CallOps.bind, retrySpec, hbody]
    rcases send st with ⟨x, st'⟩
    cases x <;> simp
    rename_i e
    have : ¬ i ≥ n := by omega
    cases e with
    | connClosed | timeout =>
      simp [Err.retryable, this]
      exact ih (i + 1) (by omega) st'
    | _ => simp [Err.retryable]

/-- **C03_remoteCall_translated.**  The transcription of `_RemoteMethod.__call__`, for every `send` and retry limit, is the
    model's retry loop: a value is returned at once; ConnectionClosedError / TimeoutError lead to another `send` while retries
    are left (at most 1+N sends); every other exception, and the last failure, propagate. -/
theorem C03_remoteCall_translated (send : M Outcome) (n : Nat) (st : PSt) :
    remoteCallSrc send n st = retrySpec send n st := by
  unfold remoteCallSrc forRange
  simp only [CallOps.bind]
  rw [loop_spec send n _ ?hb n 0 (by omega) st]
  case hb =>
    intro i st
    simp only [tryExcept, CallOps.bind, ret]
    rcases send st with ⟨x, st'⟩
    cases x
    case raise e => cases e <;> simp [Err.retryable, raise] <;> (try split) <;> simp_all [raise, pure']
    all_goals simp
  have := retrySpec_not_ok send n st
  rcases hr : retrySpec send n st with ⟨x, st'⟩
  cases x
  case ok u => exact absurd hr (this _ _)
  all_goals simp

end Pyro.C03
