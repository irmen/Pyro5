/-
  C07 — Remote exceptions arrive as the same exception with the same content.

  Property theorems about `PyroModel.Exceptions` (model of serializers.class_to_dict / dict_to_class / make_exception,
  Daemon.handleRequest's error paths and the batch loop, Daemon._serializeException, Proxy._pyroInvoke,
  BatchProxy's result generator).  Quantifiers: every serializer library satisfying the lossless-core law
  (`CodecLaw`), every exception class the receiver resolves, every argument list / attribute dict inside the lossless
  domain, every traceback, every call kind, every batch (any results before, any calls after the failing one).
-/
import PyroProofs.Exceptions

namespace Pyro.C07

open Pyro.Exceptions
open Pyro.Gen.C07 (Kind Flags)

/-! ## round trip -/

/-- **C07_roundtrip_partial.**  A plain call, an attribute read, an attribute write or a stream item whose remote
    code raises `e` — of a class the receiver resolves to itself, whose constructor gives back the arguments, with
    arguments, attribute values and traceback lines in the serializer's lossless domain — makes the caller raise
    exactly `e` (same class, same args) with the same attributes plus `_pyroTraceback`, for every serializer library
    satisfying the law; and the connection is kept unless the method is a callback or `e` is a Communication/
    SecurityError.  *Partial*: the class must be one the server forwards (`Sendable`: an `Exception`, and no
    CommunicationError other than SerializeError) — see `C07_roundtrip_Statement` and its refutations below. -/
theorem C07_roundtrip_partial {W : Type} (S : ServerEnv) (K : ClientEnv) (c : Codec W) (norm : Val → Val)
    (dom : Val → Prop) (law : CodecLaw c norm dom) (R : Render) (kind : CallKind) (e : Exc) (tb : Val)
    (hcontent : Content norm dom e tb)
    (hres : resolves K.names e.cls = some e.cls)
    (hctor : K.ctor e.cls e.args = .ok (e.cls, e.args))
    (hsend : Sendable (S.info e.cls)) :
    clientCall S K c R kind (.raise e) tb
      = (raisedBy K (withTraceback tb e), fateAfter (S.info e.cls) kind.isCallback) := by
  obtain ⟨w, hser, ha⟩ := serializeException_ok law R e tb hcontent
  exact clientCall_forwarded S K c R kind e tb hsend _ w hser ha hres hctor hcontent.withTraceback.nodup

/-- **C07_roundtrip_batch_partial.**  In a batch whose member at position `before.length` raises `e` (the earlier
    members returned the lossless values `before`, whatever follows is not run), the caller's result generator yields
    exactly `before` and then raises exactly `e` with its attributes plus `_pyroTraceback`; the connection is kept.
    Holds for both shapes of the batch loop (`batchFallback`).  *Partial*: `e` must be an `Exception`, and not a
    StopIteration (the result generator cannot raise one: PEP 479, see `C07_batch_stopiteration`). -/
theorem C07_roundtrip_batch_partial {W : Type} (S : ServerEnv) (K : ClientEnv) (c : Codec W) (norm : Val → Val)
    (dom : Val → Prop) (law : CodecLaw c norm dom) (R : Render) (bf : Bool) (before : List Val) (after : List Step)
    (e : Exc) (tb : Val)
    (hcontent : Content norm dom e tb)
    (hbefore : ∀ v ∈ before, Lossless norm dom v ∧ hasClassDict v = false)
    (hres : resolves K.names e.cls = some e.cls)
    (hctor : K.ctor e.cls e.args = .ok (e.cls, e.args))
    (hreg : wrapperTag ∉ K.names.registry)
    (hexc : (S.info e.cls).isException = true)
    (hstop : (K.info e.cls).isStopIter = false) :
    clientBatch S K c R bf (before.map .ret ++ .raise e :: after) tb
      = (⟨before, .raised (withTraceback tb e), false⟩, .active) := by
  obtain ⟨w, hser, _⟩ := serializeException_ok law R e tb hcontent
  rw [clientBatch_wrapped S K law R bf _ before _ tb
    (batchLoop_raise S c R bf tb before e after hexc _ w (fun _ => hser) fun _ => rfl) hcontent.withTraceback hbefore hres hctor hreg]
  simp only [withTraceback, hstop, Bool.false_eq_true, if_false]

/-! ## fallback: content that cannot be serialised -/

/-- the fallback text names the class of the original exception -/
theorem fallbackMsg_describes (R : Render) (dumpErr e : Exc) : R.typeRepr e.cls <:+: fallbackMsg R dumpErr e := by
  unfold fallbackMsg
  refine ⟨cs "Error serializing exception: " ++ R.strOf dumpErr ++ cs ". Original exception: ", cs ": " ++ R.strOf e, ?_⟩
  simp only [List.append_assoc]

/-- **C07_fallback.**  If the exception (its arguments or attributes) cannot be serialised — the library's `dumps`
    of its dict raises — the caller of a plain call / attribute access / stream item still gets a reply and raises a
    `Pyro5.errors.PyroError` whose single argument is the text "Error serializing exception: … Original exception:
    <class>: …", which contains the rendering of the original class, and which carries the traceback lines; never
    nothing, never a value.  The connection's fate is that of the original exception's class. -/
theorem C07_fallback {W : Type} (S : ServerEnv) (K : ClientEnv) (c : Codec W) (norm : Val → Val)
    (dom : Val → Prop) (law : CodecLaw c norm dom) (R : Render) (kind : CallKind) (e : Exc) (tb : Val)
    (htb : Lossless norm dom tb)
    (hun : c.dumps (excToDict (withTraceback tb e)) = none)
    (hres : resolves K.names qPyroError = some qPyroError)
    (hctor : ∀ m, K.ctor qPyroError [.str m] = .ok (qPyroError, [.str m]))
    (hsend : Sendable (S.info e.cls)) :
    clientCall S K c R kind (.raise e) tb
        = (raisedBy K (fallbackExc R c.unserErr tb (withTraceback tb e)), fateAfter (S.info e.cls) kind.isCallback)
      ∧ fallbackExc R c.unserErr tb (withTraceback tb e)
          = ⟨qPyroError, [.str (fallbackMsg R c.unserErr (withTraceback tb e))], [(kTraceback, tb)]⟩
      ∧ R.typeRepr e.cls <:+: fallbackMsg R c.unserErr (withTraceback tb e) := by
  refine ⟨?_, rfl, fallbackMsg_describes R c.unserErr (withTraceback tb e)⟩
  obtain ⟨w, hser, ha⟩ := serializeException_fallback law R e tb htb hun
  exact clientCall_forwarded S K c R kind e tb hsend _ w hser ha hres (hctor _)
    (content_fallback law R c.unserErr _ tb htb).nodup

/-- **C07_fallback_batch.**  With the batch loop that wraps what `_serializeException` returns
    (`batchFallback = true`, fixes/C07-batch-unserialisable-exception.patch), a batch member whose exception cannot
    be serialised reaches the caller the same way: the earlier results, then the generic PyroError naming the
    original class, with the traceback; the connection is kept. -/
theorem C07_fallback_batch {W : Type} (S : ServerEnv) (K : ClientEnv) (c : Codec W) (norm : Val → Val)
    (dom : Val → Prop) (law : CodecLaw c norm dom) (R : Render) (before : List Val) (after : List Step)
    (e : Exc) (tb : Val)
    (htb : Lossless norm dom tb)
    (hun : c.dumps (excToDict (withTraceback tb e)) = none)
    (hbefore : ∀ v ∈ before, Lossless norm dom v ∧ hasClassDict v = false)
    (hres : resolves K.names qPyroError = some qPyroError)
    (hctor : ∀ m, K.ctor qPyroError [.str m] = .ok (qPyroError, [.str m]))
    (hreg : wrapperTag ∉ K.names.registry)
    (hexc : (S.info e.cls).isException = true)
    (hstop : (K.info qPyroError).isStopIter = false) :
    clientBatch S K c R true (before.map .ret ++ .raise e :: after) tb
      = (⟨before, .raised (fallbackExc R c.unserErr tb (withTraceback tb e)), false⟩, .active) := by
  obtain ⟨w, hser, _⟩ := serializeException_fallback law R e tb htb hun
  rw [clientBatch_wrapped S K law R true _ before _ tb
    (batchLoop_raise S c R true tb before e after hexc _ w (fun _ => hser) fun h => nomatch h)
    (content_fallback law R c.unserErr _ tb htb) hbefore hres (hctor _) hreg]
  simp only [fallbackExc, withTraceback, hstop, Bool.false_eq_true, if_false]

/-! ## never silent, never a hang, usable afterwards -/

/-- **C07_never_silent.**  Whatever the serializer library does (no law assumed), whatever the class and content of
    the exception: a single call whose remote code raises never makes the caller's call return a value. -/
theorem C07_never_silent {W : Type} (S : ServerEnv) (K : ClientEnv) (c : Codec W) (R : Render) (kind : CallKind)
    (e : Exc) (tb : Val) (v : Val) :
    (clientCall S K c R kind (.raise e) tb).1.outcome ≠ .value v := by
  -- a reply flagged as an exception is raised, whatever it decodes to; no reply is a ConnectionClosedError
  have key : ∀ (r : Option (Reply W)), (∀ rep, r = some rep → rep.exception = true) →
      (clientInvoke K c false r).outcome ≠ .value v := by
    intro r hr
    unfold clientInvoke
    cases r with
    | none => simp
    | some rep =>
      have hx := hr rep rfl
      simp only [hx, if_true]
      cases c.loads rep.body with
      | none => simp
      | some lit =>
        simp only
        cases recreate K lit with
        | error x => cases x <;> simp [raisedBy]
        | ok l =>
          cases l with
          | one o => cases o <;> simp [raiseData, raisedBy]
          | many os => simp [raisedBy]
  unfold clientCall
  apply key
  intro rep hrep
  unfold serverCall at hrep
  simp only at hrep
  by_cases hx : (S.info e.cls).isException = true
  · simp only [hx, if_true] at hrep
    unfold errorPath at hrep
    simp only at hrep
    split at hrep
    · split at hrep
      · simp only [Option.some.injEq] at hrep; rw [← hrep]
      · cases hrep
    · cases hrep
  · simp only [hx, Bool.false_eq_true, if_false] at hrep
    cases hrep

/-- class relations as Python has them: a ConnectionClosedError is a CommunicationError -/
def FlagsSane (info : Str → Flags) : Prop := ∀ q, (info q).isConnClosed = true → (info q).isComm = true

theorem errorPath_no_hang {W : Type} (S : ServerEnv) (hs : FlagsSane S.info) (c : Codec W) (R : Render) (xv : Exc)
    (tb : Val) (cb : Bool) : (errorPath S c R xv tb cb).reply = none → (errorPath S c R xv tb cb).conn = .dropped := by
  unfold errorPath
  simp only
  split
  · split
    · exact nofun
    · intro _; rfl
  · rename_i hcond
    intro _
    have hcomm : (S.info xv.cls).isComm = true := by
      by_cases hcl : (S.info xv.cls).isConnClosed = true
      · exact hs _ hcl
      · simp only [repliesTo, hcl, Bool.not_false, Bool.true_and, Bool.or_eq_true, Bool.not_eq_true', not_or,
          Bool.not_eq_true, Bool.not_eq_false] at hcond
        exact hcond.2
    simp [reraisesAfter, hcomm]

/-- **C07_no_hang.**  Whatever the serializer library does and whatever is raised or returned: when the server sends
    no reply to a single call or to a batch, it drops the connection — the caller's receive ends with a
    ConnectionClosedError (`connLost`, the proxy releases its end and reconnects on the next call); there is no state
    in which the caller waits on a connection the server keeps open. -/
theorem C07_no_hang {W : Type} (S : ServerEnv) (hs : FlagsSane S.info) (K : ClientEnv) (c : Codec W) (R : Render)
    (tb : Val) :
    (∀ kind step, (serverCall S c R kind step tb).reply = none →
        (serverCall S c R kind step tb).conn = .dropped
        ∧ clientCall S K c R kind step tb = (⟨[], .connLost, true⟩, .dropped))
    ∧ (∀ bf steps, (serverBatch S c R bf steps tb).reply = none →
        (serverBatch S c R bf steps tb).conn = .dropped
        ∧ clientBatch S K c R bf steps tb = (⟨[], .connLost, true⟩, .dropped)) := by
  constructor
  · intro kind step h
    have hd : (serverCall S c R kind step tb).conn = .dropped := by
      revert h
      unfold serverCall
      cases step with
      | ret v =>
        simp only
        cases c.dumps v with
        | some w => exact nofun
        | none => exact errorPath_no_hang S hs c R _ tb _
      | raise e =>
        simp only
        split
        · exact errorPath_no_hang S hs c R _ tb _
        · intro _; rfl
    refine ⟨hd, ?_⟩
    unfold clientCall
    simp only [h, hd, clientInvoke]
  · intro bf steps h
    have hd : (serverBatch S c R bf steps tb).conn = .dropped := by
      revert h
      unfold serverBatch
      cases batchLoop S c R bf tb steps with
      | done items =>
        simp only
        cases c.dumps (.list (items.map itemLit)) with
        | some w => exact nofun
        | none => exact errorPath_no_hang S hs c R _ tb _
      | escaped e =>
        simp only
        split
        · exact errorPath_no_hang S hs c R _ tb _
        · intro _; rfl
    refine ⟨hd, ?_⟩
    unfold clientBatch
    simp only [h, hd, clientInvoke]

/-- **C07_usable_after.**  After a forwarded exception (round trip or fallback: any call whose outcome and fate are
    those the theorems above give) the next call on the proxy goes through, provided the method is no callback and
    the exception's class is no Communication/SecurityError: the server kept the connection. -/
theorem C07_usable_after (f : Flags) (kind : CallKind) (o : ClientOut)
    (hcb : kind.isCallback = false) (hcomm : f.isComm = false) (hsec : f.isSecurity = false) :
    usableAfter (o, fateAfter f kind.isCallback) = true := by
  simp [usableAfter, fateAfter, hcb, hcomm, hsec]

/-- **C07_usable_after_roundtrip.**  The round trip of a single call leaves the proxy usable (no callback, no
    Communication/SecurityError). -/
theorem C07_usable_after_roundtrip {W : Type} (S : ServerEnv) (K : ClientEnv) (c : Codec W) (norm : Val → Val)
    (dom : Val → Prop) (law : CodecLaw c norm dom) (R : Render) (kind : CallKind) (e : Exc) (tb : Val)
    (hcontent : Content norm dom e tb) (hres : resolves K.names e.cls = some e.cls)
    (hctor : K.ctor e.cls e.args = .ok (e.cls, e.args)) (hsend : Sendable (S.info e.cls))
    (hcb : kind.isCallback = false) (hcomm : (S.info e.cls).isComm = false) (hsec : (S.info e.cls).isSecurity = false) :
    usableAfter (clientCall S K c R kind (.raise e) tb) = true := by
  rw [C07_roundtrip_partial S K c norm dom law R kind e tb hcontent hres hctor hsend]
  exact C07_usable_after _ kind _ hcb hcomm hsec

/-- **C07_usable_after_fallback.**  So does the fallback: after the generic error for an unserialisable exception the
    next call goes through. -/
theorem C07_usable_after_fallback {W : Type} (S : ServerEnv) (K : ClientEnv) (c : Codec W) (norm : Val → Val)
    (dom : Val → Prop) (law : CodecLaw c norm dom) (R : Render) (kind : CallKind) (e : Exc) (tb : Val)
    (htb : Lossless norm dom tb) (hun : c.dumps (excToDict (withTraceback tb e)) = none)
    (hres : resolves K.names qPyroError = some qPyroError)
    (hctor : ∀ m, K.ctor qPyroError [.str m] = .ok (qPyroError, [.str m])) (hsend : Sendable (S.info e.cls))
    (hcb : kind.isCallback = false) (hcomm : (S.info e.cls).isComm = false) (hsec : (S.info e.cls).isSecurity = false) :
    usableAfter (clientCall S K c R kind (.raise e) tb) = true := by
  rw [(C07_fallback S K c norm dom law R kind e tb htb hun hres hctor hsend).1]
  exact C07_usable_after _ kind _ hcb hcomm hsec

/-- **C07_usable_after_comm.**  A forwarded exception that is a CommunicationError on the caller's side (of the forwarded
    classes: SerializeError) leaves the proxy usable although the server drops the connection after replying: raising
    it inside `_pyroInvoke` releases the proxy's end, the next call reconnects.  (Two-call history: call 1 raises
    SerializeError remotely, call 2 must get its own result.) -/
theorem C07_usable_after_comm {W : Type} (S : ServerEnv) (K : ClientEnv) (c : Codec W) (norm : Val → Val)
    (dom : Val → Prop) (law : CodecLaw c norm dom) (R : Render) (kind : CallKind) (e : Exc) (tb : Val)
    (hcontent : Content norm dom e tb) (hres : resolves K.names e.cls = some e.cls)
    (hctor : K.ctor e.cls e.args = .ok (e.cls, e.args)) (hsend : Sendable (S.info e.cls))
    (hcomm : (K.info e.cls).isComm = true) :
    usableAfter (clientCall S K c R kind (.raise e) tb) = true := by
  rw [C07_roundtrip_partial S K c norm dom law R kind e tb hcontent hres hctor hsend]
  simp [usableAfter, raisedBy, releases, withTraceback, hcomm]

/-- **C07_stream_item_after_housekeeping.**  A housekeeping run between two items does not touch the stream of a
    connected client that is younger than `ITER_STREAM_LIFETIME` (or when no lifetime is configured), whatever
    `ITER_STREAM_LINGER` is: the next item's exception travels exactly as without the run (so `C07_roundtrip_partial`
    applies to it). -/
theorem C07_stream_item_after_housekeeping {W : Type} (S : ServerEnv) (K : ClientEnv) (c : Codec W) (R : Render)
    (lifetime linger : Nat) (s : StreamAge) (step : Step) (tb : Val)
    (hconn : s.lingering = none) (hyoung : lifetime = 0 ∨ s.age ≤ lifetime) :
    streamItemCall S K c R lifetime linger s step tb = clientCall S K c R .streamItem step tb := by
  have hs : streamSurvives lifetime linger s = true := by
    unfold streamSurvives
    rw [hconn]
    rcases hyoung with h | h
    · simp [h]
    · simp [Nat.not_lt.mpr h]
  unfold streamItemCall
  rw [if_pos hs]

/-- after a batch whose member raised, the connection is kept as well (second component of
    `C07_roundtrip_batch_partial` / `C07_fallback_batch`) -/
theorem C07_usable_after_batch (o : ClientOut) : usableAfter (o, ConnFate.active) = true := rfl

/-! ## proxies that retry (MAX_RETRIES / _pyroMaxRetries ≥ 1) -/

theorem retryLoop_some (K : ClientEnv) (m : Nat) (run : Nat → ClientOut × ConnFate) :
    ∀ (rem att : Nat), att + rem = m + 1 → 1 ≤ rem →
      ∃ r k, retryLoop K m run rem att = (some r, k + 1) ∧ att ≤ k ∧ k ≤ m ∧ r = run k
        ∧ (retryable K r.1.outcome = true → k = m) := by
  intro rem
  induction rem with
  | zero => intro att _ h; omega
  | succ n ih =>
    intro att hsum _
    unfold retryLoop
    by_cases hr : retryable K (run att).1.outcome = true
    · simp only [hr, if_true]
      by_cases hlast : att ≥ m
      · rw [if_pos hlast]
        exact ⟨run att, att, rfl, Nat.le_refl _, by omega, rfl, fun _ => by omega⟩
      · rw [if_neg hlast]
        obtain ⟨r, k, h1, h2, h3, h4, h5⟩ := ih (att + 1) (by omega) (by omega)
        exact ⟨r, k, h1, by omega, h3, h4, h5⟩
    · simp only [hr, Bool.false_eq_true, if_false]
      refine ⟨run att, att, rfl, Nat.le_refl _, by omega, rfl, ?_⟩
      intro h; exact absurd h hr

/-- **C07_retry_never_none.**  With the loop bound of the code (`range(max_retries + 1)`), whatever every attempt
    does and for every `max_retries`: a method call never falls out of the retry loop — it ends with what one of its
    attempts did (it *raises* the last attempt's communication error instead of returning None), after at most
    `max_retries + 1` sends, and an attempt whose outcome is not a ConnectionClosed/TimeoutError is final. -/
theorem C07_retry_never_none (K : ClientEnv) (m : Nat) (run : Nat → ClientOut × ConnFate) :
    ∃ r k, remoteMethod K (retryBound m) m run = (some r, k + 1) ∧ k ≤ m ∧ r = run k
      ∧ (retryable K r.1.outcome = true → k = m) := by
  obtain ⟨r, k, h1, _, h3, h4, h5⟩ := retryLoop_some K m run (m + 1) 0 (by omega) (by omega)
  exact ⟨r, k, h1, h3, h4, h5⟩

/-- **C07_retry_forwarded_once.**  An attempt that ends in anything but a ConnectionClosed/TimeoutError (a forwarded
    exception in particular) is not repeated: the call does what the first attempt did, the remote code ran once. -/
theorem C07_retry_forwarded_once (K : ClientEnv) (m : Nat) (run : Nat → ClientOut × ConnFate)
    (h : retryable K (run 0).1.outcome = false) :
    remoteMethod K (retryBound m) m run = (some (run 0), 1) := by
  unfold remoteMethod retryBound retryLoop
  simp only [h, Bool.false_eq_true, if_false]

/-- **C07_roundtrip_retry.**  The round trip through a retrying proxy: same conclusion as `C07_roundtrip_partial`,
    for every `max_retries`, with one execution of the remote code (the raised class is no ConnectionClosed/TimeoutError
    on the caller's side). -/
theorem C07_roundtrip_retry {W : Type} (S : ServerEnv) (K : ClientEnv) (c : Codec W) (norm : Val → Val)
    (dom : Val → Prop) (law : CodecLaw c norm dom) (R : Render) (cb : Bool) (e : Exc) (tb : Val) (m : Nat)
    (hcontent : Content norm dom e tb) (hres : resolves K.names e.cls = some e.cls)
    (hctor : K.ctor e.cls e.args = .ok (e.cls, e.args)) (hsend : Sendable (S.info e.cls))
    (hnc : (K.info e.cls).isConnClosed = false) (hnt : (K.info e.cls).isPyroTimeout = false) :
    remoteMethod K (retryBound m) m (fun _ => clientCall S K c R (.plain cb) (.raise e) tb)
      = (some (raisedBy K (withTraceback tb e), fateAfter (S.info e.cls) cb), 1) := by
  have hrt := C07_roundtrip_partial S K c norm dom law R (.plain cb) e tb hcontent hres hctor hsend
  rw [C07_retry_forwarded_once K m _ (by
    simp only [hrt, raisedBy, retryable, withTraceback, hnc, hnt, Bool.or_false])]
  simp only [hrt, CallKind.isCallback]

/-- why the bound matters: with `range(max(max_retries, 1))` and `max_retries = 1`, a call whose every attempt loses
    the connection falls out of the loop — the call returns None.  (Obligation `C07_gen_retry` pins the bound.) -/
theorem C07_retry_bound_matters (K : ClientEnv) :
    (remoteMethod K (max 1 1) 1 (fun _ => (⟨[], .connLost, true⟩, .dropped))).1.isNone = true := by
  rfl

/-! ## classes the receiver does not know -/

/-- **C07_unknown_class.**  An exception of a class outside the receiver's whitelist (an application class
    `ns.Name`: no double underscore, not a Pyro5 / struct / builtins / sqlite3 name, no converter registered), with
    lossless content, makes the caller raise `SerializeError("unsupported serialized class: ns.Name")` — a Pyro error
    naming the original's class; the proxy releases its connection (SerializeError is a CommunicationError) and the
    next call reconnects: usable. -/
theorem C07_unknown_class {W : Type} (S : ServerEnv) (K : ClientEnv) (c : Codec W) (norm : Val → Val)
    (dom : Val → Prop) (law : CodecLaw c norm dom) (R : Render) (kind : CallKind) (e : Exc) (tb : Val)
    (ns short : Str)
    (hcontent : Content norm dom e tb)
    (hsend : Sendable (S.info e.cls))
    (h1 : e.cls ∉ K.names.registry) (h2 : hasDunder e.cls = false) (h3 : e.cls ∉ fixedPyroClasses)
    (h4 : utilPrefix.isPrefixOf e.cls = false) (h5 : errorsPrefix.isPrefixOf e.cls = false)
    (h6 : ¬ e.cls = qStructError) (h7 : ¬ e.cls = wrapperTag)
    (h8 : assoc e.cls K.names.allExceptions = none) (h9 : splitDot e.cls = some (ns, short))
    (h10 : ¬ (ns = cs "builtins" ∨ ns = cs "exceptions")) (h11 : ¬ ns = cs "sqlite3")
    (hser : (K.info qSerializeError).isComm = true) :
    (clientCall S K c R kind (.raise e) tb).1
        = ⟨[], .raised (pyroErr qSerializeError (msgUnsupported ++ e.cls)), true⟩
      ∧ usableAfter (clientCall S K c R kind (.raise e) tb) = true := by
  obtain ⟨w, hserx, A, _, (hl : c.loads w = some (.dict (arrivedDict e.cls A (withTraceback tb e).attrs)))⟩ :=
    serializeException_ok law R e tb hcontent
  have hout : (clientCall S K c R kind (.raise e) tb).1
      = ⟨[], .raised (pyroErr qSerializeError (msgUnsupported ++ e.cls)), true⟩ := by
    unfold clientCall serverCall
    simp only [hsend.exc, if_true]
    rw [errorPath_sent S c R e tb kind.isCallback hsend _ w hserx]
    unfold clientInvoke
    simp only [hl, recreate, recreateItem, lookup_arrived_class, Option.isSome_some, if_true]
    rw [dictFuel_eq]
    unfold dictToClass
    simp only [lookup_arrived_class, h1, if_false, h2, Bool.false_eq_true, h3, h4, h5, h6, h7,
      lookup_arrived_exception, truthy, if_true, h8, h9, h10, h11, false_and, Except.map]
    simp only [raisedBy, releases, pyroErr, hser, Bool.true_or]
  refine ⟨hout, ?_⟩
  simp only [usableAfter, hout, Bool.or_true]

/-! ## the full statement -/

/-- the classes the property quantifies over: every exception class of `builtins` and every Pyro5 error
    (extracted; `struct.error` is in the table too but not in the property's quantifier) -/
def whitelist : List Str := (Pyro.Gen.C07.classFlags.map Prod.fst).filter (fun q => q != qStructError)

/-- **C07_roundtrip_Statement** — the property at full strength for single calls: *every* whitelisted class,
    with the extracted class relations and name tables, round-trips through every lawful serializer library. -/
def C07_roundtrip_Statement : Prop :=
  ∀ (W : Type) (c : Codec W) (norm : Val → Val) (dom : Val → Prop), CodecLaw c norm dom →
  ∀ (R : Render) (ctor : Str → List Val → Except Exc (Str × List Val)) (kind : CallKind) (e : Exc) (tb : Val),
    e.cls ∈ whitelist → Content norm dom e tb → ctor e.cls e.args = .ok (e.cls, e.args) →
    (clientCall genServerEnv (genClientEnv ctor) c R kind (.raise e) tb).1.outcome = .raised (withTraceback tb e)

/-- the same for a batch member -/
def C07_roundtrip_batch_Statement : Prop :=
  ∀ (W : Type) (c : Codec W) (norm : Val → Val) (dom : Val → Prop), CodecLaw c norm dom →
  ∀ (R : Render) (ctor : Str → List Val → Except Exc (Str × List Val)) (bf : Bool) (before : List Val) (after : List Step)
    (e : Exc) (tb : Val),
    e.cls ∈ whitelist → Content norm dom e tb → ctor e.cls e.args = .ok (e.cls, e.args) →
    (∀ v ∈ before, Lossless norm dom v ∧ hasClassDict v = false) →
    (clientBatch genServerEnv (genClientEnv ctor) c R bf (before.map .ret ++ .raise e :: after) tb).1.outcome
      = .raised (withTraceback tb e)

/-! ## fixtures of the obligations, the refutations and the examples -/

def idCtor : Str → List Val → Except Exc (Str × List Val) := fun c a => .ok (c, a)
def plainRender : Render := ⟨fun e => e.cls, fun q => q⟩
def tbVal : Val := .list [.str (cs "Traceback (most recent call last):")]

/-! ## obligations about the extracted facts -/

/-- the class table is sorted by name, so `genInfo` reads every row back under its own name -/
theorem classFlags_ascending :
    ∀ p ∈ (Pyro.Gen.C07.classFlags.map Prod.fst).zip (Pyro.Gen.C07.classFlags.map Prod.fst).tail, p.1 < p.2 := by
  decide +kernel

theorem genInfo_row : ∀ c ∈ Pyro.Gen.C07.classFlags, genInfo c.1 = c.2 := by
  intro c hc
  unfold genInfo
  rw [assoc_of_mem classFlags_ascending hc]
  rfl

/-- one search of the class table gives both membership in the whitelist and the flags -/
theorem row_whitelisted {q : Str} {f : Flags} (h : (q, f) ∈ Pyro.Gen.C07.classFlags ∧ (q != qStructError) = true) :
    q ∈ whitelist ∧ genInfo q = f :=
  ⟨List.mem_filter.mpr ⟨List.mem_map_of_mem h.1, h.2⟩, genInfo_row _ h.1⟩

/-- the whitelist is what the property says: 77 classes on this interpreter, the keys of `all_exceptions` map into it -/
theorem C07_gen_whitelist_covers :
    whitelist.length = Pyro.Gen.C07.classFlags.length - 1
    ∧ ∀ p ∈ Pyro.Gen.C07.allExceptions, p.2 ∈ whitelist := by decide +kernel

/-- `struct.error` and the generic error used by the fallback resolve too; SerializeError is a CommunicationError
    (so the proxy releases on it); PyroError is neither that nor a StopIteration nor a SecurityError -/
theorem C07_gen_special :
    resolves genNames qStructError = some qStructError
    ∧ resolves genNames qPyroError = some qPyroError
    ∧ (genInfo qSerializeError).isComm = true ∧ (genInfo qSerializeError).isSerialize = true
    ∧ (genInfo qPyroError).isComm = false ∧ (genInfo qPyroError).isStopIter = false
    ∧ (genInfo qPyroError).isSecurity = false := by decide +kernel

/-- the extracted relations are consistent with Python's class tree: ConnectionClosed ⊂ Communication,
    Serialize ⊂ Communication, everything flagged Communication/Security is an Exception -/
theorem C07_gen_flags_sane : ∀ r ∈ Pyro.Gen.C07.classFlags,
    (r.2.isConnClosed = true → r.2.isComm = true) ∧ (r.2.isSerialize = true → r.2.isComm = true)
    ∧ (r.2.isComm = true → r.2.isException = true) ∧ (r.2.isSecurity = true → r.2.isException = true) := by
  decide +kernel

/-- the hypothesis `FlagsSane` of `C07_no_hang` holds of the extracted class relations -/
theorem genInfo_sane : FlagsSane genInfo := by
  intro q
  unfold genInfo
  cases h : assoc q Pyro.Gen.C07.classFlags with
  | none => simp [defaultFlags]
  | some f => exact (C07_gen_flags_sane (q, f) (assoc_mem q f _ h)).1

/-! The following obligations compare the model's *decision functions* with behaviour probed on the real code at
    extraction time (harness/props/c07_probe.py drives the real handleRequest / _pyroInvoke / BatchProxy / retry loop over
    in-memory sockets); no fact is read from the syntax of the source. -/

theorem errorPathProbe_eq : Pyro.Gen.C07.errorPathProbe = Pyro.Gen.C07.classFlags.flatMap (fun c =>
    [(c.1, false, c.2.isException && repliesTo c.2, !c.2.isException || reraisesAfter c.2 false),
     (c.1, true, c.2.isException && repliesTo c.2, !c.2.isException || reraisesAfter c.2 true)]) := by
  rfl

/-- **the server's error handler**: for every class (all 77 + struct.error) and both kinds of method, the real
    handleRequest sent an exception reply exactly when the model's `isException ∧ repliesTo` says so, and let the exception
    leave (connection dropped) exactly when the model's `¬isException ∨ reraisesAfter` says so -/
theorem C07_gen_error_path : ∀ r ∈ Pyro.Gen.C07.errorPathProbe,
    r.2.2.1 = ((genInfo r.1).isException && repliesTo (genInfo r.1))
    ∧ r.2.2.2 = (!(genInfo r.1).isException || reraisesAfter (genInfo r.1) r.2.1) := by
  intro r hr
  rw [errorPathProbe_eq] at hr
  obtain ⟨c, hc, hr⟩ := List.mem_flatMap.mp hr
  simp only [List.mem_cons, List.not_mem_nil, or_false] at hr
  rcases hr with rfl | rfl <;> simp only [genInfo_row c hc, and_self]

theorem C07_gen_error_path_covers :
    Pyro.Gen.C07.errorPathProbe.map (fun r => (r.1, r.2.1))
      = Pyro.Gen.C07.classFlags.flatMap (fun c => [(c.1, false), (c.1, true)]) := by
  rw [errorPathProbe_eq, List.map_flatMap]
  rfl

/-- attribute read / write and stream items decide like a plain call; what an accessor raises (AttributeError on an
    object with `__getattr__` included) is what is sent; a forwarded exception is intact and gains exactly the attribute
    `_pyroTraceback`, a non-empty list of str -/
theorem C07_gen_other_kinds :
    Pyro.Gen.C07.otherKindsDecideAlike = true ∧ Pyro.Gen.C07.accessorErrorForwarded = true
    ∧ Pyro.Gen.C07.youngStreamSurvivesHousekeeping = true
    ∧ Pyro.Gen.C07.forwardedIntact = true ∧ Pyro.Gen.C07.tracebackIsLines = true
    ∧ Pyro.Gen.C07.tracebackAttr.map String.toList = [kTraceback] := by decide +kernel

/-- the fallback: exactly a PyroError, with the modelled text, carrying only the traceback, nothing re-raised -/
theorem C07_gen_fallback :
    Pyro.Gen.C07.fallbackIsPyroError = true ∧ Pyro.Gen.C07.fallbackTextMatches = true
    ∧ Pyro.Gen.C07.fallbackCarriesOnlyTraceback = true := by decide +kernel

theorem batchProbe_eq : Pyro.Gen.C07.batchProbe
    = Pyro.Gen.C07.classFlags.map (fun c => (c.1, c.2.isException, !c.2.isException, c.2.isException)) := by
  rfl

/-- **the batch loop**: a member's exception is wrapped (with traceback, after the earlier results, the later calls
    not run) exactly for `Exception`s; anything else leaves handleRequest without a reply -/
theorem C07_gen_batch : (∀ r ∈ Pyro.Gen.C07.batchProbe,
      r.2.1 = (genInfo r.1).isException ∧ r.2.2.1 = !(genInfo r.1).isException ∧ r.2.2.2 = (genInfo r.1).isException)
    ∧ Pyro.Gen.C07.batchProbe.map (·.1) = Pyro.Gen.C07.classFlags.map (·.1) := by
  rw [batchProbe_eq]
  refine ⟨fun r hr => ?_, by rw [List.map_map]; rfl⟩
  obtain ⟨c, hc, rfl⟩ := List.mem_map.mp hr
  simp only [genInfo_row c hc, and_self]

/-- the batch loop wraps the generic PyroError when the member's exception cannot be serialised -/
theorem C07_gen_batch_fallback : Pyro.Gen.C07.batchFallback = true := by decide +kernel

theorem clientProbe_rows : Pyro.Gen.C07.clientProbe.Sublist
    (Pyro.Gen.C07.classFlags.map (fun c => (c.1, c.2.isComm || c.2.isKbdInt))) := by decide +kernel

/-- **the caller**: `_pyroInvoke` raises the decoded exception and releases the connection exactly for
    CommunicationErrors and KeyboardInterrupt; a plain reply is returned; no reply is a ConnectionClosedError with release;
    the batch result iterator yields, then raises without releasing, and turns StopIteration into RuntimeError -/
theorem C07_gen_client : (∀ r ∈ Pyro.Gen.C07.clientProbe, r.2 = ((genInfo r.1).isComm || (genInfo r.1).isKbdInt))
    ∧ 70 ≤ Pyro.Gen.C07.clientProbe.length
    ∧ Pyro.Gen.C07.clientReturnsValue = true ∧ Pyro.Gen.C07.clientNoReplyIsConnectionClosedAndReleases = true
    ∧ Pyro.Gen.C07.batchYieldsThenRaises = true ∧ Pyro.Gen.C07.batchRaiseDoesNotRelease = true
    ∧ Pyro.Gen.C07.batchStopIterationBecomesRuntimeError = true := by
  refine ⟨fun r hr => ?_, by decide +kernel⟩
  obtain ⟨c, hc, rfl⟩ := List.mem_map.mp (clientProbe_rows.subset hr)
  simp only [genInfo_row c hc]

/-- what the scripted send of the retry probe does at an attempt (scripts as numbered in `Gen.C07.retryProbe`) -/
def probeOutcome (script attempt : Nat) : Outcome :=
  match script with
  | 0 => .connLost
  | 1 => .raised ⟨cs "Pyro5.errors.TimeoutError", [], []⟩
  | 2 => .raised ⟨cs "Pyro5.errors.CommunicationError", [], []⟩
  | 3 => .raised ⟨cs "builtins.ValueError", [], []⟩
  | 4 => .value .none
  | 5 => if attempt < 1 then .connLost else .value .none
  | 6 => if attempt < 2 then .connLost else .value .none
  | 7 => if attempt < 1 then .raised ⟨cs "Pyro5.errors.TimeoutError", [], []⟩
         else if attempt < 2 then .connLost else .value .none
  | _ => .unmodelled

/-- outcome numbers of `Gen.C07.retryProbe`: 0 value, 1 returned None, 2 ConnectionClosedError, 3 TimeoutError,
    4 other CommunicationError, 5 ValueError, 6 other -/
def outcomeCode : Option (ClientOut × ConnFate) → Nat
  | none => 1
  | some r =>
    match r.1.outcome with
    | .value _ => 0
    | .connLost => 2
    | .raised e =>
      if e.cls = cs "Pyro5.errors.ConnectionClosedError" then 2
      else if e.cls = cs "Pyro5.errors.TimeoutError" then 3
      else if e.cls = cs "Pyro5.errors.CommunicationError" then 4
      else if e.cls = cs "builtins.ValueError" then 5 else 6
    | _ => 6

/-- **the retry loop**: on every probed (max_retries 0–3, script) the real `_RemoteMethod` call ended as the model's
    `remoteMethod` with the bound `retryBound` does, after the same number of sends; attribute reads bypass it -/
theorem C07_gen_retry : (∀ r ∈ Pyro.Gen.C07.retryProbe,
      (let res := remoteMethod (genClientEnv idCtor) (retryBound r.1) r.1
          (fun a => (⟨[], probeOutcome r.2.1 a, false⟩, ConnFate.active));
       (outcomeCode res.1, res.2)) = (r.2.2.1, r.2.2.2))
    ∧ 32 ≤ Pyro.Gen.C07.retryProbe.length ∧ Pyro.Gen.C07.attributeReadSendsOnce = true := by decide +kernel

/-- names are compared in packed form: the kernel is slow to unpack a text (`cs`) -/
theorem eq_of_map_ofList {a b : List Str} (h : a.map String.ofList = b.map String.ofList) : a = b := by
  have := congrArg (List.map String.toList) h
  simpa only [List.map_map, Function.comp_def, String.toList_ofList, List.map_id'] using this

/-- the two classes the retry loop catches are flagged as such, and nothing else in the whitelist is -/
theorem C07_gen_retry_classes :
    (Pyro.Gen.C07.classFlags.filter (fun r => r.2.isConnClosed || r.2.isPyroTimeout)).map Prod.fst
      = [cs "Pyro5.errors.ConnectionClosedError", cs "Pyro5.errors.TimeoutError"] := by
  apply eq_of_map_ofList
  simp only [List.map_cons, List.map_nil, cs, String.ofList_toList]
  decide +kernel

/-- **the dicts**: what `class_to_dict` builds for an exception (keys `__class__` = module.Name, `__exception__` = True,
    `args`, `attributes` = vars), the wrapper's dict, `raiseIt`, and `make_exception` on four inputs -/
theorem C07_gen_dict :
    Pyro.Gen.C07.excDictProbe = [("__class__", "'builtins.ValueError'"), ("__exception__", "True"), ("args", "('a', 1)"),
      ("attributes", "{'x': 5, 'y': [1, {'k': None}]}")]
    ∧ Pyro.Gen.C07.excDictPyro = [("__class__", "'Pyro5.errors.NamingError'"), ("__exception__", "True"), ("args", "()"),
      ("attributes", "{}")]
    ∧ Pyro.Gen.C07.excDictProbe.map (fun p => p.1.toList) = [kClass, kException, kArgs, kAttributes]
    ∧ Pyro.Gen.C07.wrapperDictIsClassPlusException = true ∧ Pyro.Gen.C07.wrapperRaisesItsException = true
    ∧ Pyro.Gen.C07.makeExceptionProbe = [("tuple-args+attrs", "builtins.ValueError ('a', 1) [('x', 5), ('y', [1])]"),
      ("list-args", "builtins.ValueError ('a',) []"), ("empty-args", "builtins.ValueError () []"),
      ("no-args-key", "raises builtins.KeyError")] :=
  ⟨rfl, rfl, by decide +kernel, rfl, rfl, rfl⟩

/-- the probe lists the whitelisted names in the whitelist's order, so one pass (`Sublist`) finds them all -/
theorem whitelist_probed : (whitelist.map (fun q => (q, some q))).Sublist Pyro.Gen.C07.dispatchProbe := by
  decide +kernel

/-- **the class-name dispatch**: for every probed serialised class name (all whitelisted names, all keys of
    `all_exceptions`, and thirty odd ones) the real `dict_to_class` calls `make_exception` with exactly the class the
    model's `resolves` gives — or does not call it at all -/
theorem C07_gen_dispatch : (∀ p ∈ Pyro.Gen.C07.dispatchProbe, resolves genNames p.1 = p.2)
    ∧ (∀ q ∈ whitelist, q ∈ Pyro.Gen.C07.dispatchProbe.map (·.1)) := by
  refine ⟨by decide +kernel, fun q hq => ?_⟩
  exact List.mem_map_of_mem (f := (·.1)) (whitelist_probed.subset (List.mem_map_of_mem hq))

/-- every whitelisted class name is resolved by the receiver's dispatch to that very class -/
theorem C07_gen_whitelist_resolves : ∀ q ∈ whitelist, resolves genNames q = some q :=
  fun q hq => C07_gen_dispatch.1 (q, some q) (whitelist_probed.subset (List.mem_map_of_mem hq))

/-! ## why only part of the full statement holds -/

theorem content_empty (q : Str) : Content (relist false) (fun v => hasObj v = false) ⟨q, [], []⟩ tbVal :=
  ⟨fun _ => nofun, fun _ => nofun, ⟨rfl, rfl⟩, List.nodup_nil⟩

/-- witness 1: a remote method raising `KeyboardInterrupt` (a BaseException that is no Exception) — the server's
    handler does not catch it, no reply is sent, the caller sees the connection close -/
def witnessNonException : Exc := ⟨cs "builtins.KeyboardInterrupt", [], []⟩
/-- witness 2: a remote method raising `Pyro5.errors.TimeoutError` (a CommunicationError) — caught, not reported
    back, re-raised: the caller sees the connection close -/
def witnessComm : Exc := ⟨cs "Pyro5.errors.TimeoutError", [], []⟩
/-- witness 3: a batch member raising `StopIteration` — forwarded, but the caller's result generator turns it into
    RuntimeError (PEP 479) -/
def witnessStop : Exc := ⟨cs "builtins.StopIteration", [], []⟩

/-- not caught by the handler (no `Exception`), or caught and not reported back: no reply, the caller sees the
    connection close -/
theorem clientCall_no_reply {W : Type} (S : ServerEnv) (K : ClientEnv) (c : Codec W) (R : Render) (kind : CallKind)
    (e : Exc) (tb : Val) (h : ((S.info e.cls).isException && repliesTo (S.info e.cls)) = false) :
    (clientCall S K c R kind (.raise e) tb).1 = ⟨[], .connLost, true⟩ := by
  unfold clientCall serverCall errorPath
  cases hx : (S.info e.cls).isException
  · simp only [hx, Bool.false_eq_true, if_false, clientInvoke]
  · rw [hx, Bool.true_and] at h
    simp only [hx, h, if_true, Bool.false_eq_true, if_false, clientInvoke]

/-- every whitelisted class whose exceptions the server does not report back refutes the full statement; the facts
    about `q` come as one conjunction so that one search of the class table proves them -/
theorem roundtrip_fails_of (q : Str) (hq : q ∈ whitelist
    ∧ ((genServerEnv.info q).isException && repliesTo (genServerEnv.info q)) = false) : ¬ C07_roundtrip_Statement := by
  intro h
  have := h Val (treeCodec false (pyErr qTypeError)) _ _ (treeCodec_law false _) plainRender idCtor (.plain false)
    ⟨q, [], []⟩ tbVal hq.1 (content_empty _) rfl
  rw [clientCall_no_reply genServerEnv _ _ _ _ ⟨q, [], []⟩ _ hq.2] at this
  cases this

/-- **C07_roundtrip_fails_nonexception.**  The full statement is false: witness 1. -/
theorem C07_roundtrip_fails_nonexception : ¬ C07_roundtrip_Statement :=
  roundtrip_fails_of witnessNonException.cls (by decide +kernel)

/-- **C07_roundtrip_fails_comm.**  The full statement is false also inside `Exception`: witness 2. -/
theorem C07_roundtrip_fails_comm : ¬ C07_roundtrip_Statement :=
  roundtrip_fails_of witnessComm.cls (by decide +kernel)

/-- every whitelisted `Exception` that is a StopIteration refutes the full batch statement: the caller's result
    generator raises RuntimeError in its place -/
theorem batch_fails_of (q : Str) (hq : q ∈ whitelist ∧ (genInfo q).isException = true
    ∧ (genInfo q).isStopIter = true) : ¬ C07_roundtrip_batch_Statement := by
  intro h
  have := h Val (treeCodec false (pyErr qTypeError)) _ _ (treeCodec_law false _) plainRender idCtor true [] []
    ⟨q, [], []⟩ tbVal hq.1 (content_empty _) rfl (fun _ => nofun)
  obtain ⟨w, hser, _⟩ := serializeException_ok (treeCodec_law false (pyErr qTypeError)) plainRender ⟨q, [], []⟩ tbVal
    (content_empty _)
  rw [clientBatch_wrapped genServerEnv (genClientEnv idCtor) (treeCodec_law false _) plainRender true _ [] _ tbVal
    (batchLoop_raise genServerEnv _ plainRender true tbVal [] ⟨q, [], []⟩ [] hq.2.1 _ w (fun _ => hser) fun _ => rfl)
    (content_empty _).withTraceback (fun _ => nofun) (C07_gen_whitelist_resolves q hq.1) rfl
    List.not_mem_nil] at this
  rw [show ((genClientEnv idCtor).info (withTraceback tbVal ⟨q, [], []⟩).cls).isStopIter = true from hq.2.2] at this
  -- the RuntimeError carries a message, the witness has no arguments
  injection this with this
  injection this with _ hargs
  cases hargs

/-- **C07_batch_stopiteration.**  The full batch statement is false: witness 3 — the caller gets RuntimeError. -/
theorem C07_batch_stopiteration : ¬ C07_roundtrip_batch_Statement :=
  batch_fails_of witnessStop.cls (by decide +kernel)

/-! ## the partial theorems instantiated with the extracted tables -/

/-- **C07_roundtrip_whitelisted.**  With the extracted whitelist, name tables and class relations: every whitelisted
    class that is an `Exception` and no CommunicationError other than SerializeError round-trips in every single-call
    kind through every lawful serializer library. -/
theorem C07_roundtrip_whitelisted {W : Type} (c : Codec W) (norm : Val → Val) (dom : Val → Prop)
    (law : CodecLaw c norm dom) (R : Render) (ctor : Str → List Val → Except Exc (Str × List Val)) (kind : CallKind)
    (e : Exc) (tb : Val) (hw : e.cls ∈ whitelist) (hcontent : Content norm dom e tb)
    (hctor : ctor e.cls e.args = .ok (e.cls, e.args)) (hsend : Sendable (genInfo e.cls)) :
    clientCall genServerEnv (genClientEnv ctor) c R kind (.raise e) tb
      = (raisedBy (genClientEnv ctor) (withTraceback tb e), fateAfter (genInfo e.cls) kind.isCallback) :=
  C07_roundtrip_partial genServerEnv (genClientEnv ctor) c norm dom law R kind e tb hcontent
    (C07_gen_whitelist_resolves e.cls hw) hctor hsend

/-- which whitelisted classes the hypothesis `Sendable` excludes (by name, from the extracted relations) -/
def notSendable : List Str :=
  whitelist.filter (fun q => !((genInfo q).isException && !(genInfo q).isConnClosed
    && ((genInfo q).isSerialize || !(genInfo q).isComm)))

/-- every whitelisted class outside `notSendable` satisfies `Sendable` -/
theorem C07_gen_sendable : ∀ q ∈ whitelist, q ∉ notSendable → Sendable (genInfo q) := by
  intro q hq hn
  have h : ¬ _ := fun hb => hn (List.mem_filter.mpr ⟨hq, hb⟩)
  simp only [Bool.not_eq_true', Bool.not_eq_false, Bool.and_eq_true, Bool.or_eq_true] at h
  exact ⟨h.1.1, h.1.2, h.2⟩

theorem whitelist_filter (p : Flags → Bool) : whitelist.filter (fun q => p (genInfo q))
    = (Pyro.Gen.C07.classFlags.filter (fun c => p c.2 && c.1 != qStructError)).map Prod.fst := by
  unfold whitelist
  rw [List.filter_filter, List.filter_map]
  exact congrArg (List.map Prod.fst)
    (List.filter_congr fun c hc => by simp only [Function.comp, genInfo_row c hc])

/-- the excluded classes, by name: the five BaseExceptions that are no Exception and the five CommunicationErrors
    that are no SerializeError -/
example : notSendable = [cs "Pyro5.errors.CommunicationError", cs "Pyro5.errors.ConnectionClosedError",
    cs "Pyro5.errors.MessageTooLargeError", cs "Pyro5.errors.ProtocolError", cs "Pyro5.errors.TimeoutError",
    cs "builtins.BaseException", cs "builtins.BaseExceptionGroup", cs "builtins.GeneratorExit",
    cs "builtins.KeyboardInterrupt", cs "builtins.SystemExit"] := by
  unfold notSendable
  rw [whitelist_filter (fun f => !(f.isException && !f.isConnClosed && (f.isSerialize || !f.isComm)))]
  apply eq_of_map_ofList
  simp only [List.map_cons, List.map_nil, cs, String.ofList_toList]
  decide +kernel

/-! ## non-vacuity: concrete values meet the hypotheses -/

def exampleExc : Exc :=
  ⟨cs "builtins.ValueError", [.str (cs "bad value"), .int 42, .list [.none, .bool true]],
   [(cs "code", .int 7), (cs "detail", .dict [(cs "k", .str (cs "v"))])]⟩

theorem exampleContent (seq : Bool) : Content (relist seq) (fun v => hasObj v = false)
    { exampleExc with args := [.str (cs "bad value"), .int 42, .list [.none, .bool true]] } tbVal := by
  refine ⟨?_, ?_, ⟨rfl, rfl⟩, by decide⟩
  · intro a ha
    simp only [List.mem_cons, List.not_mem_nil, or_false] at ha
    rcases ha with rfl | rfl | rfl <;> exact ⟨rfl, rfl⟩
  · intro p hp
    simp only [exampleExc, List.mem_cons, List.not_mem_nil, or_false] at hp
    rcases hp with rfl | rfl <;> exact ⟨rfl, rfl⟩

theorem exampleExc_class : exampleExc.cls ∈ whitelist ∧ genInfo exampleExc.cls = defaultFlags :=
  row_whitelisted (by decide +kernel)

/-- the hypotheses of `C07_roundtrip_whitelisted` hold for a ValueError with three arguments and two attributes,
    for the json-like codec (tuples come back as lists) -/
example : exampleExc.cls ∈ whitelist ∧ Sendable (genInfo exampleExc.cls)
    ∧ idCtor exampleExc.cls exampleExc.args = .ok (exampleExc.cls, exampleExc.args) :=
  ⟨exampleExc_class.1, exampleExc_class.2 ▸ ⟨rfl, rfl, Or.inr rfl⟩, rfl⟩

/-- … and the conclusion is the non-trivial one: the caller raises a ValueError with three arguments and *three*
    attributes (the two custom ones and the traceback) -/
example : (clientCall genServerEnv (genClientEnv idCtor) (treeCodec true (pyErr qTypeError)) plainRender .getattr
      (.raise exampleExc) tbVal).1.outcome = .raised (withTraceback tbVal exampleExc)
    ∧ (withTraceback tbVal exampleExc).attrs.length = 3 := by
  rw [C07_roundtrip_whitelisted (treeCodec true (pyErr qTypeError)) _ _ (treeCodec_law true _) plainRender idCtor
    .getattr exampleExc tbVal exampleExc_class.1 (exampleContent true) rfl
    (exampleExc_class.2 ▸ ⟨rfl, rfl, Or.inr rfl⟩)]
  exact ⟨rfl, by decide⟩

/-- an unserialisable attribute: the tree codec refuses the object, the hypothesis of `C07_fallback` holds -/
example : (treeCodec false (pyErr qTypeError)).dumps
    (excToDict (withTraceback tbVal ⟨cs "builtins.ValueError", [], [(cs "lock", .obj (cs "_thread.lock"))]⟩)) = none := by
  decide +kernel

end Pyro.C07
