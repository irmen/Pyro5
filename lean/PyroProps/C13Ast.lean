/-
  C13Ast.lean — `SocketConnection.close`, transcribed from the source into PyIR on every run (Gen/C13.lean, `closeSrc`):
  whatever subset of the resources' close() methods (and of the two socket calls) raises, close() never raises, calls
  close() on every tracked resource exactly once and in iteration order, and leaves no tracked resource and no session
  instance behind; with keep_open it touches nothing; a second close() closes no resource again.
-/
import PyroProofs.PyIRExec
import PyroModel.Gen.C13

namespace Pyro.C13Ast

open Pyro Pyro.PyIR

/-- the state close() starts in -/
def initEnv (keepOpen : Bool) (tracked : List Nat) (inst : List (List Nat × Bytes)) : Env :=
  [("self.keep_open", .bool keepOpen), ("self.tracked_resources", .resources tracked), ("self.pyroInstances", .dict inst)]

/-- close() run from that state, on a socket with nothing logged yet; the loop spends one unit of fuel per tracked
    resource and one to find the collection empty (`close_loop`) -/
def runClose (cfg : Cfg) (body : Stmt) (keepOpen : Bool) (tracked : List Nat) (inst : List (List Nat × Bytes)) : Res :=
  exec cfg body (tracked.length + 2) none (initEnv keepOpen tracked inst) ⟨[], [], [], []⟩

/-- the `for rsc in ...: with suppress(Exception): rsc.close()` loop: each resource is closed once, in order, whichever
    of the calls raise -/
theorem close_loop (cfg : Cfg) (cur : Option Val) (x : String) :
    ∀ (l : List Nat) (e : Expr) (fuel : Nat) (env : Env) (w : World),
    eval cfg env e = some (.resources l) → l.length ≤ fuel →
    ∃ env', exec cfg (.forEach x e (.suppress (.closeRes (.var x)))) (fuel + 1) cur env w = .normal env' (logged w l) ∧
      (∀ n, n ≠ x → env'.lookup n = env.lookup n) := by
  intro l
  induction l with
  | nil =>
    intro e fuel env w he _
    exact ⟨env, by rw [exec_forEach_nil he, logged, List.append_nil], fun _ _ => rfl⟩
  | cons r rest ih =>
    intro e fuel env w he hf
    cases fuel with
    | zero => cases hf
    | succ f =>
      obtain ⟨env', he', hl⟩ := ih (.lit (.resources rest)) f ((x, .resource r) :: env) (logged w [r]) rfl
        (Nat.le_of_succ_le_succ hf)
      refine ⟨env', ?_, fun n hn => ?_⟩
      · rw [exec_forEach_cons he (exec_closeRes (e := .var x) (List.lookup_cons_self ..)), he', logged_logged]
        rfl
      · rw [hl n hn, lookup_cons_ne hn]

/-- **SocketConnection.close, as written now**, on a connection that is not kept open: whichever of the calls raise,
    close() returns normally, has called shutdown, close and then close() on each tracked resource once, in order,
    and the connection holds no tracked resource and no session instance afterwards -/
theorem close_translated (cfg : Cfg) (tracked : List Nat) (inst : List (List Nat × Bytes)) :
    ∃ env w, runClose cfg Gen.C13.closeSrc false tracked inst = .normal env w ∧
      w.log = [sockShutdownMark, sockCloseMark] ++ tracked ∧
      env.lookup "self.tracked_resources" = some (.resources []) ∧
      env.lookup "self.pyroInstances" = some (.dict []) := by
  have ht : (initEnv false tracked inst).lookup "self.tracked_resources" = some (.resources tracked) :=
    (lookup_cons_ne (by simp)).trans (List.lookup_cons_self ..)
  have h1 : ∀ w, exec cfg (.ite (.var "self.keep_open") (.ret (.lit .none)) .skip) (tracked.length + 2) none
      (initEnv false tracked inst) w = .normal (initEnv false tracked inst) w :=
    fun _ => (exec_ite _ _ (truth_var (List.lookup_cons_self ..))).trans exec_skip
  obtain ⟨env, h5, hl⟩ := close_loop cfg none "v0" tracked (.var "self.tracked_resources") (tracked.length + 1)
    (("self.pyroInstances", .dict []) :: initEnv false tracked inst)
    (logged (logged ⟨[], [], [], []⟩ [sockShutdownMark]) [sockCloseMark]) ((lookup_cons_ne (by simp)).trans ht)
    (Nat.le_succ _)
  have ht' : env.lookup "self.tracked_resources" = some (.resources tracked) :=
    (hl _ (by simp)).trans ((lookup_cons_ne (by simp)).trans ht)
  have hi : env.lookup "self.pyroInstances" = some (.dict []) := (hl _ (by simp)).trans (List.lookup_cons_self ..)
  refine ⟨("self.tracked_resources", .resources []) :: env,
    logged (logged (logged ⟨[], [], [], []⟩ [sockShutdownMark]) [sockCloseMark]) tracked, ?_, rfl,
    List.lookup_cons_self .., (lookup_cons_ne (by simp)).trans hi⟩
  unfold runClose Gen.C13.closeSrc
  simp only [exec_seq, h1, exec_sockShutdown, exec_sockClose, exec_assign (e := .emptyDict) rfl, h5, exec_clearColl ht']

/-- with keep_open (a socket the daemon was handed and does not own) close() returns at once and touches nothing -/
theorem close_keep_open (cfg : Cfg) (tracked : List Nat) (inst : List (List Nat × Bytes)) :
    ∃ w, runClose cfg Gen.C13.closeSrc true tracked inst = .ret .none w ∧ w.log = [] := by
  refine ⟨⟨[], [], [], []⟩, ?_, rfl⟩
  unfold runClose Gen.C13.closeSrc
  rw [exec_seq, exec_ite (b := true) _ _ (truth_var (List.lookup_cons_self ..)), if_pos rfl, exec_ret rfl]

/-- **exactly once**: a second close() of the same connection (the state the first one left) closes no resource again -/
theorem close_twice (cfg : Cfg) (tracked : List Nat) (inst : List (List Nat × Bytes)) :
    ∃ env w env2 w2, runClose cfg Gen.C13.closeSrc false tracked inst = .normal env w ∧
      runClose cfg Gen.C13.closeSrc false [] [] = .normal env2 w2 ∧
      env.lookup "self.tracked_resources" = some (.resources []) ∧ env.lookup "self.pyroInstances" = some (.dict []) ∧
      w2.log = [sockShutdownMark, sockCloseMark] := by
  obtain ⟨env, w, h1, _, ht, hi⟩ := close_translated cfg tracked inst
  obtain ⟨env2, w2, h2, hl, _, _⟩ := close_translated cfg [] []
  exact ⟨env, w, env2, w2, h1, h2, ht, hi, by simpa using hl⟩

/-- non-vacuity: three tracked resources, the second one's close() raises, and so does the socket's shutdown -/
def exampleCfg : Cfg :=
  { useWaitall := false, peercert := false, blocking := true, isSub := fun _ _ => false,
    closeRaises := fun r => r == 12 || r == sockShutdownMark }

-- an instance of the theorem: `exec` is defined by well-founded recursion and does not reduce under `decide`
example : ∃ env w, runClose exampleCfg Gen.C13.closeSrc false [11, 12, 13] [] = .normal env w ∧
    w.log = [sockShutdownMark, sockCloseMark, 11, 12, 13] := by
  obtain ⟨env, w, h, hl, _, _⟩ := close_translated exampleCfg [11, 12, 13] []
  exact ⟨env, w, h, hl⟩

end Pyro.C13Ast
