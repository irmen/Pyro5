/-
  C09 — Instance modes: one per daemon, one per connection, or one per call.

  Model: PyroModel/Instances.lean (`_getInstance`, `createInstance`, `SocketConnection.__init__/close`,
  `behavior`, the default of `register`).  The operator with which `_getInstance` decides that a table
  holds no instance yet is a parameter of the model (`Tests`); the extractor reads it from the source
  (`Pyro.Gen.C09.singleTest/sessionTest`).  The property is proved for `instance is None` (`fixed`);
  `C09_gen_tests` is the obligation that this is what the source does.  For the operator upstream
  shipped (`if not instance:`, `asShipped`) the statement is refuted from a concrete witness (finding
  F9) and only the `_partial` theorems hold (instances that are truthy).

  All theorems quantify over every class table `spec`, every history of opening connections, calls and
  closing, and every behaviour of user code (each call carries the `Outcome` its constructor / creator
  would have); the `single` race is quantified over every schedule through `Pyro.Lock.atomic`.
-/
import PyroModel.Instances
import PyroProofs.Instances
import PyroModel.Gen.C09

namespace Pyro.C09

open Pyro Pyro.Inst Pyro.Lock

/-- `if instance is None:` in both branches -/
def fixed : Tests := ⟨.isNone, .isNone⟩
/-- `if not instance:` in both branches (upstream before the fix) -/
def asShipped : Tests := ⟨.falsy, .falsy⟩

/-- the operators the current source uses -/
def srcTests : Option Tests :=
  match Test.ofString Pyro.Gen.C09.singleTest, Test.ofString Pyro.Gen.C09.sessionTest with
  | some a, some b => some ⟨a, b⟩
  | _, _ => none

/-! ### obligations about the extracted facts -/

/-- **C09_gen_tests.**  Both table lookups of `_getInstance` test `instance is None`: the theorems
    below are about the code as it is. -/
theorem C09_gen_tests : srcTests = some fixed := by decide +kernel

/-- **C09_gen_shape.**  `_getInstance` has the control structure the model follows, up to renaming of
    parameters / locals / the helper, logging, docstrings, message texts and the early-return ⇄ else and negated-test
    forms (see harness/props/c09_extract.py): unpack of `_pyroInstancing`; the three mode branches in order;
    get / test / create / store / return in `single` (all inside the lock) and `session`; a bare create in
    `percall`; `DaemonError` otherwise; the creation helper is creator-if-truthy, isinstance check else
    `TypeError`, otherwise `clazz()`, every exception re-raised. -/
theorem C09_gen_shape :
    Pyro.Gen.C09.unpack = "v0, v1 = a0._pyroInstancing" ∧
    Pyro.Gen.C09.modeBranches = ["single", "session", "percall"] ∧
    Pyro.Gen.C09.singleShape = "with(self.create_single_instance_lock)[x0 = self._pyroInstances.get(a0);if(TEST)[x0 = f0(a0, v1);self._pyroInstances[a0] = x0];return x0]" ∧
    Pyro.Gen.C09.sessionShape = "x0 = a1.pyroInstances.get(a0);if(TEST)[x0 = f0(a0, v1);a1.pyroInstances[a0] = x0];return x0" ∧
    Pyro.Gen.C09.percallShape = "return f0(a0, v1)" ∧
    Pyro.Gen.C09.elseShape = "raise errors.DaemonError" ∧
    Pyro.Gen.C09.createShape = "try[if(a1)[x0 = a1(a0);if(isinstance(x0, a0))[return x0]else[raise TypeError]]else[return a0()]]except(Exception)[raise]" :=
  ⟨rfl, rfl, rfl, rfl, rfl, rfl, rfl⟩

/-- **C09_gen_lock.**  The only functions that touch `_pyroInstances` are `Daemon.__init__` (where the daemon is
    not shared yet) and `_getInstance`, whose accesses are all lexically inside `with <the single-instance lock>:`;
    the lock is a real `threading` lock, and the lock attribute and the table attribute are bound once, in `__init__`
    (one lock object and one table for the daemon's whole lifetime: closing the daemon or re-entering its request
    loop does not replace them); no other function of the package mentions either table; `_getInstance`
    has its one call site in `handleRequest`. -/
theorem C09_gen_lock :
    Pyro.Gen.C09.instShape.map (·.1) = ["Daemon.__init__", "Daemon._getInstance"] ∧
    (∀ m ∈ Pyro.Gen.C09.instShape, m.1 = "Daemon.__init__" ∨ (m.2.2 = 0 ∧ 0 < m.2.1)) ∧
    Pyro.Gen.C09.lockKind ∈ ["Lock", "RLock"] ∧
    Pyro.Gen.C09.lockWriters = ["Daemon.__init__"] ∧ Pyro.Gen.C09.tableWriters = ["Daemon.__init__"] ∧
    Pyro.Gen.C09.tableUsers = ["server.py:Daemon.__init__", "server.py:Daemon._getInstance",
      "socketutil.py:SocketConnection.__init__", "socketutil.py:SocketConnection.close"] ∧
    Pyro.Gen.C09.getInstanceCallers = ["Daemon.handleRequest:1"] :=
  ⟨rfl, by decide +kernel, by decide +kernel, rfl, rfl, rfl, rfl⟩

/-- **C09_gen_daemon.**  (Probe of two real `Daemon` objects.)  Every daemon has an empty table and a lock of its
    own in its instance dict, and neither name exists as a class attribute (which all daemons of the process
    would share).  This is what makes m daemons m independent copies of the model. -/
theorem C09_gen_daemon :
    Pyro.Gen.C09.daemonsOwnTables = true ∧ Pyro.Gen.C09.daemonsOwnLocks = true ∧
    Pyro.Gen.C09.daemonClassLevelTables = [] :=
  ⟨rfl, rfl, rfl⟩

/-- **C09_gen_conn.**  (Probe of real `SocketConnection` objects.)  A connection starts with an empty session table
    of its own; `close` empties it — also when `shutdown()` and/or `close()` of the socket fail — and leaves it
    alone only for a `keep_open` connection; it never raises. -/
theorem C09_gen_conn :
    Pyro.Gen.C09.connFresh = true ∧
    Pyro.Gen.C09.connClose = [("plain", true), ("keep_open", false), ("shutdown-fails", true), ("close-fails", true),
      ("both-fail", true)] :=
  ⟨rfl, rfl⟩

def modeArgOfCode : Nat → ModeArg
  | 0 => .str .single | 1 => .str .session | 2 => .str .percall | 3 => .str .invalid | _ => .notStr

def creatorArgOfCode : Nat → CreatorArg
  | 0 => .none | 1 => .callable | 2 => .falsyCallable | 3 => .notCallable | _ => .falsyNotCallable

def specCode (s : ClassSpec) : Nat :=
  100 + 10 * (match s.mode with | .single => 0 | .session => 1 | .percall => 2 | .invalid => 3) +
    (match s.creator with | .none => 0 | .callable => 1 | .falsy => 2)

def behaviorCode : BehaviorRes → Nat
  | .stored s => specCode s | .typeError => 1 | .valueError => 2 | .syntaxError => 3

/-- **C09_gen_behavior.**  (Probe of the real `behavior` and `register`.)  On the whole abstract argument table —
    class or not × {three modes, another string, not a string} × {None, callable, falsy callable, truthy
    non-callable, falsy non-callable} — the real decorator does exactly what `behaviorCheck` says (which error,
    or which `(mode, creator)` pair is stored); its defaults are ("session", None); `register` stamps
    ("session", None) on an undecorated class only, leaving a decorated class and a subclass that inherits its
    instancing alone. -/
theorem C09_gen_behavior :
    Pyro.Gen.C09.behaviorTable.map (fun r => (r.1, r.2.1, r.2.2.1)) =
      ([true, false].flatMap fun ic => (List.range 5).flatMap fun m => (List.range 5).map fun c => (ic, m, c)) ∧
    (∀ r ∈ Pyro.Gen.C09.behaviorTable,
      behaviorCode (behaviorCheck r.1 (modeArgOfCode r.2.1) (creatorArgOfCode r.2.2.1)) = r.2.2.2) ∧
    Pyro.Gen.C09.behaviorDefault = specCode (registerSpec none) ∧
    Pyro.Gen.C09.registerProbe = [specCode (registerSpec none), specCode (registerSpec (some ⟨.percall, .callable⟩)),
      specCode (registerSpec (some ⟨.single, .none⟩))] := by decide +kernel

theorem behaviorCheck_stored {isClass : Bool} {md : Mode} {cr : CreatorArg} {spec : ClassSpec}
    (h : behaviorCheck isClass (.str md) cr = .stored spec) :
    md ≠ .invalid ∧ cr ≠ .notCallable ∧ spec = ⟨md, cr.seen⟩ := by
  simp only [behaviorCheck] at h
  split at h
  · cases h
  · split at h
    · cases h
    · split at h
      · cases h
      · rename_i _ h1 h2
        exact ⟨by simpa using h1, by simpa using h2, by cases h; rfl⟩

/-- **C09_behavior_modes.**  Whatever `behavior` accepts stores one of the three modes: the
    `DaemonError` branch of `_getInstance` is unreachable through the decorator; and a class registered
    without the decorator is a `session` class without creator. -/
theorem C09_behavior_modes (isClass : Bool) (m : ModeArg) (cr : CreatorArg) (spec : ClassSpec)
    (h : behaviorCheck isClass m cr = .stored spec) :
    spec.mode ≠ .invalid ∧ (∃ md, m = .str md ∧ spec.mode = md) ∧ spec.creator = cr.seen ∧ cr ≠ .notCallable ∧
    registerSpec none = ⟨.session, .none⟩ := by
  cases m with
  | notStr => cases h
  | str md =>
    obtain ⟨h1, h2, rfl⟩ := behaviorCheck_stored h
    exact ⟨h1, ⟨md, rfl, rfl⟩, rfl, h2, rfl⟩

/-! ### single: one instance per daemon (sequential histories) -/

/-- Full statement for `single`: in every history, all calls on a `single` class that are served are
    served by one and the same instance (whichever connections they come from, whatever was opened or
    closed in between), and no call after the first served one creates anything. -/
def C09_single_Statement (ts : Tests) : Prop :=
  ∀ (spec : Nat → ClassSpec) (h : List Event) (i j c c' k : Nat) (o o' : Outcome) (a : Instance) (x y : Bool),
    (spec k).mode = .single → i < j → h[i]? = some (.call c k o) → h[j]? = some (.call c' k o') →
    (trace ts spec State.init h)[i]? = some (.served a x y) →
    (trace ts spec State.init h)[j]? = some (.served a false false)

theorem single_general {ts : Tests} {spec : Nat → ClassSpec} {s : State} {h : List Event} {i j c c' k : Nat}
    {o o' : Outcome} {a : Instance} {x y : Bool} (hr : reuse ts.single a = true)
    (hm : (spec k).mode = .single) (hij : i < j) (hi : h[i]? = some (.call c k o))
    (hj : h[j]? = some (.call c' k o')) (hti : (trace ts spec s h)[i]? = some (.served a x y)) :
    (trace ts spec s h)[j]? = some (.served a false false) := by
  refine slot_unique (sl := .single k) hij hi hj ?_ ?_ ?_ hr hti
  · rw [hm]; rfl
  · rw [hm]; rfl
  · intro m e _ _ _; cases e <;> rfl

/-- **C09_single.**  With `instance is None` the full statement holds — for every instance shape,
    truthy or falsy, whatever its `__eq__`. -/
theorem C09_single : C09_single_Statement fixed := by
  intro spec h i j c c' k o o' a x y hm hij hi hj hti
  exact single_general (ts := fixed) rfl hm hij hi hj hti

/-- **C09_single_partial.**  With either operator the statement holds for instances that are truthy. -/
theorem C09_single_partial (ts : Tests) (spec : Nat → ClassSpec) (h : List Event) (i j c c' k : Nat)
    (o o' : Outcome) (a : Instance) (x y : Bool) (htruthy : a.truthy = true)
    (hm : (spec k).mode = .single) (hij : i < j) (hi : h[i]? = some (.call c k o))
    (hj : h[j]? = some (.call c' k o')) (hti : (trace ts spec State.init h)[i]? = some (.served a x y)) :
    (trace ts spec State.init h)[j]? = some (.served a false false) :=
  single_general (reuse_of_truthy _ a htruthy) hm hij hi hj hti

/-- **C09_single_falsy_refuted** (finding F9).  With `if not instance:` the statement is false: a
    `single` class whose instances are falsy, two calls → two instances. -/
theorem C09_single_falsy_refuted : ¬ C09_single_Statement asShipped := by
  intro hst
  have := hst (fun _ => ⟨.single, .none⟩) [.call 0 0 (.ok false 0), .call 1 0 (.ok false 0)] 0 1 0 1 0
    (.ok false 0) (.ok false 0) ⟨0, false, 0⟩ true false rfl (by decide) rfl rfl (by decide)
  revert this
  decide

/-! ### session: one instance per connection, private to it, dropped with it -/

/-- Full statement for `session`: two served calls on the same connection for the same `session`
    class, the connection neither closed nor replaced in between, are served by the same instance and
    the second creates nothing. -/
def C09_session_Statement (ts : Tests) : Prop :=
  ∀ (spec : Nat → ClassSpec) (h : List Event) (i j c k : Nat) (o o' : Outcome) (a : Instance) (x y : Bool),
    (spec k).mode = .session → i < j → h[i]? = some (.call c k o) → h[j]? = some (.call c k o') →
    (∀ m, i < m → m < j → h[m]? ≠ some (.close c) ∧ ∀ kp, h[m]? ≠ some (.openConn c kp)) →
    (trace ts spec State.init h)[i]? = some (.served a x y) →
    (trace ts spec State.init h)[j]? = some (.served a false false)

theorem session_general {ts : Tests} {spec : Nat → ClassSpec} {s : State} {h : List Event} {i j c k : Nat}
    {o o' : Outcome} {a : Instance} {x y : Bool} (hr : reuse ts.session a = true)
    (hm : (spec k).mode = .session) (hij : i < j) (hi : h[i]? = some (.call c k o))
    (hj : h[j]? = some (.call c k o'))
    (hopen : ∀ m, i < m → m < j → h[m]? ≠ some (.close c) ∧ ∀ kp, h[m]? ≠ some (.openConn c kp))
    (hti : (trace ts spec s h)[i]? = some (.served a x y)) :
    (trace ts spec s h)[j]? = some (.served a false false) := by
  refine slot_unique (sl := .sess c k) hij hi hj ?_ ?_ ?_ hr hti
  · rw [hm]; rfl
  · rw [hm]; rfl
  · intro m e h1 h2 he
    obtain ⟨hc, ho⟩ := hopen m h1 h2
    cases e with
    | call _ _ _ => rfl
    | close c' =>
      by_cases hcc : c' = c
      · subst hcc; exact absurd he hc
      · simp [clears, hcc]
    | openConn c' kp =>
      by_cases hcc : c' = c
      · subst hcc; exact absurd he (ho kp)
      · simp [clears, hcc]

/-- **C09_session.**  With `instance is None` the full statement holds for every instance shape. -/
theorem C09_session : C09_session_Statement fixed := by
  intro spec h i j c k o o' a x y hm hij hi hj hopen hti
  exact session_general (ts := fixed) rfl hm hij hi hj hopen hti

/-- **C09_session_partial.**  With either operator, for truthy instances. -/
theorem C09_session_partial (ts : Tests) (spec : Nat → ClassSpec) (h : List Event) (i j c k : Nat)
    (o o' : Outcome) (a : Instance) (x y : Bool) (htruthy : a.truthy = true)
    (hm : (spec k).mode = .session) (hij : i < j) (hi : h[i]? = some (.call c k o))
    (hj : h[j]? = some (.call c k o'))
    (hopen : ∀ m, i < m → m < j → h[m]? ≠ some (.close c) ∧ ∀ kp, h[m]? ≠ some (.openConn c kp))
    (hti : (trace ts spec State.init h)[i]? = some (.served a x y)) :
    (trace ts spec State.init h)[j]? = some (.served a false false) :=
  session_general (reuse_of_truthy _ a htruthy) hm hij hi hj hopen hti

/-- **C09_session_falsy_refuted** (finding F9, session branch). -/
theorem C09_session_falsy_refuted : ¬ C09_session_Statement asShipped := by
  intro hst
  have := hst (fun _ => ⟨.session, .none⟩) [.call 0 0 (.ok false 0), .call 0 0 (.ok false 0)] 0 1 0 0
    (.ok false 0) (.ok false 0) ⟨0, false, 0⟩ true false rfl (by decide) rfl rfl
    (by intro m h1 h2; omega) (by decide)
  revert this
  decide

/-- **C09_no_sharing.**  (Either operator.)  Two calls that do not address the same table slot — calls
    on different classes, `session` calls on different connections, any `percall` call and any other
    call — are never served by the same instance, in either order.  Hence no connection ever sees
    another connection's session instance, the single instance of a class serves no other class, and
    a per-call instance serves exactly one call. -/
theorem C09_no_sharing {ts : Tests} {spec : Nat → ClassSpec} {h : List Event} {i j c k c' k' : Nat}
    {o o' : Outcome} {a b : Instance} {x y x' y' : Bool} (hij : i ≠ j)
    (hi : h[i]? = some (.call c k o)) (hj : h[j]? = some (.call c' k' o'))
    (hslots : ∀ sl, slotOf (spec k).mode c k = some sl → slotOf (spec k').mode c' k' ≠ some sl)
    (hti : (trace ts spec State.init h)[i]? = some (.served a x y))
    (htj : (trace ts spec State.init h)[j]? = some (.served b x' y')) : a.idx ≠ b.idx := by
  rcases Nat.lt_or_gt_of_ne hij with hlt | hgt
  · exact exclusive ts spec h State.init i j c k o c' k' o' a x y b x' y' wf_init hlt hi hj hslots hti htj
  · have := exclusive ts spec h State.init j i c' k' o' c k o b x' y' a x y wf_init hgt hj hi
      (fun sl hs heq => hslots sl heq hs) htj hti
    exact fun heq => this heq.symm

/-- **C09_session_private.**  An instance that served a `session` call on one connection never serves
    a `session` call on another connection. -/
theorem C09_session_private (ts : Tests) (spec : Nat → ClassSpec) (h : List Event) (i j c k c' k' : Nat)
    (o o' : Outcome) (a b : Instance) (x y x' y' : Bool) (hc : c ≠ c')
    (hm : (spec k).mode = .session) (hm' : (spec k').mode = .session)
    (hi : h[i]? = some (.call c k o)) (hj : h[j]? = some (.call c' k' o'))
    (hti : (trace ts spec State.init h)[i]? = some (.served a x y))
    (htj : (trace ts spec State.init h)[j]? = some (.served b x' y')) : a.idx ≠ b.idx := by
  have hij : i ≠ j := by
    intro heq; subst heq; rw [hi] at hj; cases hj; exact hc rfl
  refine C09_no_sharing hij hi hj ?_ hti htj
  intro sl hs hs'
  rw [hm] at hs; rw [hm'] at hs'
  cases hs; cases hs'
  exact hc rfl

/-- **C09_session_dropped.**  When a connection (not `keep_open`) is closed its session instances are
    dropped: the next call on that connection object for a `session` class finds nothing and — if its
    constructor / creator succeeds — is served by a newly created instance (which by
    `C09_created_fresh` is different from every instance that served before). -/
theorem C09_session_dropped (ts : Tests) (spec : Nat → ClassSpec) :
    ∀ (h : List Event) (s : State) (i j c k : Nat) (t : Bool) (q : Nat),
      s.keep c = false → (∀ m, m < i → h[m]? ≠ some (.openConn c true)) →
      (spec k).mode = .session → i < j → h[i]? = some (.close c) →
      (∀ m c' k' o', i < m → m < j → h[m]? = some (.call c' k' o') →
          slotOf (spec k').mode c' k' ≠ some (.sess c k)) →
      h[j]? = some (.call c k (.ok t q)) →
      ∃ n, (trace ts spec s h)[j]? = some (.served ⟨n, t, q⟩ true ((spec k).creator == .callable)) := by
  intro h s i j c k t q hk hno hm hij hi hcalls hj
  have hki := before_inv (ts := ts) (spec := spec) (h := h) (fun s' => s'.keep c = false) (Nat.zero_le i) hk
    fun m e _ hmi he hp => keep_step hp fun heq => hno m hmi (heq ▸ he)
  refine none_created (sl := .sess c k) hij ?_ hcalls hj (by rw [hm]; rfl)
  rw [(before_step ts spec h s i _ hi).2]
  simp only [stepEv, hki, Bool.false_eq_true, if_false]
  exact clearConn_own _ _ _

/-- **C09_close_empties.**  (Either operator.)  Closing a connection that is not `keep_open` leaves it without any
    session instance, whatever it held and however it came to be closed (client gone, error, a `BaseException` that
    ended the server-side job): the oracle clause "a connection that has ended holds no session instance". -/
theorem C09_close_empties (ts : Tests) (spec : Nat → ClassSpec) (s : State) (c k : Nat) (hk : s.keep c = false) :
    (stepEv ts spec s (.close c)).1.tab (.sess c k) = none ∧
    ∀ k', (stepEv ts spec s (.close c)).1.tab (.single k') = s.tab (.single k') := by
  simp only [stepEv, hk, Bool.false_eq_true, if_false]
  exact ⟨clearConn_own _ _ _, fun k' => rfl⟩

/-! ### percall, freshness, creator -/

/-- **C09_percall.**  (Either operator.)  A served call on a `percall` class is served by an instance
    created for it, and that instance serves no other call of the history, before or after. -/
theorem C09_percall (ts : Tests) (spec : Nat → ClassSpec) (h : List Event) (j c k : Nat) (o : Outcome)
    (a : Instance) (x y : Bool) (hm : (spec k).mode = .percall) (hj : h[j]? = some (.call c k o))
    (htj : (trace ts spec State.init h)[j]? = some (.served a x y)) :
    x = true ∧
    ∀ (i c' k' : Nat) (o' : Outcome) (b : Instance) (x' y' : Bool), i ≠ j → h[i]? = some (.call c' k' o') →
      (trace ts spec State.init h)[i]? = some (.served b x' y') → b.idx ≠ a.idx := by
  refine ⟨?_, ?_⟩
  · obtain ⟨s', hs'⟩ := trace_at ts spec h State.init j _ _ hj htj
    exact percall_created ts (spec k) c k o s' a x y hm hs'.symm
  · intro i c' k' o' b x' y' hij hi hti
    have := C09_no_sharing (fun e => hij e.symm) hj hi
      (by intro sl hs; rw [hm] at hs; cases hs) htj hti
    exact fun heq => this heq.symm

/-- **C09_created_fresh.**  (Either operator.)  Whenever a call creates an instance, that instance is
    different from every instance that served any earlier call: creation never hands out an old
    object, and two creations never yield the same object. -/
theorem C09_created_fresh (ts : Tests) (spec : Nat → ClassSpec) (h : List Event) (i j : Nat)
    (a b : Instance) (x y cc : Bool) (hij : i < j)
    (hti : (trace ts spec State.init h)[i]? = some (.served b x y))
    (htj : (trace ts spec State.init h)[j]? = some (.served a true cc)) : b.idx ≠ a.idx :=
  created_fresh wf_init hij hti htj

/-- **C09_creator_once.**  (Either operator.)  For every call (`creatorOk`, PyroProofs/Instances.lean): if
    it re-used an instance the creator was not called; if it created one, the creator was called (once — `Res` records one invocation) exactly
    when the class has a creator that `createInstance` sees; a `TypeError` can only come from a creator's
    result; an exception from user code is reported with the same creator flag. -/
theorem C09_creator_once (ts : Tests) (spec : Nat → ClassSpec) (s : State) (h : List Event) (j c k : Nat)
    (o : Outcome) (r : Res) (hj : h[j]? = some (.call c k o)) (htj : (trace ts spec s h)[j]? = some r) :
    creatorOk (spec k).creator r := by
  obtain ⟨s', hs'⟩ := trace_at ts spec h s j _ _ hj htj
  subst hs'
  exact getInstance_creator ts (spec k) c k o s'

/-- **C09_created_count.**  (Either operator.)  The number of instances that exist after a history is the
    number of calls that reported a creation: every created instance is accounted for by exactly one call. -/
theorem C09_created_count (ts : Tests) (spec : Nat → ClassSpec) (h : List Event) :
    (runHist ts spec State.init h).1.next = createdCount (trace ts spec State.init h) :=
  (next_count ts spec h State.init).trans (Nat.zero_add _)

/-- **C09_failed_creation_stores_nothing.**  A call that was not served (creator returned a foreign
    object, user code raised, invalid mode) leaves both tables and the instance counter unchanged: the
    next call simply tries again. -/
theorem C09_failed_creation_stores_nothing (ts : Tests) (spec : ClassSpec) (c k : Nat) (o : Outcome) (s : State)
    (h : (getInstance ts spec c k o s).2 = .typeError ∨ (∃ cc, (getInstance ts spec c k o s).2 = .raised cc) ∨
         (getInstance ts spec c k o s).2 = .daemonError) :
    (getInstance ts spec c k o s).1 = s := by
  apply fail_unchanged
  intro i x y heq
  rcases h with h | ⟨cc, h⟩ | h <;> rw [h] at heq <;> cases heq

/-- **C09_wf.**  In every reachable state no instance sits in two table slots and every stored instance
    has been created (the invariant behind the sharing theorems). -/
theorem C09_wf (ts : Tests) (spec : Nat → ClassSpec) (h : List Event) : WF (runHist ts spec State.init h).1 :=
  wf_run ts spec h State.init wf_init

/-! ### single under concurrency: every schedule -/

/-- **C09_single_concurrent.**  Any number of threads concurrently call `_getInstance` for `single`
    classes (any classes, any connections, any constructor/creator behaviour), from any state, under
    ANY schedule.  Because the whole find-or-create runs under `create_single_instance_lock`
    (`C09_gen_lock`), `Lock.atomic` applies: the completed calls took effect one at a time in
    lock-release order.  Consequently any two completed calls on the same class were served by the
    same instance, and at most one of them created it. -/
theorem C09_single_concurrent (ts : Tests) (hts : ts.single = .isNone) (spec : Nat → ClassSpec) (s0 : State)
    (calls : List SCall) (schedule : List Nat) (hall : ∀ cl ∈ calls, (spec cl.cls).mode = .single) :
    let cfg := run (Config.init s0 (calls.map (toOp ts spec))) schedule
    Inv s0 cfg ∧ Book (calls.map (toOp ts spec)) cfg ∧
    ∀ (t t' : Nat) (cl cl' : SCall) (a b : Instance) (x y x' y' : Bool),
      calls[t]? = some cl → calls[t']? = some cl' → cl.cls = cl'.cls →
      cfg.threads[t]? = some (.done (.served a x y)) → cfg.threads[t']? = some (.done (.served b x' y')) →
      a = b ∧ (x = true → x' = true → t = t') := by
  intro cfg
  have hb := book s0 (calls.map (toOp ts spec)) schedule
  refine ⟨atomic s0 _ schedule, hb, ?_⟩
  -- the completed calls, in lock-release order, as a sequential history
  obtain ⟨hist, hev⟩ := log_history ts spec s0 calls schedule hall
  -- two log positions in order
  have key : ∀ {i j t t' : Nat} {op op' : Op State Local Res} {cl cl' : SCall} {a b : Instance} {x y x' y' : Bool},
      i < j → cfg.log[i]? = some (t, op, .served a x y) → cfg.log[j]? = some (t', op', .served b x' y') →
      calls[t]? = some cl → calls[t']? = some cl' → cl.cls = cl'.cls → b = a ∧ x' = false := by
    intro i j t t' op op' cl cl' a b x y x' y' hij hli hlj hc hc' hcls
    obtain ⟨he1, ht1⟩ := hev _ _ _ _ _ hli hc
    obtain ⟨he2, ht2⟩ := hev _ _ _ _ _ hlj hc'
    have hm := hall cl (List.mem_of_getElem? hc)
    rw [← hcls] at he2
    have := single_general (by rw [hts]; rfl) hm hij he1 he2 ht1
    rw [ht2] at this
    simp only [Option.some.injEq, Res.served.injEq] at this
    obtain ⟨hba, hx', _⟩ := this
    exact ⟨hba, hx'⟩
  intro t t' cl cl' a b x y x' y' hc hc' hcls hd hd'
  obtain ⟨op, hm⟩ := hb.done_logged t _ hd
  obtain ⟨op', hm'⟩ := hb.done_logged t' _ hd'
  obtain ⟨i, hli⟩ := List.getElem?_of_mem hm
  obtain ⟨j, hlj⟩ := List.getElem?_of_mem hm'
  rcases Nat.lt_trichotomy i j with hlt | heq | hgt
  · obtain ⟨h1, h2⟩ := key hlt hli hlj hc hc' hcls
    exact ⟨h1.symm, fun _ hx' => by rw [h2] at hx'; cases hx'⟩
  · subst heq
    rw [hli] at hlj
    simp only [Option.some.injEq, Prod.mk.injEq, Res.served.injEq] at hlj
    obtain ⟨htt', _, hab, _⟩ := hlj
    exact ⟨hab, fun _ _ => htt'⟩
  · obtain ⟨h1, h2⟩ := key hgt hlj hli hc' hc hcls.symm
    exact ⟨h1, fun hx _ => by rw [h2] at hx; cases hx⟩

/-! ### non-vacuity -/

/-- class 0 single with a creator, class 1 session without, class 2 percall with a creator -/
private def specA : Nat → ClassSpec := fun k =>
  if k = 0 then ⟨.single, .callable⟩ else if k = 1 then ⟨.session, .none⟩ else ⟨.percall, .callable⟩

/-- two connections; the single creator fails once, then yields a FALSY instance with all-equal `__eq__`;
    session instances are falsy; connection 0 is closed and used again -/
private def histA : List Event :=
  [.call 0 0 .raises, .call 0 0 (.ok false 7), .call 1 0 (.ok true 1), .call 0 1 (.ok false 7),
   .call 1 1 (.ok false 7), .call 0 1 (.ok true 2), .close 0, .call 0 1 (.ok true 3), .call 1 2 (.ok true 0),
   .call 1 2 (.wrongType true 0), .call 1 2 (.ok false 0), .call 1 0 .raises]

example : trace fixed specA State.init histA =
    [.raised true, .served ⟨0, false, 7⟩ true true, .served ⟨0, false, 7⟩ false false,
     .served ⟨1, false, 7⟩ true false, .served ⟨2, false, 7⟩ true false, .served ⟨1, false, 7⟩ false false,
     .done, .served ⟨3, true, 3⟩ true false, .served ⟨4, true, 0⟩ true true, .typeError,
     .served ⟨5, false, 0⟩ true true, .served ⟨0, false, 7⟩ false false] := by decide +kernel

-- the same history under the shipped operator: the falsy single instance is re-created by calls 3 and 12
example : trace asShipped specA State.init histA =
    [.raised true, .served ⟨0, false, 7⟩ true true, .served ⟨1, true, 1⟩ true true,
     .served ⟨2, false, 7⟩ true false, .served ⟨3, false, 7⟩ true false, .served ⟨4, true, 2⟩ true false,
     .done, .served ⟨5, true, 3⟩ true false, .served ⟨6, true, 0⟩ true true, .typeError,
     .served ⟨7, false, 0⟩ true true, .served ⟨1, true, 1⟩ false false] := by decide +kernel

-- hypotheses of C09_single / C09_session / C09_session_dropped are met by histA (i=1,j=2 ; i=3,j=5 ; close at 6, call at 7)
example : (specA 0).mode = .single ∧ histA[1]? = some (.call 0 0 (.ok false 7)) ∧ histA[2]? = some (.call 1 0 (.ok true 1)) ∧
    (specA 1).mode = .session ∧ histA[3]? = some (.call 0 1 (.ok false 7)) ∧ histA[5]? = some (.call 0 1 (.ok true 2)) ∧
    histA[6]? = some (.close 0) ∧ histA[7]? = some (.call 0 1 (.ok true 3)) ∧ (specA 2).mode = .percall := by decide +kernel

-- three racing first calls on a single class whose instances are falsy, one interleaving (threads 0 and 2 try the lock while 1 holds it): thread 1 wins the
-- lock, creates instance 0; threads 2 and 0 are served by it
example : ((run (Config.init State.init
      ([⟨0, 0, .ok false 1⟩, ⟨1, 0, .ok false 2⟩, ⟨2, 0, .ok false 3⟩].map (toOp fixed specA)))
      [1, 0, 1, 2, 1, 1, 1, 2, 0, 2, 2, 2, 2, 0, 0, 0, 0, 0]).log.map (fun e => (e.1, e.2.2)))
    = [(1, Res.served ⟨0, false, 2⟩ true true), (2, Res.served ⟨0, false, 2⟩ false false),
       (0, Res.served ⟨0, false, 2⟩ false false)] := by decide +kernel

example : behaviorCheck true (.str .single) .callable = .stored ⟨.single, .callable⟩ ∧
    behaviorCheck true (.str .invalid) .none = .valueError ∧ behaviorCheck true .notStr .none = .syntaxError ∧
    behaviorCheck false (.str .single) .none = .typeError ∧ behaviorCheck true (.str .percall) .notCallable = .typeError ∧
    behaviorCheck true (.str .session) .falsyNotCallable = .stored ⟨.session, .falsy⟩ := by decide +kernel

end Pyro.C09
