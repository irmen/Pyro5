/-
  C03 — A call returns its own reply or fails; never another call's answer.
  Property theorems about `PyroModel.Call` (one proxy, one daemon, a faulty transport).

  Quantifiers: every reachable state of the proxy/daemon pair (any history of calls of any kind, any
  fault scripts, any MAX_RETRIES, any initial sequence number — so also across the 16-bit wrap), every
  next call, every fault script for it.  `real` is the code as it is (release on error + sequence check).
-/
import PyroModel.Call
import PyroModel.Gen.C03
import PyroProofs.Call

namespace Pyro.C03

open Pyro Pyro.Call

/-- States reachable by some history of calls on one proxy, under arbitrary fault scripts. -/
inductive Reachable : World → Prop
  | init (seq0 : Nat) : Reachable (init seq0)
  | step {W : World} (h : Reachable W) (retries : Nat) (k : Kind) (tok : Nat) (s : List Ev) :
      Reachable (call real retries k tok W s).2.1

/-- The same, when every replayed reply (`stale a`) and every reply still unread at the start of a call
    is younger than 2^16 INVOKE sends (`Young`): the explicit hypothesis of the own-reply theorem. -/
inductive ReachableYoung : World → Prop
  | init (seq0 : Nat) : ReachableYoung (init seq0)
  | step {W : World} (h : ReachableYoung W) (retries : Nat) (k : Kind) (tok : Nat) (s : List Ev)
      (hy : Young W s) : ReachableYoung (call real retries k tok W s).2.1

/-- **Invariant.**  In every young-reachable state the proxy's sequence number is the number of INVOKE
    sends modulo 2^16, every recorded reply carries the number of the send that produced it, and every
    unread RESULT message on the live connection is an unaltered reply of an earlier send. -/
theorem C03_reachable_inv {W : World} (h : ReachableYoung W) : Inv W := by
  induction h with
  | init seq0 => exact inv_init seq0
  | step _ retries k tok s hy ih => exact ((call_spec retries k tok _ s).inv ih hy).1

/-! ### own reply -/

/-- Full statement: a call that returns, returns the body produced by its own invocation — whatever
    the history before it and whatever the fault script. -/
def C03_own_reply_Statement : Prop :=
  ∀ (W : World), Reachable W → ∀ (retries : Nat) (k : Kind) (tok : Nat) (s : List Ev) (k' : Kind) (t' : Nat),
    (call real retries k tok W s).1 = .returned k' t' → k' = k ∧ t' = tok

/-- **C03_own_reply (partial).**  Under the explicit hypothesis that no replayed or still-unread reply
    is 2^16 or more INVOKE sends old, a call that returns delivers the result (or remote exception) of its
    own invocation: same call kind, same token.  Lost, late, cut, duplicated, replayed and
    sequence-altered replies, resets before and after processing, interrupts, on handshakes and on
    calls, with any number of retries, never make it return another call's answer. -/
theorem C03_own_reply_partial {W : World} (hW : ReachableYoung W) (retries : Nat) (k : Kind) (tok : Nat)
    (s : List Ev) (hy : Young W s) (k' : Kind) (t' : Nat)
    (h : (call real retries k tok W s).1 = .returned k' t') : k' = k ∧ t' = tok :=
  ((call_spec retries k tok W s).inv (C03_reachable_inv hW) hy).2 k' t' h

theorem reachable_onewayN (n : Nat) : ∀ W, Reachable W → Reachable (onewayN n W) := by
  induction n with
  | zero => intro W h; exact h
  | succ n ih => intro W h; exact ih _ (.step h 0 .oneway 0 [.ok])

/-- **Finding K2 (negation of the full statement).**  A 16-bit sequence number repeats after 65536
    sends: if the reply of call 1 is delivered twice and 65535 oneway calls (which read nothing) follow,
    the next normal call — token 7 — finds the duplicate at the head of the stream with exactly its own
    sequence number and returns call 1's answer. -/
theorem C03_own_reply_full_false : ¬ C03_own_reply_Statement := by
  intro h
  have hr : Reachable (onewayN 65535 dupWorld) :=
    reachable_onewayN 65535 dupWorld (.step (.init 0) 0 .normal 1 [.ok, .dup])
  have := h _ hr 0 .normal 7 [.ok] .normal 1 (alias_after 65535 (by decide))
  exact absurd this.2 (by decide)

/-! ### how often the method runs -/

/-- Full statement: a call (of a method the object has) that returns has run its method exactly once. -/
def C03_exec_once_Statement : Prop :=
  ∀ (W : World), Reachable W → ∀ (retries : Nat) (k : Kind) (tok : Nat) (s : List Ev) (k' : Kind) (t' : Nat),
    k.executes = true → (call real retries k tok W s).1 = .returned k' t' →
    execs tok (call real retries k tok W s).2.1 = execs tok W + 1

/-- **C03_exec_once (partial).**  When the call makes a single attempt — retries disabled, or a call that
    never goes through the retry loop (attribute access, batch, stream fetch) — then: if it returns, its
    method ran exactly once; if it fails, at most once.  No hypothesis on the state or the script. -/
theorem C03_exec_once_partial (W : World) (retries : Nat) (k : Kind) (tok : Nat) (s : List Ev)
    (ha : attempts retries k = 1) :
    (k.executes = true → ∀ k' t', (call real retries k tok W s).1 = .returned k' t' →
        execs tok (call real retries k tok W s).2.1 = execs tok W + 1) ∧
    execs tok (call real retries k tok W s).2.1 ≤ execs tok W + 1 ∧
    (k.executes = false → execs tok (call real retries k tok W s).2.1 = execs tok W) := by
  have f := (call_spec retries k tok W s).facts
  rw [ha] at f
  obtain ⟨m, hm, hlog, _, hret, _, hne⟩ := f.log
  have e := execs_replicate tok m W _ hlog
  refine ⟨fun he k' t' h => ?_, by omega, fun he => by have := hne he; omega⟩
  have := hret he k' t' h
  omega

/-- **Finding K1 (negation of the full statement).**  MAX_RETRIES = 1, one normal call: handshake
    delivered, request processed, reply lost (timeout, connection released), the retry reconnects and
    re-sends: the call returns its own result after the method ran twice (documented at-least-once). -/
theorem C03_exec_once_full_false : ¬ C03_exec_once_Statement := by
  intro h
  have := h (init 0) (.init 0) 1 .normal 1 [.ok, .lost, .ok, .ok] .normal 1 (by decide) (by decide)
  exact absurd this (by decide)

/-- **C03_exec_bound.**  Whatever happens, the server log grows by `n` copies of this call's token with
    `n ≤ 1 + retries` (`≤ 1` for calls that are not retried): the method runs at most 1 + N times, and a
    call never runs another call's method. -/
theorem C03_exec_bound (W : World) (retries : Nat) (k : Kind) (tok : Nat) (s : List Ev) :
    execs tok (call real retries k tok W s).2.1 ≤ execs tok W + attempts retries k ∧
    attempts retries k ≤ 1 + retries ∧
    ∀ t, t ≠ tok → execs t (call real retries k tok W s).2.1 = execs t W := by
  obtain ⟨m, hm, hlog, _⟩ := (call_spec retries k tok W s).facts.log
  refine ⟨by rw [execs_replicate tok m W _ hlog]; omega, ?_, fun t ht => execs_other tok t m W _ hlog ht⟩
  unfold attempts; split <;> omega

/-- **C03_oneway.**  A oneway call (oneway method or oneway batch), with any number of retries: never
    returns a value; takes no message off the stream (`reads` unchanged); if it returns (None) its method
    (if the object has it) ran exactly once; if it fails its request was never delivered and the method did not run; in no case
    does it run twice. -/
theorem C03_oneway (W : World) (retries : Nat) (k : Kind) (tok : Nat) (s : List Ev) (hk : k.isOneway = true) :
    (∀ k' t', (call real retries k tok W s).1 ≠ .returned k' t') ∧
    (call real retries k tok W s).2.1.reads = W.reads ∧
    ((call real retries k tok W s).1 = .none_ → k.executes = true →
        execs tok (call real retries k tok W s).2.1 = execs tok W + 1) ∧
    (∀ e, (call real retries k tok W s).1 = .failed e → execs tok (call real retries k tok W s).2.1 = execs tok W) ∧
    execs tok (call real retries k tok W s).2.1 ≤ execs tok W + 1 := by
  have f := (call_spec retries k tok W s).facts
  obtain ⟨m, _, hlog, hnone, _, how, _⟩ := f.log
  have e := execs_replicate tok m W _ hlog
  have h1 := how hk
  refine ⟨f.onewayOut hk, f.reads hk, fun h he => ?_, fun e' h => ?_, by omega⟩
  · have := hnone he h; omega
  · have := h1.2 e' h; omega

/-- **C03_recovers.**  After a call failed (any communication error or interrupt) the proxy holds no
    connection; and the next call of any kind other than a stream fetch, over a healthy transport
    (handshake and request delivered), returns its own result, having run its method once, on a fresh
    connection with nothing unread.  (A stream iterator is bound to the connection that was lost:
    client.py:535-536 refuses it by design.) -/
theorem C03_recovers (W : World) (retries : Nat) (k : Kind) (tok : Nat) (s : List Ev) (e : Err)
    (h : (call real retries k tok W s).1 = .failed e)
    (retries2 : Nat) (k2 : Kind) (tok2 : Nat) (s2 : List Ev) (hk2 : k2.precheck = false) :
    let W1 := (call real retries k tok W s).2.1
    W1.pc.isLive = false ∧
    (call real retries2 k2 tok2 W1 (.ok :: .ok :: s2)).1 = ownOutcome k2 tok2 ∧
    (call real retries2 k2 tok2 W1 (.ok :: .ok :: s2)).2.2 = s2 ∧
    (call real retries2 k2 tok2 W1 (.ok :: .ok :: s2)).2.1.log = logAfter k2 tok2 W1.log ∧
    (call real retries2 k2 tok2 W1 (.ok :: .ok :: s2)).2.1.pc = .live ⟨[], false⟩ := by
  intro W1
  have hrel := (call_spec retries k tok W s).facts.released e h
  exact ⟨hrel, call_healthy retries2 k2 tok2 W1 s2 hrel hk2⟩

/-- a history of calls over a transport that delivers every message (each call is given two `ok` events) -/
def runHealthy (retries : Nat) : List (Kind × Nat) → World → List Outcome
  | [], _ => []
  | (k, t) :: rest, W =>
    (call real retries k t W [.ok, .ok]).1 :: runHealthy retries rest (call real retries k t W [.ok, .ok]).2.1

/-- no connection, or a live one with nothing unread that was not reset -/
def Clean (W : World) : Prop := W.pc.isLive = false ∨ W.pc = .live ⟨[], false⟩

/-- **C03_fault_free.**  Over a transport that delivers everything, starting without a connection or with a clean
    one, EVERY call of a history (any kinds other than a stream fetch, any retries, also calls of methods the object
    no longer has, oneway or not) returns its own outcome: no communication error arises without a fault, in
    particular a oneway call — whether or not its method exists — leaves nothing behind for the next call. -/
theorem C03_fault_free (retries : Nat) (calls : List (Kind × Nat)) :
    ∀ W, Clean W → (∀ c ∈ calls, c.1.precheck = false) →
      runHealthy retries calls W = calls.map (fun c => ownOutcome c.1 c.2) := by
  induction calls with
  | nil => intro W _ _; rfl
  | cons c rest ih =>
    intro W hW hk
    obtain ⟨k, t⟩ := c
    obtain ⟨hk1, hrest⟩ := List.forall_mem_cons.mp hk
    simp only [runHealthy, List.map_cons]
    rcases hW with hW | hW
    · obtain ⟨hout, _, _, hpc⟩ := call_healthy retries k t W [] hW hk1
      rw [hout, ih _ (Or.inr hpc) hrest]
    · obtain ⟨hout, _, _, hpc⟩ := call_healthy_live retries k t W [.ok] hW
      rw [hout, ih _ (Or.inr hpc) hrest]

/-- **C03_wrap.**  The statement holds across the 16-bit wrap: from a state with sequence number 65535,
    a call that returns still returns its own reply (replayed replies from before the wrap are rejected),
    and after a single-attempt call that came back the proxy's sequence number is 0. -/
theorem C03_wrap {W : World} (hW : ReachableYoung W) (hseq : W.seq = 65535) (retries : Nat) (k : Kind) (tok : Nat)
    (s : List Ev) (hy : Young W s) :
    (∀ k' t', (call real retries k tok W s).1 = .returned k' t' → k' = k ∧ t' = tok) ∧
    (attempts retries k = 1 → (call real retries k tok W s).1.done = true → (call real retries k tok W s).2.1.seq = 0) := by
  refine ⟨C03_own_reply_partial hW retries k tok s hy, fun ha hd => ?_⟩
  rw [(call_spec retries k tok W s).seq ha hd, hseq]; decide

/-- **C03_never_stuck.**  The model never needs the artificial outcome `stuck`: whenever the proxy reads,
    the transport has either delivered a message or raises. -/
theorem C03_never_stuck (W : World) (retries : Nat) (k : Kind) (tok : Nat) (s : List Ev) :
    (call real retries k tok W s).1 ≠ .stuck :=
  (call_spec retries k tok W s).facts.notStuck

/-! ### each of the two defences is necessary -/

/-- Without the sequence check (everything else as is) a duplicated reply is returned to the next call:
    call 1's reply delivered twice, call 2 — token 2 — returns call 1's answer. -/
theorem C03_seqcheck_needed :
    let cfg : Cfg := ⟨true, false⟩
    let W1 := (call cfg 0 .normal 1 (init 0) [.ok, .dup]).2.1
    (call cfg 0 .normal 2 W1 [.ok]).1 = .returned .normal 1 := by decide

/-- Without the release on error (sequence check kept) no foreign reply is returned, but the proxy never
    recovers: after one late reply the next two calls over a healthy transport both fail. -/
theorem C03_release_needed :
    let cfg : Cfg := ⟨false, true⟩
    let W1 := (call cfg 0 .normal 1 (init 0) [.ok, .late]).2.1
    let W2 := (call cfg 0 .normal 2 W1 [.ok]).2.1
    (call cfg 0 .normal 1 (init 0) [.ok, .late]).1 = .failed .timeout ∧
    (call cfg 0 .normal 2 W1 [.ok]).1 = .failed .protocol ∧
    (call cfg 0 .normal 3 W2 [.ok]).1 = .failed .protocol := by decide

/-! ### obligations about facts extracted from the current source (PyroModel/Gen/C03.lean)

  The facts are *probes*: the extractor calls the real `_pyroInvoke`, `_pyroBind`, `_RemoteMethod.__call__`,
  `BatchProxy`, `_StreamResultIterator`, `Daemon._handshake/handleRequest/get_next_stream_item` on small tables of
  scripted inputs and emits what they did.  The obligations say that this is what the model does on those inputs. -/

/-- model-side names of the exception classes the probes report -/
def errOfName (s : String) : Option Err :=
  if s = "ConnectionClosedError" then some .connClosed
  else if s = "TimeoutError" then some .timeout
  else if s = "ProtocolError" then some .protocol
  else none

/-- The header field that carries the sequence number holds exactly the values below `seqMod`; the proxy's
    counter goes 41 → 42, 255 → 256 (no 8-bit wrap), 65535 → 0, also when the send fails. -/
theorem C03_gen_seq :
    Pyro.Gen.C03.seqFieldMax + 1 = seqMod ∧
    Pyro.Gen.C03.invokeProbe.lookup "own-reply" = some "ret/kept/seq=42/reads=1" ∧
    Pyro.Gen.C03.invokeProbe.lookup "no-wrap-255" = some "ret/kept/seq=256/reads=1" ∧
    Pyro.Gen.C03.invokeProbe.lookup "wrap-65535" = some "ret/kept/seq=0/reads=1" ∧
    (41 + 1) % seqMod = 42 ∧ (255 + 1) % seqMod = 256 ∧ (65535 + 1) % seqMod = 0 := by decide +kernel

/-- What the real `_pyroInvoke` does over a scripted connection is what `invokeOn real` does: own reply returned and
    connection kept; a reply with another sequence number, of another message type (rejected after the header only) or
    another serializer: protocol error and connection released — also in wire-level response mode; a remote exception
    is the call's own outcome (connection kept); errors while sending and while receiving, and KeyboardInterrupt,
    release the connection; a oneway call returns None without reading.  The handshake accepts a CONNECTOK whatever
    its sequence number, turns a RESULT-typed reply into a protocol error, and leaves no connection behind on any error. -/
theorem C03_gen_invoke :
    Pyro.Gen.C03.invokeProbe =
      [("own-reply", "ret/kept/seq=42/reads=1"),
       ("wrap-65535", "ret/kept/seq=0/reads=1"),
       ("no-wrap-255", "ret/kept/seq=256/reads=1"),
       ("reply-seq-plus-1", "ProtocolError/released/seq=42/reads=1"),
       ("reply-seq-minus-1", "ProtocolError/released/seq=42/reads=1"),
       ("reply-type-connectok", "ProtocolError/released/seq=42/reads=1"),
       ("reply-other-serializer", "SerializeError/released/seq=42/reads=1"),
       ("remote-exception", "ValueError/kept/seq=42/reads=1"),
       ("send-connection-closed", "ConnectionClosedError/released/seq=42/reads=0"),
       ("send-timeout", "TimeoutError/released/seq=42/reads=0"),
       ("recv-connection-closed", "ConnectionClosedError/released/seq=42/reads=1"),
       ("recv-timeout", "TimeoutError/released/seq=42/reads=1"),
       ("recv-keyboard-interrupt", "KeyboardInterrupt/released/seq=42/reads=1"),
       ("oneway", "none/kept/seq=42/reads=0"),
       ("oneway-send-connection-closed", "ConnectionClosedError/released/seq=42/reads=0"),
       ("raw-own-reply", "msg/kept/seq=42/reads=1"),
       ("raw-reply-seq-plus-1", "ProtocolError/released/seq=42/reads=1"),
       ("raw-reply-other-serializer", "SerializeError/released/seq=42/reads=1"),
       ("type-filter-consumed", "header-only")] ∧
    Pyro.Gen.C03.handshakeProbe =
      [("connectok", "connected/live/seq=7/meta=1"),
       ("connectok-seq-altered", "connected/live/seq=7/meta=1"),
       ("reply-type-result", "ProtocolError/none/seq=7/meta=0"),
       ("connectfail", "CommunicationError/none/seq=7/meta=0"),
       ("send-reset", "ConnectionClosedError/none/seq=7/meta=0"),
       ("recv-timeout", "TimeoutError/none/seq=7/meta=0"),
       ("recv-reset", "ConnectionClosedError/none/seq=7/meta=0")] := ⟨rfl, rfl⟩

/-- The real retry loop makes `max_retries + 1` attempts exactly for the classes the model calls retryable
    (`Err.retryable`: connection closed, timeout) and one attempt for every other exception; the exception that comes out
    is the one that went in; it stops at the first attempt that returns.  These and ProtocolError / SerializeError are
    communication errors (so `_pyroInvoke` releases on them); retries are off by default. -/
theorem C03_gen_retry :
    Pyro.Gen.C03.retryProbe.length = 15 ∧
    (∀ r ∈ Pyro.Gen.C03.retryProbe, r.2.2.2 = r.2.1 ∧
      r.2.2.1 = (match errOfName r.2.1 with | some e => if e.retryable then r.1 + 1 else 1 | none => 1)) ∧
    Pyro.Gen.C03.retrySuccessProbe.length = 9 ∧
    (∀ r ∈ Pyro.Gen.C03.retrySuccessProbe,
      if r.2.1 ≤ r.1 then r.2.2.1 = r.2.1 + 1 ∧ r.2.2.2 = "returned" else r.2.2.1 = r.1 + 1 ∧ r.2.2.2 = "TimeoutError") ∧
    "ConnectionClosedError" ∈ Pyro.Gen.C03.commErrors ∧ "TimeoutError" ∈ Pyro.Gen.C03.commErrors ∧
    "ProtocolError" ∈ Pyro.Gen.C03.commErrors ∧ "SerializeError" ∈ Pyro.Gen.C03.commErrors ∧
    Pyro.Gen.C03.maxRetriesDefault = 0 := by decide +kernel

/-- The number of `_pyroInvoke` attempts each way of using a real proxy makes (its `_pyroMaxRetries` being 2) is the
    model's `attempts 2 kind`: only method calls go through the retry loop; the proxy's own setting governs, whatever
    the global one is (`attempts 0`, `attempts 1`); a stream fetch without a connection is refused without any attempt
    (`Kind.precheck`); attribute access on a proxy without metadata looks the metadata up once, batch recording never
    (`Kind.needsMeta`); a re-used BatchProxy submits only the calls recorded since its last submit, oneway or not. -/
theorem C03_gen_paths :
    Pyro.Gen.C03.pathProbe =
      [("method", attempts 2 .normal),
       ("oneway-method", attempts 2 .oneway),
       ("attribute-read", attempts 2 .getattr),
       ("attribute-write", attempts 2 .setattr),
       ("batch", attempts 2 .batch),
       ("batch-oneway", attempts 2 .batchOneway),
       ("stream-fetch", attempts 2 .fetch),
       ("stream-fetch-no-connection:ConnectionClosedError", 0),
       ("method-own-0-global-2", attempts 0 .normal),
       ("method-own-1-global-0", attempts 1 .normal),
       ("metadata-lookups-first-method-access", 1),
       ("metadata-lookups-later", 0),
       ("metadata-lookups-first-attribute-write", 1),
       ("metadata-lookups-batch-recording", 0),
       ("batch-reuse-submit-1-size", 1),
       ("batch-reuse-submit-2-size", 1),
       ("batch-reuse-submit-3-size", 2),
       ("batch-reuse-submit-4-size", 1)] ∧
    Kind.precheck .fetch = true ∧ Kind.needsMeta .normal = true ∧ Kind.needsMeta .setattr = true ∧
    Kind.needsMeta .batch = false := ⟨rfl, rfl, rfl, rfl, rfl⟩

/-- Every reply of the real daemon — handshake answer (accepted or refused), result, error reply, batch result —
    carries the sequence number of the request it answers; oneway requests (also failing ones, also batches) are
    answered with nothing; a lingering stream that a fetch re-attaches to the fetching connection is no longer
    lingering, so that a `fetch` after a recovery is an ordinary call answered with the stream's next item. -/
theorem C03_gen_server :
    Pyro.Gen.C03.serverProbe =
      [("handshake-4321", "connectok/seq=4321"),
       ("handshake-refused-4321", "connectfail/seq=4321"),
       ("call-777", "result/seq=777"),
       ("call-65535", "result/seq=65535"),
       ("call-raises-777", "result+exception/seq=777"),
       ("unknown-object-777", "result+exception/seq=777"),
       ("oneway-777", "no-reply"),
       ("oneway-raises-777", "no-reply"),
       ("batch-777", "result+batch/seq=777"),
       ("batch-oneway-777", "no-reply"),
       ("reattach", "item=10/client=fetching-connection/linger=0")] := rfl

/-! ### non-vacuity: concrete histories meeting the hypotheses -/

-- a young-reachable state with sequence number 65535 and a live connection holding an unread duplicate
example : ReachableYoung (call real 0 .normal 1 (init 65534) [.ok, .dup]).2.1 :=
  .step (.init 65534) 0 .normal 1 [.ok, .dup] ⟨by intro a h; simp at h, by intro c h; simp [init] at h⟩
example : (call real 0 .normal 1 (init 65534) [.ok, .dup]).2.1.seq = 65535 := by decide
-- ... from which the next call reads the duplicate, rejects it (protocol error) and releases; seq wraps to 0
example : (call real 0 .normal 2 (call real 0 .normal 1 (init 65534) [.ok, .dup]).2.1 [.ok]).1 = .failed .protocol ∧
    (call real 0 .normal 2 (call real 0 .normal 1 (init 65534) [.ok, .dup]).2.1 [.ok]).2.1.seq = 0 := by decide
-- a reply from before the wrap replayed after it is rejected (stale age 2 across 65535 → 0 → 1)
example :
    let W1 := (call real 0 .normal 1 (init 65534) [.ok, .ok]).2.1
    let W2 := (call real 0 .normal 2 W1 [.ok]).2.1
    W2.seq = 0 ∧ (call real 0 .normal 3 W2 [.stale 1]).1 = .failed .protocol ∧
    (call real 0 .normal 3 W2 [.ok]).1 = .returned .normal 3 := by decide
-- retries = 2: two failed attempts (reset after processing, lost reply), third succeeds: returned, 3 executions
example : (call real 2 .normal 5 (init 0) [.ok, .resetAfter, .ok, .lost, .ok, .ok]).1 = .returned .normal 5 ∧
    execs 5 (call real 2 .normal 5 (init 0) [.ok, .resetAfter, .ok, .lost, .ok, .ok]).2.1 = 3 := by decide
-- a oneway call with a replayed reply injected: returns None, the replay stays unread; the next call rejects it
example :
    let W1 := (call real 0 .normal 1 (init 0) [.ok, .ok]).2.1
    let W2 := (call real 0 .oneway 2 W1 [.stale 0]).2.1
    (call real 0 .oneway 2 W1 [.stale 0]).1 = .none_ ∧ W2.reads = W1.reads ∧
    (call real 1 .normal 3 W2 [.ok, .ok, .ok]).1 = .failed .protocol := by decide
-- a failed call followed by a healthy one (hypotheses of C03_recovers)
example : (call real 0 .getattr 1 (init 0) [.ok, .cut]).1 = .failed .connClosed := by decide
-- a fault-free history with calls of methods the object no longer has: every call gets its own outcome
example : runHealthy 1 [(.normal, 1), (.onewayMissing, 2), (.normal, 3), (.missing, 4), (.oneway, 5), (.getattr, 6)] (init 0)
    = [.returned .normal 1, .none_, .returned .normal 3, .returned .missing 4, .none_, .returned .getattr 6] := by decide
example : attempts 0 .normal = 1 ∧ attempts 5 .batch = 1 ∧ attempts 2 .normal = 3 := by decide

end Pyro.C03
