/-
  C16 — the property theorems restated about the source transcription (corollaries of PyroProps/C16.lean through the
  `_translated` theorems of PyroProps/C16Ast.lean).
-/
import PyroProps.C16
import PyroProps.C16Ast

namespace Pyro.C16

open Pyro Pyro.Registry Pyro.Registry.Src Pyro.Gen.C16Src

/-! ### the property, restated about the transcription -/

/-- **C16_source_failed_register_unchanged.** A call of the transcribed `Daemon.register` that does not return a URI
    (it raised) has changed nothing: not the table, not the attributes, not the finalizers. -/
theorem C16_source_failed_register_unchanged (s : State) (e : Ent) (ia : IdArg) (force weak : Bool)
    (hd : isDead s e = false) (hf : ∀ n, ia = .str (.gen n) → n ≠ s.next)
    (hfail : ∀ i, (registerSrc s (.ent e) (IdArg.val ia) force weak).2 ≠ .ret (.uri i)) :
    (registerSrc s (.ent e) (IdArg.val ia) force weak).1 = s := by
  rw [C16_register_translated s e ia force weak hd hf] at hfail ⊢
  apply C16_failed_register_unchanged .fixed s e ia force weak
  intro i hi
  simp only [step] at hi
  exact hfail i (by simp [hi, resR])

/-- **C16_source_double_refused.** After every history without forced aliasing, the transcribed `register` without
    `force`, for an object that is registered or an id that is taken, raises and leaves the state as it was. -/
theorem C16_source_double_refused (h : List Op) (hA : noAliasHist init h = true) (e : Ent) (ia : IdArg) (w : Bool)
    (hd : isDead (run .fixed init h) e = false) (hf : ∀ n, ia = .str (.gen n) → n ≠ (run .fixed init h).next)
    (hdup : (specRun Spec.init h).has e ∨ ((specRun Spec.init h).m ((specRun Spec.init h).resolve ia)).isSome = true) :
    (registerSrc (run .fixed init h) (.ent e) (IdArg.val ia) false w).1 = run .fixed init h ∧
    ∀ i, (registerSrc (run .fixed init h) (.ent e) (IdArg.val ia) false w).2 ≠ .ret (.uri i) := by
  obtain ⟨h1, h2⟩ := C16_double_refused h hA e ia w hdup
  rw [C16_register_translated _ e ia false w hd hf]
  simp only [step] at h1 h2
  refine ⟨h1, ?_⟩
  intro i hi
  generalize (register Cfg.fixed (run Cfg.fixed init h) e ia false w).2 = r at h2 hi
  cases r <;> simp [resR] at hi
  exact h2 _ (by rw [hi])

/-- **C16_source_return_unregistered.** In any state: for an object that is not registered and whose class is not
    registered, the transcribed hook returns the object itself (so it is serialised by value), state untouched —
    whatever stale `_pyroId` / `_pyroDaemon` it still carries. -/
theorem C16_source_return_unregistered (s : State) (k : Nat) (hd : s.dead k = false)
    (hk : ∀ i w, lookup i s.objs ≠ some ⟨.ent (.obj k), w⟩)
    (hc : ∀ i w, lookup i s.objs ≠ some ⟨.ent (.cls (classOf k)), w⟩) :
    autoProxySrc s (.ent (.obj k)) = (s, .ret (.ent (.obj k))) := by
  simp [C16_autoProxy_translated, ownsEntry_unregistered hk hc]

/-- **C16_source_return_registered.** After every history without forced aliasing, for a registered object the
    transcribed hook returns `daemon.proxyFor(obj)`, which is the proxy of the id the object is registered under
    (a call to which runs on that very object: `C16_return_partial`). -/
theorem C16_source_return_registered (h : List Op) (hA : noAliasHist init h = true) (k : Nat) (i : Id) (w : Bool)
    (hr : lookup i (run .fixed init h).objs = some ⟨.ent (.obj k), w⟩) :
    autoProxySrc (run .fixed init h) (.ent (.obj k)) = (run .fixed init h, .ret (.proxy i)) ∧
    call (run .fixed init h) i = .reached (.ent (.obj k)) := by
  obtain ⟨hI, hB, _⟩ := reach h invW_init back_init hA
  obtain ⟨hgd, hown, hp⟩ := registered_owns hI hB hr
  exact ⟨by simp [C16_autoProxy_translated, hgd, hown, hp, resR], (C16_return_partial h hA k i w .serpent hr).2⟩

end Pyro.C16
