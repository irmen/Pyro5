/-
  C15 — Name server operations are atomic under concurrent clients.
  The name server operations (PyroModel/NsOps.lean) instantiate the generic atomicity theorem
  (PyroProofs/Lock.lean).  The premise — every access of `self.storage` in every NameServer method is
  inside `with self.lock:` — is `C15_source_every_access_locked`, over the lock skeletons (PyroModel/LockSkeleton.lean)
  that the extractor regenerates from nameserver.py on every run.
-/
import PyroModel.NsOps
import PyroProofs.Lock
import PyroModel.Gen.C15
import PyroModel.LockRelease

namespace Pyro.C15

open Pyro Pyro.Lock Pyro.NsOps

/-- **C15_gen_locked.**  The lock skeleton of every public method of `NameServer`, extracted from the current source on every
    run (calls of the class's own helpers inlined; a storage access inside a lambda / generator that is not consumed on the
    spot counts as unlocked), passes the check `allLocked`; the methods the model covers all exist; the lock is re-entrant
    (`remove` calls `list` while holding it). -/
theorem C15_gen_locked :
    (∀ p ∈ Pyro.Gen.C15.nsSkeletons, Pyro.LockSkeleton.allLocked p.2 0 = true) ∧
    (∀ n ∈ ["count", "lookup", "register", "set_metadata", "remove", "list", "yplookup"],
        n ∈ Pyro.Gen.C15.nsSkeletons.map (·.1)) ∧
    Pyro.Gen.C15.lockKind = "RLock" := by decide +kernel

/-- **C15_source_every_access_locked.**  Hence, in the source as it is written now: in every possible execution of every
    public NameServer method (any branch taken, any number of loop rounds, cut short anywhere by an exception) every use of
    `self.storage` happens while `self.lock` is held.  This is the premise under which the operations of NsOps are
    atomic steps (`C15_linearizable`). -/
theorem C15_source_every_access_locked (p : String × Pyro.LockSkeleton.Sk) (hp : p ∈ Pyro.Gen.C15.nsSkeletons)
    (t : Pyro.LockSkeleton.Trace) (ht : Pyro.LockSkeleton.Exec p.2 0 t) : ∀ e ∈ t, 0 < e :=
  Pyro.LockSkeleton.allLocked_sound ht (C15_gen_locked.1 p hp)

/-- **C15_gen_released.**  The release skeleton of every public method of `NameServer` (extracted on every run: acquire /
    release of `self.lock`, every point where an exception may leave, every `return`, the try / finally / except structure,
    context-manager helpers of the class inlined at their `yield`) passes the check `releasedOnAllPaths`. -/
theorem C15_gen_released :
    (∀ p ∈ Pyro.Gen.C15.nsRelease, Pyro.LockRelease.releasedOnAllPaths p.2 = true) ∧
    (∀ n ∈ ["count", "lookup", "register", "set_metadata", "remove", "list", "yplookup"],
        n ∈ Pyro.Gen.C15.nsRelease.map (·.1)) := by decide +kernel

/-- **C15_source_lock_released_on_all_paths.**  Hence, in the source as it is written now: every possible execution of every
    public NameServer method — whichever branch it takes, however many loop rounds, whether it ends normally, by `return` or by
    an exception raised at any point — leaves `self.lock` at the depth it found it: every acquire is released on every path.
    With the re-entrant lock and `C15_source_every_access_locked` this is the deadlock-freedom half of the lock discipline:
    no operation can leave the lock held and block every later client (the waiting threads of `Lock.step` always get their
    turn once the holder's finitely many steps are done). -/
theorem C15_source_lock_released_on_all_paths (p : String × Pyro.LockRelease.Rk) (hp : p ∈ Pyro.Gen.C15.nsRelease)
    (d : Nat) (o : Pyro.LockRelease.Outcome) (d' : Nat) (h : Pyro.LockRelease.Exec p.2 d o d') : d' = d :=
  Pyro.LockRelease.released_sound h (C15_gen_released.1 p hp)

/-- **C15_linearizable.**  For every initial map, every multiset of concurrent calls and every
    schedule (any number of clients, any length, any preemption pattern): the completed calls took
    effect one at a time in lock-release order — the logged results are exactly the results of
    executing the logged calls sequentially in that order, and when no call is in progress the
    map is exactly the result of that sequential execution.  An operation's log entry is appended
    by its own release step, which lies between its call and its return, so the order respects
    real time. -/
theorem C15_linearizable (s0 : Store) (calls : List Call) (schedule : List Nat) :
    let c := run (Config.init s0 (calls.map toOp)) schedule
    Inv s0 c ∧ Book (calls.map toOp) c :=
  ⟨atomic s0 _ schedule, book s0 _ schedule⟩

/-- Every completed call (a thread that returned `r`) sits at some position of the release-order
    log, and `r` is what sequential execution of the log returns at that position: lookups, lists and
    counts are explained by a sequential order of the completed operations. -/
theorem C15_results_explained (s0 : Store) (calls : List Call) (schedule : List Nat) (t : Nat) (r : Res)
    (hdone : (run (Config.init s0 (calls.map toOp)) schedule).threads[t]? = some (TState.done r)) :
    let c := run (Config.init s0 (calls.map toOp)) schedule
    ∃ (i : Nat) (op : Op Store Local Res), c.log[i]? = some (t, op, r) ∧ (calls.map toOp)[t]? = some op ∧
      (seqRun (c.log.map (·.2.1)) s0).2[i]? = some r :=
  results_explained s0 _ schedule t r hdone

theorem apply_register (n : Name) (u : Nat) (safe : Bool) (t : List Nat) (s : Store) :
    apply (.register n u safe t) s =
      if safe && s.has n then (s, .namingError) else (Store.set s n (u, t), .none) := by
  dsimp only [apply, toOp, Op.run, body, runSteps, List.foldl]
  split <;> rfl

theorem apply_setMeta (n : Name) (t : List Nat) (s : Store) :
    apply (.setMeta n t) s =
      match s.get n with
      | some (u, _) => (Store.set s n (u, t), .none)
      | none => (s, .namingError) := by
  dsimp only [apply, toOp, Op.run, body, runSteps, List.foldl]
  cases s.get n <;> rfl

theorem apply_remove (n : Name) (s : Store) :
    apply (.remove n) s =
      if !n.isEmpty && s.has n && n != nsName then (Store.del s n, .removed 1) else (s, .removed 0) := by
  dsimp only [apply, toOp, Op.run, body, runSteps, List.foldl]
  split <;> rfl

theorem apply_removePrefix (p : Name) (s : Store) :
    apply (.removePrefix p) s =
      if p.isEmpty then (s, .removed 0) else
        let items := ((s.filter fun e => isPrefix p e.1).map (·.1)).filter (· ≠ nsName)
        (items.foldl (fun st it => if st.has it then st.del it else st) s, .removed items.length) := by
  dsimp only [apply, toOp, Op.run, body]
  cases p.isEmpty <;> rfl

theorem apply_lookup (n : Name) (s : Store) :
    apply (.lookup n) s =
      match s.get n with
      | some (u, t) => (s, .uri u t)
      | none => (s, .namingError) := by
  dsimp only [apply, toOp, Op.run, body, runSteps, List.foldl]
  cases s.get n <;> rfl

theorem apply_count (s : Store) : apply .count s = (s, .count s.length) := rfl

theorem apply_list (p : Name) (s : Store) :
    apply (.list p) s = (s, .names ((s.filter fun e => isPrefix p e.1).map fun e => (e.1, e.2.1))) := rfl

/-! ### safe registration: exactly one of any number of concurrent safe registrations succeeds -/

theorem has_set (s : Store) (n : Name) (v : Nat × List Nat) : (Store.set s n v).has n = true := by
  induction s with
  | nil => simp [Store.set, Store.has]
  | cons e r ih =>
    obtain ⟨k, w⟩ := e
    simp only [Store.set]
    by_cases h : k = n
    · rw [if_pos h]; simp [Store.has]
    · rw [if_neg h]
      simp only [Store.has, List.any_cons] at ih ⊢
      rw [ih]
      simp

/-- Sequentially, safe registrations of one name all fail once the name is present. -/
theorem seq_regsafe_present (n : Name) (calls : List Call)
    (hall : ∀ c ∈ calls, ∃ u t, c = .register n u true t) (s : Store) (hs : s.has n = true) :
    (seqRun (calls.map toOp) s).2 = List.replicate calls.length Res.namingError := by
  induction calls with
  | nil => rfl
  | cons c cs ih =>
    obtain ⟨u, t, rfl⟩ := hall _ List.mem_cons_self
    have ha : (toOp (.register n u true t)).run s = (s, .namingError) := by
      rw [← apply, apply_register, hs]
      rfl
    simp only [List.map_cons, seqRun, ha, List.length_cons, List.replicate_succ]
    rw [ih fun c hc => hall c (List.mem_cons_of_mem _ hc)]

/-- ... and of a fresh name: the first succeeds, which makes the name present for the others. -/
theorem seq_regsafe_absent (n : Name) (calls : List Call)
    (hall : ∀ c ∈ calls, ∃ u t, c = .register n u true t) (s : Store) (hs : s.has n = false) :
    (seqRun (calls.map toOp) s).2 = match calls.length with
      | 0 => []
      | j + 1 => Res.none :: List.replicate j Res.namingError := by
  cases calls with
  | nil => rfl
  | cons c cs =>
    obtain ⟨u, t, rfl⟩ := hall _ List.mem_cons_self
    have ha : (toOp (.register n u true t)).run s = (Store.set s n (u, t), .none) := by
      rw [← apply, apply_register, hs]
      rfl
    simp only [List.map_cons, seqRun, ha, List.length_cons]
    rw [seq_regsafe_present n cs (fun c hc => hall c (List.mem_cons_of_mem _ hc)) _ (has_set s n (u, t))]

theorem getElem?_cons_replicate {α : Type} {a b x : α} {k i : Nat} (h : (a :: List.replicate k b)[i]? = some x) :
    (i = 0 ∧ x = a) ∨ (0 < i ∧ x = b) := by
  cases i with
  | zero => exact .inl ⟨rfl, (Option.some.inj h).symm⟩
  | succ j =>
    rw [List.getElem?_cons_succ] at h
    exact .inr ⟨Nat.succ_pos j, (List.mem_replicate.mp (List.mem_of_getElem? h)).2⟩

/-- **C15_safe_register_once.**  Any number of clients concurrently registering the same, not yet
    registered name with `safe=True`, under any schedule: at most one of the calls that have
    returned returned success, every other one got the naming error — and the first to release the
    lock is the one that succeeded. -/
theorem C15_safe_register_once (s0 : Store) (n : Name) (calls : List Call) (schedule : List Nat)
    (hall : ∀ c ∈ calls, ∃ u t, c = .register n u true t) (hs : s0.has n = false) :
    let c := run (Config.init s0 (calls.map toOp)) schedule
    (∀ (t : Nat) (r : Res), c.threads[t]? = some (TState.done r) → r = Res.none ∨ r = Res.namingError) ∧
    (∀ (t t' : Nat), c.threads[t]? = some (TState.done Res.none) → c.threads[t']? = some (TState.done Res.none) → t = t') ∧
    (∀ e, c.log[0]? = some e → e.2.2 = Res.none) := by
  intro c
  -- the logged operations are again safe registrations of n, so the logged results are `none, error, error, …`
  obtain ⟨lc, hlc1, _, hlc2⟩ := log_calls toOp s0 calls schedule
  have hres := (atomic s0 (calls.map toOp) schedule).results
  rw [hlc1, seq_regsafe_absent n lc (fun x hx => hall x (hlc2 x hx)) s0 hs] at hres
  have hpos : ∀ i e, c.log[i]? = some e → (i = 0 ∧ e.2.2 = .none) ∨ (0 < i ∧ e.2.2 = .namingError) := by
    intro i e he
    have h1 : (c.log.map (·.2.2))[i]? = some e.2.2 := by rw [List.getElem?_map, he]; rfl
    rw [hres] at h1
    split at h1
    · cases h1
    · exact getElem?_cons_replicate h1
  refine ⟨fun t r hd => ?_, fun t t' hd hd' => ?_, fun e he => ?_⟩
  · obtain ⟨i, op, hi, _⟩ := results_explained s0 _ schedule t r hd
    exact (hpos i _ hi).imp (·.2) (·.2)
  · obtain ⟨i, op, hi, _⟩ := results_explained s0 _ schedule t _ hd
    obtain ⟨j, op', hj, _⟩ := results_explained s0 _ schedule t' _ hd'
    have hzero : ∀ k e, c.log[k]? = some e → e.2.2 = Res.none → k = 0 := fun k e hk hn =>
      (hpos k e hk).elim (·.1) fun h => Res.noConfusion (hn.symm.trans h.2)
    rw [hzero i _ hi rfl] at hi
    rw [hzero j _ hj rfl, hi] at hj
    exact (Prod.mk.inj (Option.some.inj hj)).1
  · exact (hpos 0 e he).elim (·.2) fun h => absurd h.1 (Nat.lt_irrefl 0)

/-! ### removal by name: concurrent removals of one name report exactly one removed entry in total -/

theorem has_del (s : Store) (n : Name) : (Store.del s n).has n = false := by
  simp [Store.del, Store.has, List.any_filter]

theorem seq_remove_absent (n : Name) (k : Nat) (s : Store) (hs : s.has n = false) :
    (seqRun ((List.replicate k (Call.remove n)).map toOp) s).2 = List.replicate k (Res.removed 0) := by
  induction k with
  | zero => rfl
  | succ k ih =>
    have ha : (toOp (.remove n)).run s = (s, .removed 0) := by
      rw [← apply, apply_remove, hs, Bool.and_false, Bool.false_and]
      rfl
    simp only [List.replicate_succ, List.map_cons, seqRun, ha, ih]

/-- The sequential core of `C15_remove_once`: `k+1` removals of a registered name, run one after the other,
    report `[1, 0, 0, …]`: a total of exactly one removed entry and never an error. -/
theorem seq_remove_present (n : Name) (k : Nat) (s : Store) (hne : n.isEmpty = false)
    (hns : (n != nsName) = true) (hs : s.has n = true) :
    (seqRun ((List.replicate (k + 1) (Call.remove n)).map toOp) s).2
      = Res.removed 1 :: List.replicate k (Res.removed 0) := by
  have ha : (toOp (.remove n)).run s = (Store.del s n, .removed 1) := by
    rw [← apply, apply_remove, hne, hs, hns]
    rfl
  simp only [List.replicate_succ, List.map_cons, seqRun, ha]
  rw [seq_remove_absent n k _ (has_del s n)]

/-- **C15_remove_once.**  Concurrent `remove(name)` calls of one registered name under any
    schedule: the results of the calls completed so far, in release order, are `1, 0, 0, …` — the
    total number of reported removals never exceeds one, it is exactly one as soon as any call has
    completed, and no call fails. -/
theorem C15_remove_once (s0 : Store) (n : Name) (k : Nat) (schedule : List Nat)
    (hne : n.isEmpty = false) (hns : (n != nsName) = true) (hs : s0.has n = true) :
    let c := run (Config.init s0 ((List.replicate k (Call.remove n)).map toOp)) schedule
    c.log.map (·.2.2) = match c.log.length with
      | 0 => []
      | j + 1 => Res.removed 1 :: List.replicate j (Res.removed 0) := by
  intro c
  rw [(atomic s0 _ schedule).results, log_replicate toOp s0 (Call.remove n) k schedule]
  cases c.log.length with
  | zero => rfl
  | succ j => exact seq_remove_present n j s0 hne hns hs

/-- **an operation that fails has no effect**: whichever call answers with a naming error leaves the map exactly as it was
    (all-or-nothing; the harness checks this on both storage back-ends, including registrations the storage refuses half way) -/
theorem C15_failed_no_effect (c : Call) (s : Store) (h : (apply c s).2 = .namingError) : (apply c s).1 = s := by
  revert h
  cases c with
  | register n u safe tags =>
    rw [apply_register]
    split
    · exact fun _ => rfl
    · exact fun h => Res.noConfusion h
  | setMeta n tags =>
    rw [apply_setMeta]
    split
    · exact fun h => Res.noConfusion h
    · exact fun _ => rfl
  | remove n =>
    rw [apply_remove]
    split <;> exact fun h => Res.noConfusion h
  | removePrefix p =>
    rw [apply_removePrefix]
    split <;> exact fun h => Res.noConfusion h
  | lookup n =>
    rw [apply_lookup]
    split <;> exact fun _ => rfl
  | count => exact fun _ => rfl
  | list p => exact fun _ => rfl

/-! ### non-vacuity -/

private def sA : Store := [([97], 1, []), ([98], 2, [7])]
example : sA.has [99] = false ∧ sA.has [97] = true ∧ ([97] != nsName) = true := by decide +kernel
-- two racing safe registrations: thread 0 wins, thread 1 gets the naming error
example : ((run (Config.init sA ([Call.register [99] 5 true [], Call.register [99] 6 true []].map toOp))
    [0, 1, 0, 0, 0, 1, 1, 1, 1]).log.map (·.2.2)) = [Res.none, Res.namingError] := by decide +kernel
example : ((run (Config.init sA ([Call.remove [97], Call.remove [97], Call.lookup [97]].map toOp))
    [1, 1, 0, 2, 1, 1, 0, 0, 0, 0, 2, 2, 2]).log.map (fun e => (e.1, e.2.2)))
    = [(1, Res.removed 1), (0, Res.removed 0), (2, Res.namingError)] := by decide +kernel

end Pyro.C15
