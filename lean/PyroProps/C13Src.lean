/-
  C13 — one poll round of the multiplex server (`SocketServer_Multiplex.events`), transcribed from the
  source on every run (harness/props/c13_tr.py → `Pyro.Gen.C13.eventsSrc`), proved equal to the
  hand-written model `Pyro.Cleanup.eventsModel` for ALL rounds, states and hook behaviours, and the
  property of a round: the disconnect handling, the unregistration and the close are made exactly for
  the connections that ended in the round — each once, in order, none for a connection that is still
  open — however many sockets are ready together and wherever the ended ones stand in the list.
-/
import PyroModel.Cleanup
import PyroModel.Gen.C13

namespace Pyro.C13Src

open Pyro.Cleanup

/-- a loop whose body agrees with `evBody`, followed by the housekeeping, is `eventsModel` -/
theorem loop_is_model (hr : HookBehaviour) (body : Ev → Stmt) (hb : ∀ e m, body e m = evBody hr e m) :
    ∀ (evs : List Ev) (m : Mux), seq (forEach evs body) housekeeping m = eventsModel hr m evs := by
  intro evs
  induction evs with
  | nil => exact fun _ => rfl
  | cons e es ih =>
    intro m
    unfold seq forEach eventsModel
    rw [hb]
    cases evBody hr e m with
    | ok m' => exact ih m'
    | ret m' => rfl
    | raise x m' => rfl

theorem drop_src (hr : HookBehaviour) (c : Nat) :
    seq (tryExcept (callHook hr c) true false skip) (seq (unregister c) (closeConn c)) = drop hr c := by
  funext m
  unfold seq tryExcept callHook drop
  cases hr c with
  | none => rfl
  | some x => cases x <;> rfl

/-- **C13_events_translated.**  The transcription of `events` computes, for every hook behaviour, every
    list of ready sockets and every state, exactly what the hand-written model computes. -/
theorem C13_events_translated (hr : HookBehaviour) (evs : List Ev) (m : Mux) :
    Pyro.Gen.C13.eventsSrc hr evs m = eventsModel hr m evs := by
  unfold Pyro.Gen.C13.eventsSrc
  apply loop_is_model
  intro e m
  rw [drop_src]
  obtain ⟨isL, id, acc, act, sd⟩ := e
  obtain ⟨reg, hd, hl, ul, cl, hk, down⟩ := m
  cases down
  · cases isL
    · cases act <;> rfl
    · cases acc <;> rfl
  · rfl

/-! ### the property of a round, on the model -/

/-- nothing disturbs the round: no shutdown in progress or started, no BaseException out of a hook -/
structure Quiet (hr : HookBehaviour) (m : Mux) (evs : List Ev) : Prop where
  notDown : m.shuttingDown = false
  noShutdown : ∀ e ∈ evs, e.setsShutdown = false
  noBase : ∀ c, hr c ≠ some .base

theorem drop_quiet (hr : HookBehaviour) (c : Nat) (m : Mux) (hq : hr c ≠ some .base) :
    drop hr c m = .ok { m with hookLog := m.hookLog ++ [c], unregLog := m.unregLog ++ [c],
                               registered := m.registered.erase c, closeLog := m.closeLog ++ [c] } := by
  unfold drop
  cases h : hr c with
  | none => rfl
  | some x => cases x with
    | user => rfl
    | base => exact absurd h hq

theorem ended_cons (e : Ev) (es : List Ev) : ended (e :: es) = ended [e] ++ ended es := by
  unfold ended
  rw [← List.map_append, ← List.filter_append]
  rfl

theorem readyConns_cons (e : Ev) (es : List Ev) : readyConns (e :: es) = readyConns [e] ++ readyConns es := by
  unfold readyConns
  rw [← List.map_append, ← List.filter_append]
  rfl

theorem evBody_quiet (hr : HookBehaviour) (e : Ev) (m : Mux) (hm : m.shuttingDown = false)
    (hsd : e.setsShutdown = false) (hb : hr e.id ≠ some .base) :
    ∃ m', evBody hr e m = .ok m' ∧
      m'.hookLog = m.hookLog ++ ended [e] ∧ m'.unregLog = m.unregLog ++ ended [e] ∧
      m'.closeLog = m.closeLog ++ ended [e] ∧ m'.handled = m.handled ++ readyConns [e] ∧
      m'.housekeepings = m.housekeepings ∧ m'.shuttingDown = false := by
  obtain ⟨isL, id, acc, act, sd⟩ := e
  cases hsd
  unfold evBody
  rw [hm]
  have hn : ∀ l : List Nat, l = l ++ [] := fun l => (List.append_nil l).symm
  cases isL with
  | true => cases acc <;> exact ⟨_, rfl, hn _, hn _, hn _, hn _, rfl, rfl⟩
  | false =>
    cases act with
    | true => exact ⟨_, rfl, hn _, hn _, hn _, rfl, rfl, rfl⟩
    | false => exact ⟨_, drop_quiet hr id _ hb, rfl, rfl, rfl, rfl, rfl, rfl⟩

/-- **C13_round_cleanup.**  For every round (any number of ready sockets, in any order, any of them ended)
    that is not disturbed: `events` returns normally and has made the disconnect handling, the
    unregistration and the close for exactly the connections that ended in the round, in the order in
    which they were reported — nothing for the others —, has handled one request per ready connection, and
    has run the housekeeping once. -/
theorem C13_round_cleanup (hr : HookBehaviour) (evs : List Ev) :
    ∀ (m : Mux), Quiet hr m evs →
    ∃ m', eventsModel hr m evs = .ok m' ∧
      m'.hookLog = m.hookLog ++ ended evs ∧ m'.unregLog = m.unregLog ++ ended evs ∧
      m'.closeLog = m.closeLog ++ ended evs ∧ m'.handled = m.handled ++ readyConns evs ∧
      m'.housekeepings = m.housekeepings + 1 ∧ m'.shuttingDown = false := by
  induction evs with
  | nil =>
    intro m q
    exact ⟨_, rfl, (List.append_nil _).symm, (List.append_nil _).symm, (List.append_nil _).symm,
      (List.append_nil _).symm, rfl, q.notDown⟩
  | cons e es ih =>
    intro m q
    obtain ⟨m₁, h1, a1, b1, c1, d1, e1, f1⟩ :=
      evBody_quiet hr e m q.notDown (q.noShutdown e List.mem_cons_self) (q.noBase e.id)
    obtain ⟨m', h2, a2, b2, c2, d2, e2, f2⟩ :=
      ih m₁ ⟨f1, fun e' he' => q.noShutdown e' (List.mem_cons_of_mem _ he'), q.noBase⟩
    refine ⟨m', ?_, ?_, ?_, ?_, ?_, ?_, f2⟩
    · unfold eventsModel
      rw [h1]
      exact h2
    · rw [ended_cons, a2, a1, List.append_assoc]
    · rw [ended_cons, b2, b1, List.append_assoc]
    · rw [ended_cons, c2, c1, List.append_assoc]
    · rw [readyConns_cons, d2, d1, List.append_assoc]
    · rw [e2, e1]

theorem ended_sublist (evs : List Ev) : (ended evs).Sublist (readyConns evs) := by
  unfold ended readyConns
  rw [← List.filter_filter]
  exact (List.filter_sublist.filter _).map _

/-- **C13_round_once.**  In an undisturbed round in which every connection is reported at most once (what a
    selector does), the hook calls made by the round contain no connection twice, and a connection is
    among them if and only if it ended in this round: exactly once for each ended connection, never for
    one that is still open — whatever its position among the ready sockets.  The same for `close()`. -/
theorem C13_round_once (hr : HookBehaviour) (evs : List Ev) (m : Mux) (q : Quiet hr m evs)
    (hnd : (readyConns evs).Nodup) :
    ∃ m' new, eventsModel hr m evs = .ok m' ∧ m'.hookLog = m.hookLog ++ new ∧ m'.closeLog = m.closeLog ++ new ∧
      new.Nodup ∧ ∀ c, c ∈ new ↔ ∃ e ∈ evs, e.isListener = false ∧ e.active = false ∧ e.id = c := by
  obtain ⟨m', h1, h2, _, h4, _⟩ := C13_round_cleanup hr evs m q
  refine ⟨m', ended evs, h1, h2, h4, hnd.sublist (ended_sublist evs), ?_⟩
  intro c
  simp only [ended, List.mem_map, List.mem_filter, Bool.and_eq_true, Bool.not_eq_true']
  constructor
  · rintro ⟨e, ⟨he, h1, h2⟩, rfl⟩
    exact ⟨e, he, h1, h2, rfl⟩
  · rintro ⟨e, he, h1, h2, rfl⟩
    exact ⟨e, ⟨he, h1, h2⟩, rfl⟩

/-! ### the same, about the source as transcribed -/

/-- **C13_source_round_once.**  `C13_round_once` about the transcription of `events` itself. -/
theorem C13_source_round_once (hr : HookBehaviour) (evs : List Ev) (m : Mux) (q : Quiet hr m evs)
    (hnd : (readyConns evs).Nodup) :
    ∃ m' new, Pyro.Gen.C13.eventsSrc hr evs m = .ok m' ∧ m'.hookLog = m.hookLog ++ new ∧ m'.closeLog = m.closeLog ++ new ∧
      new.Nodup ∧ ∀ c, c ∈ new ↔ ∃ e ∈ evs, e.isListener = false ∧ e.active = false ∧ e.id = c := by
  rw [C13_events_translated]
  exact C13_round_once hr evs m q hnd

/-! ### non-vacuity: an ended connection FOLLOWED by other ready sockets, a raising hook, a new client -/
private def round1 : List Ev :=
  [ { isListener := false, id := 1, active := false }, { isListener := false, id := 2, active := true },
    { isListener := false, id := 3, active := false }, { isListener := true, accepted := some 4 } ]
private def hr1 : HookBehaviour := fun c => if c = 3 then some .user else none
example : Quiet hr1 { registered := [1, 2, 3] } round1 ∧ (readyConns round1).Nodup := by
  refine ⟨⟨rfl, by decide, ?_⟩, by decide⟩
  intro c
  unfold hr1
  split <;> simp

end Pyro.C13Src
