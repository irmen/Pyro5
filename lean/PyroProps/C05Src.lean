/-
  C05: `Daemon._clientDisconnect` as TRANSCRIBED from the current source (`Pyro.Gen.C05.clientDisconnectSrc`,
  written by harness/props/c05_tr.py on every run) computes exactly what the hand-written model
  `Streams.clientDisconnect` computes — for every table, connection, time and linger setting — and therefore the END OF ONE
  CONNECTION leaves the item streams of all other connections alone (the part of "clients that were connected all along keep
  receiving the correct replies to their own calls" that concerns a client in the middle of an item stream).
-/
import PyroModel.ServerLoopStreams
import PyroModel.Gen.C05

namespace Pyro.C05
open Pyro.ServerLoop.Streams Pyro.Gen.C05

/-- `ks = list(self.streaming_responses)` lists every key that is present (what a dict's key snapshot does) -/
def Covers (ks : List Nat) (t : Table) : Prop := ∀ k, (t k).isSome → k ∈ ks

/-- a table given as an association list (first match wins) -/
def ofList (l : List (Nat × Entry)) : Table := fun k => (l.find? (fun p => p.1 == k)).map (·.2)

theorem ofList_covers (l : List (Nat × Entry)) : Covers (l.map (·.1)) (ofList l) := by
  intro k hk
  simp only [ofList, Option.isSome_map, List.find?_isSome] at hk
  obtain ⟨p, hp, hpk⟩ := hk
  simp only [List.mem_map]
  exact ⟨p, hp, by simpa using hpk⟩

/-- one transcribed iteration = a dict update at that key with `release` of what was there -/
theorem step_eq (linger now conn : Nat) (t : Table) (k : Nat) :
    disconnectStepSrc linger now conn t k = t.upd k (release linger now conn (t k)) := by
  funext j
  simp only [disconnectStepSrc, ownerIs, release, stampOf, itemsOf]
  cases h : t k with
  | none => by_cases hj : j = k <;> simp [hj, h, Table.upd]
  | some e =>
    by_cases ho : e.owner = some conn <;> by_cases hl : linger > 0 <;> by_cases hj : j = k <;>
      simp [ho, hl, hj, h, Table.upd, Table.set, Table.pop]

theorem release_idem (linger now conn : Nat) (o : Option Entry) :
    release linger now conn (release linger now conn o) = release linger now conn o := by
  cases o with
  | none => rfl
  | some e => by_cases ho : e.owner = some conn <;> by_cases hl : linger > 0 <;> simp [release, ho, hl]

theorem foldl_eq (linger now conn : Nat) (ks : List Nat) : ∀ (t : Table) (j : Nat),
    (ks.foldl (disconnectStepSrc linger now conn) t) j = if j ∈ ks then release linger now conn (t j) else t j := by
  induction ks with
  | nil =>
    intro t j
    simp
  | cons k ks ih =>
    intro t j
    rw [List.foldl_cons, ih, step_eq]
    by_cases hjk : j = k
    · subst hjk
      by_cases hm : j ∈ ks <;> simp [Table.upd, hm, release_idem]
    · by_cases hm : j ∈ ks <;> simp [Table.upd, hjk, hm]

/-- **the transcription of `Daemon._clientDisconnect` equals the hand-written model**, for every linger setting, time,
    connection, table and every key snapshot that lists the keys present -/
theorem C05_clientDisconnect_translated (linger now conn : Nat) (ks : List Nat) (t : Table) (h : Covers ks t) :
    clientDisconnectSrc linger now conn ks t = clientDisconnect linger now conn t := by
  have hfold : ks.foldl (disconnectStepSrc linger now conn) t = fun k => release linger now conn (t k) := by
    funext j
    rw [foldl_eq]
    by_cases hm : j ∈ ks
    · simp [hm]
    · have hn : t j = none := by
        cases hj : t j with
        | none => rfl
        | some e => exact absurd (h j (by simp [hj])) hm
      simp [hm, hn, release]
  simp only [clientDisconnectSrc, clientDisconnect, hfold]

/-- the end of connection `conn`, as the SOURCE computes it, leaves every stream of every OTHER connection (and every
    lingering stream) exactly as it was: same owner, same clocks, same remaining items -/
theorem C05_source_streams_of_others_kept (linger now conn : Nat) (ks : List Nat) (t : Table) (h : Covers ks t)
    (k : Nat) (e : Entry) (hk : t k = some e) (ho : e.owner ≠ some conn) :
    (clientDisconnectSrc linger now conn ks t).1 k = some e := by
  rw [C05_clientDisconnect_translated _ _ _ _ _ h]
  simp [clientDisconnect, release, hk, ho]

/-- ... and it does release the streams of the connection that ended: removed at once without linger, otherwise kept with
    the client slot cleared and the linger clock started now (so that housekeeping can expire them) -/
theorem C05_source_own_streams_released (linger now conn : Nat) (ks : List Nat) (t : Table) (h : Covers ks t)
    (k : Nat) (e : Entry) (hk : t k = some e) (ho : e.owner = some conn) :
    (clientDisconnectSrc linger now conn ks t).1 k =
      if linger > 0 then some { owner := none, stamp := e.stamp, lingerSince := now, items := e.items } else none := by
  rw [C05_clientDisconnect_translated _ _ _ _ _ h]
  simp [clientDisconnect, release, hk, ho]

/-- no stream appears out of nothing, and the user hook is called -/
theorem C05_source_disconnect_adds_nothing (linger now conn : Nat) (ks : List Nat) (t : Table) (h : Covers ks t) (k : Nat)
    (hk : t k = none) :
    (clientDisconnectSrc linger now conn ks t).1 k = none ∧ (clientDisconnectSrc linger now conn ks t).2 = true := by
  rw [C05_clientDisconnect_translated _ _ _ _ _ h]
  simp [clientDisconnect, release, hk]

/-- the transcription reproduces what the REAL function did on the probed tables at extraction time -/
def rowOk (r : Nat × List (Nat × Entry) × List (Nat × Option Entry)) : Bool :=
  let out := (clientDisconnectSrc r.1 77 1 (r.2.1.map (·.1)) (ofList r.2.1)).1
  r.2.2.all fun p => out p.1 == p.2

theorem C05_gen_disconnect_rows : disconnectRows.all rowOk = true := by decide +kernel

/-! ### histories: a witness in the middle of a stream -/

/-- the event is not the end of the witness's own connection `w` and is not a fetch from the witness's stream `k` -/
def Ev.leaves (w k : Nat) : Ev → Prop
  | .disconnect c _ => c ≠ w
  | .housekeep _ => True
  | .next _ id => id ≠ k
  | .opened _ _ _ _ => True

theorem step_keeps (linger w k : Nat) (e : Entry) (t : Table) (ev : Ev) (hk : t k = some e) (ho : e.owner = some w)
    (hl : e.lingerSince = 0) (h : Ev.leaves w k ev) : step linger t ev k = some e := by
  cases ev with
  | disconnect c now => simp [step, clientDisconnect, release, hk, ho, Ne.symm h]
  | housekeep now => simp [step, housekeeping, hk, hl]
  | next c id =>
    simp only [step, nextItem]
    split
    · exact hk
    · split <;> simp [Table.pop, Table.set, Table.upd, Ne.symm h, hk]
  | opened c id now items =>
    simp only [step]
    split
    · exact hk
    · rename_i hs
      have : k ≠ id := fun e => hs (by simp [← e, hk])
      simp [Table.set, Table.upd, this, hk]

/-- **for every history** of connections ending (any but the witness's own), housekeeping passes at any times, other
    streams being opened and fetched from, in any order and for every linger setting: the witness's stream is still there
    afterwards, unchanged — same owner, not lingering, same remaining items -/
theorem C05_stream_survives (linger w k : Nat) (e : Entry) (evs : List Ev) : ∀ (t : Table), t k = some e → e.owner = some w →
    e.lingerSince = 0 → (∀ ev ∈ evs, Ev.leaves w k ev) → run linger t evs k = some e := by
  induction evs with
  | nil => exact fun _ hk _ _ _ => hk
  | cons ev evs ih =>
    intro t hk ho hl hev
    exact ih (step linger t ev) (step_keeps linger w k e t ev hk ho hl (hev ev List.mem_cons_self)) ho hl
      fun ev' hm => hev ev' (List.mem_cons_of_mem _ hm)

/-- ... and so the witness's next fetch hands out exactly the next item of ITS stream -/
theorem C05_witness_next_item (linger w k : Nat) (e : Entry) (x : Nat) (rest : List Nat) (evs : List Ev) (t : Table)
    (hk : t k = some e) (ho : e.owner = some w) (hl : e.lingerSince = 0) (hi : e.items = x :: rest)
    (hev : ∀ ev ∈ evs, Ev.leaves w k ev) : (nextItem w k (run linger t evs)).2 = some x := by
  have h := C05_stream_survives linger w k e evs t hk ho hl hev
  simp [nextItem, h, ho, hi]

/-- non-vacuity / boundary: conn 2 ends, a housekeeping pass far later, conn 3 opens and reads a stream of its own; the
    witness (conn 1) then gets item 8 of its stream 5 — with and without linger.  The same history in which the witness's OWN
    connection ends loses the stream (linger 0) / lets housekeeping expire it (linger > 0). -/
def demoTable : Table := ofList [(5, ⟨some 1, 10, 0, [8, 9]⟩), (6, ⟨some 2, 11, 0, [1]⟩)]
def demoEvs : List Ev := [.disconnect 2 20, .housekeep 1000, .opened 3 7 21 [4], .next 3 7, .disconnect 3 30, .housekeep 2000]
example : (nextItem 1 5 (run 0 demoTable demoEvs)).2 = some 8 ∧ (nextItem 1 5 (run 3 demoTable demoEvs)).2 = some 8 := by decide +kernel
example : (run 0 demoTable demoEvs) 6 = none ∧ (run 3 demoTable demoEvs) 6 = none ∧ (run 3 demoTable [.disconnect 2 20]) 6 ≠ none := by
  decide +kernel
example : (nextItem 1 5 (run 0 demoTable [.disconnect 1 20])).2 = none
    ∧ (nextItem 1 5 (run 3 demoTable [.disconnect 1 20, .housekeep 1000])).2 = none := by decide +kernel
example : ∀ ev ∈ demoEvs, Ev.leaves 1 5 ev := by
  intro ev h
  simp only [demoEvs, List.mem_cons, List.mem_nil_iff, or_false] at h
  rcases h with h | h | h | h | h | h <;> subst h <;> simp [Ev.leaves]

end Pyro.C05
