/-
  C20Src.lean — the deciding functions of Pyro5/utils/httpgateway.py as TRANSCRIBED from the source on
  every run (harness/props/c20_tr.py → PyroModel/Gen/C20Src.lean) compute, for every configuration,
  backend, request, path and parameter dict, exactly what the hand-written model of
  PyroModel/Gateway.lean computes (`C20_…_translated`), and the property theorems restated about the
  transcription (`C20_source_…`).

  The last section states what the property says about one request (`PerRequest`) and proves it of the
  model's `app`, of the transcribed `appSrc`, and of every request of a history of the model.
-/
import PyroModel.Gen.C20Src
import PyroProps.C20

namespace Pyro.C20

open Pyro Pyro.Gateway Pyro.Gen.C20Src

/-! ### the vocabulary against the model's own string / dict functions -/

theorem src_lstrip_slash (s : Str) : Src.lstrip [47] s = lstripSlash s := by
  induction s with
  | nil => rfl
  | cons c rest ih =>
    by_cases h : c = 47
    · subst h; simp [Src.lstrip, lstripSlash, cSlash, ih]
    · simp [Src.lstrip, lstripSlash, cSlash, h]

theorem src_truthy (s : Str) : (Src.truthy s = true) ↔ s ≠ [] := by
  cases s <;> simp [Src.truthy]

theorem src_strIn (x : Str) (l : List Str) : (Src.strIn x l = true) ↔ x ∈ l := List.contains_iff_mem

theorem src_truthyB (cfg : Cfg) : Src.truthyB cfg.key = keyConfigured cfg := by
  unfold Src.truthyB keyConfigured; cases cfg.key <;> rfl

theorem src_presented (req : Req) (ps : Params) :
    Src.orP req.keyHeader (Src.getP [36, 107, 101, 121] ps (PVal.one [])) = presentedKey req ps := by
  unfold Src.orP Src.getP presentedKey
  by_cases h : req.keyHeader = []
  · cases hl : lookupP [36, 107, 101, 121] ps <;> simp [h, Src.truthy, sKey, hl]
  · have : Src.truthy req.keyHeader = true := (src_truthy _).2 h
    simp [h, this]

/-- `OPTIONS` is the only one of the three allowed methods that is a substring of "OPTIONS" -/
theorem src_substr_options (m : Str) (h : m = sGET ∨ m = sPOST ∨ m = sOPTIONS) :
    Src.substr m [79, 80, 84, 73, 79, 78, 83] = decide (m = sOPTIONS) := by
  rcases h with h | h | h <;> subst h <;> decide

/-! ### the transcriptions compute what the model computes -/

/-- `singlyfy_parameters` as transcribed = the model's `singlyfy`, for every parsed query string. -/
theorem C20_singlyfy_translated (q : List (Str × List Str)) : singlyfySrc q = singlyfy q := by
  unfold singlyfySrc singlyfy
  apply List.map_congr_left
  intro kv _
  rcases kv with ⟨k, v⟩
  match v with
  | [] => rfl
  | [a] => rfl
  | a :: b :: t => simp

/-- the assignments to `Pyro5.config` at the head of `pyro_app` as transcribed = the model's `writeConfig`. -/
theorem C20_configWrite_translated (tmo : Nat) (c : PyroConfig) : configWriteSrc tmo c = writeConfig tmo c := by
  rfl

/-- `process_pyro_request` as transcribed (index page, path split, key check, removal of `$key`,
    expose-pattern check, refusals, hand-over to the forwarding block) = the model's `process`, for
    every configuration, backend, request, path and parameter dict. -/
theorem C20_process_translated (cfg : Cfg) (be : Backend) (req : Req) (p : Str) (ps : Params) :
    processSrc cfg be req p ps = process cfg be req p ps := by
  unfold processSrc process
  by_cases hp : p = []
  · subst hp; simp [Src.truthy]
  · have ht : Src.truthy p = true := (src_truthy _).2 hp
    simp only [ht, hp, if_true, if_false]
    cases hs : splitPath p with
    | none => simp [resp404]
    | some om =>
      obtain ⟨o, m⟩ := om
      simp only [src_truthyB, src_presented]
      unfold keyOK patternOK forwardParams Src.fwd
      by_cases hk : keyConfigured cfg = true
      · simp only [hk, if_true]
        cases hpk : presentedKey req ps with
        | one s =>
          by_cases he : some (utf8 s) = cfg.key
          · cases hpat : cfg.pattern with
            | none => simp [he, sKey]
            | some pat =>
              cases pat with
              | nil => simp [he, Src.truthy, sKey]
              | cons c cs =>
                cases hm : be.rmatch (c :: cs) o with
                | true => simp [he, Src.truthy, hm, sKey]
                | false => simp [he, Src.truthy, hm, respDenied]
          · simp [he, respBadKey]
        | many vs =>
          cases hck : cfg.key with
          | none => simp [keyConfigured, hck] at hk
          | some k => simp [respBadKey]
      · simp only [hk]
        cases hpat : cfg.pattern with
        | none => simp
        | some pat =>
          cases pat with
          | nil => simp [Src.truthy]
          | cons c cs =>
            cases hm : be.rmatch (c :: cs) o with
            | true => simp [Src.truthy, hm]
            | false => simp [Src.truthy, hm, respDenied]

/-- `pyro_app` as transcribed (routing by path and method) = the model's `app`, for every
    configuration, backend and request. -/
theorem C20_app_translated (cfg : Cfg) (be : Backend) (req : Req) : appSrc cfg be req = app cfg be req := by
  unfold appSrc app
  simp only [src_lstrip_slash, C20_process_translated, C20_singlyfy_translated, Src.startswith, Src.sliceFrom,
    src_strIn, src_truthy, List.mem_cons, List.not_mem_nil, or_false, sPyro, sGET, sPOST, sOPTIONS]
  by_cases hp : lstripSlash req.path = []
  · simp [hp, resp302]
  · simp only [hp, ne_eq, not_false_eq_true, if_true, if_false]
    by_cases hpre : List.isPrefixOf [112, 121, 114, 111, 47] (lstripSlash req.path) = true
    · simp only [hpre, if_true]
      by_cases hm : req.method = sGET ∨ req.method = sPOST ∨ req.method = sOPTIONS
      · have hs := src_substr_options _ hm
        simp only [sGET, sPOST, sOPTIONS] at hm hs
        simp only [hm, hs, if_true]
        by_cases ho : req.method = [79, 80, 84, 73, 79, 78, 83] <;> simp [ho, respOptions]
      · simp only [sGET, sPOST, sOPTIONS] at hm
        simp [hm, resp405]
    · simp [hpre, resp404]

/-! ### the property, restated about the transcription of the source -/

/-- **C20_source_no_traffic.**  `C20_no_traffic` about `pyro_app` as transcribed from the source: any
    Pyro traffic at all ⇒ index page, or a call request with the configured key and a matching name. -/
theorem C20_source_no_traffic (cfg : Cfg) (be : Backend) (req : Req) (h : (appSrc cfg be req).2 ≠ []) :
    IsHomepage req ∨ ∃ obj member, Authorised cfg be req obj member := by
  rw [C20_app_translated] at h; exact C20_no_traffic cfg be req h

/-- **C20_source_refused.**  `C20_refused` about the transcription: everything else gets the gateway's own
    403 / 404 / 405 (302 for the empty path, 200 for OPTIONS) and an empty action list. -/
theorem C20_source_refused (cfg : Cfg) (be : Backend) (req : Req)
    (hh : ¬ IsHomepage req) (ha : ¬ ∃ obj member, Authorised cfg be req obj member) :
    (appSrc cfg be req).2 = [] ∧
    ∃ r, (appSrc cfg be req).1 = .http r ∧
      (r.status = 403 ∨ r.status = 404 ∨ r.status = 405 ∨
       (r.status = 302 ∧ lstripSlash req.path = []) ∨
       (r = respOptions ∧ req.method = sOPTIONS)) := by
  rw [C20_app_translated]; exact C20_refused cfg be req hh ha

/-- **C20_source_forwarded.**  An authorised request is handed by the transcribed `pyro_app` to the
    forwarding block with exactly the object name and member name of the path split and exactly the
    flattened query parameters of the transcribed `singlyfy_parameters`, minus `$key` when a key is
    configured — nothing else of the request decides what is forwarded. -/
theorem C20_source_forwarded (cfg : Cfg) (be : Backend) (req : Req) (obj member : Str)
    (hA : Authorised cfg be req obj member) :
    appSrc cfg be req = Src.fwd be req obj member (forwardParams cfg (singlyfySrc req.query)) := by
  rw [C20_app_translated, C20_singlyfy_translated, app_authorised hA]; rfl

/-- **C20_source_faithful_call.**  `C20_faithful_call` about the transcription. -/
theorem C20_source_faithful_call (cfg : Cfg) (be : Backend) (req : Req) (obj member uri : Str) (m : Meta)
    (hA : Authorised cfg be req obj member) (hR : Reaches be req obj uri m)
    (hmeta : member ≠ sMeta) (hattr : m.attrs.contains member = false)
    (hmeth : m.methods.contains member = true) (hself : lookupP sSelf (fwdParams cfg req) = none) :
    appSrc cfg be req =
      (.http (replyOfResult (onewayOpt req)
          (be.call uri member (fwdParams cfg req) (onewayOpt req || m.oneway.contains member))),
       [.getNameServer, .lookup obj, .connect uri, .getMetadata uri,
        .call uri member (fwdParams cfg req) (onewayOpt req || m.oneway.contains member),
        .release uri]) := by
  rw [C20_app_translated]; exact C20_faithful_call cfg be req obj member uri m hA hR hmeta hattr hmeth hself

/-! ### exactly once, for every request of every history -/

/-- name-server lookups of single names (the index page's batch is `batchLookup`) -/
def isLookup : Action → Bool
  | .lookup _ => true
  | _ => false

theorem withProxy_no_lookup (be : Backend) (req : Req) (uri member : Str) (ps : Params) :
    (withProxy be req uri member ps).2.filter isLookup = [] := by
  rcases withProxy_log be req uri member ps with h | ⟨inv, h, rfl | ⟨ow, rfl⟩ | ⟨rfl, _⟩⟩ <;>
    rw [h] <;>
    rfl

/-- what the property says about ONE request and its outcome `out` = (reply, action log) -/
structure PerRequest (cfg : Cfg) (be : Backend) (req : Req) (out : Reply × List Action) : Prop where
  /-- not authorised (and not the index page): no Pyro traffic whatsoever -/
  refused : ¬ IsHomepage req → (¬ ∃ obj member, Authorised cfg be req obj member) → out.2 = []
  /-- authorised: the name server is asked for exactly the named object, exactly once (not at all
      only if the name server itself cannot be reached) -/
  one_lookup : ∀ obj member, Authorised cfg be req obj member →
      out.2.filter isLookup = if be.nsGet = none then [.lookup obj] else []
  /-- never more than one invocation -/
  at_most_one : (out.2.filter isInvoke).length ≤ 1
  /-- authorised, object reached, member is a method: exactly one invocation, of exactly that method
      of exactly that object's uri with exactly the query parameters (minus `$key`) -/
  one_call : ∀ obj member uri m, Authorised cfg be req obj member → Reaches be req obj uri m →
      member ≠ sMeta → m.attrs.contains member = false → m.methods.contains member = true →
      lookupP sSelf (fwdParams cfg req) = none →
      out.2.filter isInvoke = [.call uri member (fwdParams cfg req) (onewayOpt req || m.oneway.contains member)]
  /-- authorised, object reached, member is an attribute, no parameters: exactly one read of it -/
  one_getattr : ∀ obj member uri m, Authorised cfg be req obj member → Reaches be req obj uri m →
      member ≠ sMeta → m.attrs.contains member = true → fwdParams cfg req = [] →
      out.2.filter isInvoke = [.getattr uri member]

/-- **C20_exactly_once.**  For every configuration, backend and request: no traffic for an
    unauthorised request; for an authorised one exactly one lookup, of exactly the named object, and —
    when the object is reached — exactly one invocation, of exactly the named method (attribute) with
    exactly the query parameters; never two invocations. -/
theorem C20_exactly_once (cfg : Cfg) (be : Backend) (req : Req) : PerRequest cfg be req (app cfg be req) where
  refused hh ha := (C20_refused cfg be req hh ha).1
  one_lookup obj member hA := by
    rw [app_authorised hA]
    rcases forward_log be req obj member (fwdParams cfg req) with ⟨hns, h⟩ | ⟨hns, h | ⟨uri, _, h | h⟩⟩ <;>
      dsimp only <;> rw [h]
    · rw [if_neg hns]; rfl                -- no name server
    · rw [if_pos hns]; rfl                -- lookup failed
    · rw [if_pos hns]; rfl                -- proxy creation failed
    · rw [if_pos hns, List.filter_append, List.filter_append, withProxy_no_lookup]; rfl   -- proxy block ran
  at_most_one := C20_at_most_one_invocation cfg be req
  one_call obj member uri m hA hR h1 h2 h3 h4 := by
    rw [C20_faithful_call cfg be req obj member uri m hA hR h1 h2 h3 h4]; rfl
  one_getattr obj member uri m hA hR h1 h2 h3 := by
    rw [C20_faithful_attr cfg be req obj member uri m hA hR h1 h2 h3]; rfl

/-- **C20_source_exactly_once.**  The same about `pyro_app` as transcribed from the source. -/
theorem C20_source_exactly_once (cfg : Cfg) (be : Backend) (req : Req) :
    PerRequest cfg be req (appSrc cfg be req) := by
  rw [C20_app_translated]; exact C20_exactly_once cfg be req

/-- **C20_history_exactly_once.**  Over whole histories: whatever was requested before, whatever other
    code wrote to the Pyro configuration in between and from whatever configuration the process started,
    EVERY request of the history satisfies `PerRequest` with the settings, backend and request of its own
    moment — one lookup and one invocation per authorised request with exactly the given name, member
    and parameters, none for an unauthorised one; nothing leaks from one request into a later one. -/
theorem C20_history_exactly_once (c0 : PyroConfig) (evs : List HEv) :
    (runHistory c0 evs).length = (requestsOf evs).length ∧
    ∀ p ∈ (runHistory c0 evs).zip (requestsOf evs),
      PerRequest p.2.1 p.2.2.2.1 p.2.2.2.2 (p.1.reply, p.1.actions) := by
  induction evs generalizing c0 with
  | nil => exact ⟨rfl, fun p hp => nomatch hp⟩
  | cons ev rest ih =>
    cases ev with
    | perturb c' => exact ih c'
    | request cfg tmo be req =>
      obtain ⟨hl, hp⟩ := ih (writeConfig tmo c0)
      refine ⟨congrArg Nat.succ hl, fun p hp' => ?_⟩
      rcases List.mem_cons.1 hp' with h | h
      · subst h; exact C20_exactly_once cfg be req
      · exact hp p h

-- non-vacuity: the example request of PyroProps/C20.lean through the transcription (key in `$key`, name matching
-- `http\.`): one lookup of `http.a`, one invocation
example : ((appSrc exCfg exBe exReq).2.filter isLookup, ((appSrc exCfg exBe exReq).2.filter isInvoke).length) =
    ([.lookup exObj], 1) := by decide +kernel

end Pyro.C20
