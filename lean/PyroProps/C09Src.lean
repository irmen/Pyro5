/-
  C09 — the property theorems restated about the transcription of the current source of `Daemon._getInstance`
  (corollaries of PyroProps/C09.lean through `C09_runHist_translated` / `C09_getInstance_translated`, PyroProps/C09Ast.lean).
-/
import PyroModel.Instances
import PyroModel.InstancesSrc
import PyroModel.Gen.C09Src
import PyroProofs.Instances
import PyroProps.C09
import PyroProps.C09Ast
import PyroProps.C09Surv

namespace Pyro.C09

open Pyro Pyro.Inst Pyro.Inst.Src Pyro.Gen.C09Src

/-! ### the property, about the transcription of the current source -/

theorem src_trace {spec : Nat → ClassSpec} {ub : Bool} {h : List Event} {sf : State} {tr : List Res}
    (hrun : runHistSrc getInstanceSrc spec ub State.init h = some (sf, tr)) : tr = trace fixed spec State.init h := by
  rw [C09_runHist_translated] at hrun
  exact (congrArg Prod.snd (Option.some.inj hrun)).symm

/-- **C09_source_single.**  `C09_single` with every call made by the transcribed `_getInstance`: all served calls on a
    `single` class are served by the same instance and only the first creates. -/
theorem C09_source_single (spec : Nat → ClassSpec) (ub : Bool) (h : List Event) (sf : State) (tr : List Res)
    (hrun : runHistSrc getInstanceSrc spec ub State.init h = some (sf, tr))
    (i j c c' k : Nat) (o o' : Outcome) (a : Instance) (x y : Bool)
    (hm : (spec k).mode = .single) (hij : i < j) (hi : h[i]? = some (.call c k o)) (hj : h[j]? = some (.call c' k o'))
    (hti : tr[i]? = some (.served a x y)) : tr[j]? = some (.served a false false) := by
  obtain rfl := src_trace hrun
  exact C09_single spec h i j c c' k o o' a x y hm hij hi hj hti

/-- **C09_source_session.**  `C09_session` about the transcription. -/
theorem C09_source_session (spec : Nat → ClassSpec) (ub : Bool) (h : List Event) (sf : State) (tr : List Res)
    (hrun : runHistSrc getInstanceSrc spec ub State.init h = some (sf, tr))
    (i j c k : Nat) (o o' : Outcome) (a : Instance) (x y : Bool)
    (hm : (spec k).mode = .session) (hij : i < j) (hi : h[i]? = some (.call c k o)) (hj : h[j]? = some (.call c k o'))
    (hopen : ∀ m, i < m → m < j → h[m]? ≠ some (.close c) ∧ ∀ kp, h[m]? ≠ some (.openConn c kp))
    (hti : tr[i]? = some (.served a x y)) : tr[j]? = some (.served a false false) := by
  obtain rfl := src_trace hrun
  exact C09_session spec h i j c k o o' a x y hm hij hi hj hopen hti

/-- **C09_source_no_sharing.**  `C09_no_sharing` about the transcription: calls that do not address the same slot
    (different classes, `session` on different connections, anything vs `percall`) never share an instance. -/
theorem C09_source_no_sharing (spec : Nat → ClassSpec) (ub : Bool) (h : List Event) (sf : State) (tr : List Res)
    (hrun : runHistSrc getInstanceSrc spec ub State.init h = some (sf, tr))
    (i j c k c' k' : Nat) (o o' : Outcome) (a b : Instance) (x y x' y' : Bool) (hij : i ≠ j)
    (hi : h[i]? = some (.call c k o)) (hj : h[j]? = some (.call c' k' o'))
    (hslots : ∀ sl, slotOf (spec k).mode c k = some sl → slotOf (spec k').mode c' k' ≠ some sl)
    (hti : tr[i]? = some (.served a x y)) (htj : tr[j]? = some (.served b x' y')) : a.idx ≠ b.idx := by
  obtain rfl := src_trace hrun
  exact C09_no_sharing hij hi hj hslots hti htj

/-- **C09_source_percall.**  `C09_percall` about the transcription. -/
theorem C09_source_percall (spec : Nat → ClassSpec) (ub : Bool) (h : List Event) (sf : State) (tr : List Res)
    (hrun : runHistSrc getInstanceSrc spec ub State.init h = some (sf, tr))
    (j c k : Nat) (o : Outcome) (a : Instance) (x y : Bool) (hm : (spec k).mode = .percall)
    (hj : h[j]? = some (.call c k o)) (htj : tr[j]? = some (.served a x y)) :
    x = true ∧
    ∀ (i c' k' : Nat) (o' : Outcome) (b : Instance) (x' y' : Bool), i ≠ j → h[i]? = some (.call c' k' o') →
      tr[i]? = some (.served b x' y') → b.idx ≠ a.idx := by
  obtain rfl := src_trace hrun
  exact C09_percall fixed spec h j c k o a x y hm hj htj

/-- **C09_source_creator_once.**  `C09_creator_once` about one call of the transcription, where "the creator was
    called" is the transcription's own count of `creator(clazz)` evaluations (> 0), not a flag of the model. -/
theorem C09_source_creator_once (spec : Nat → ClassSpec) (conn cls : Nat) (o : Outcome) (ub : Bool) (s s' : State) (r : Res)
    (hrun : runCall getInstanceSrc spec conn cls o ub s = some (s', r)) : creatorOk (spec cls).creator r := by
  rw [C09_getInstance_translated] at hrun
  have hr : (getInstance fixed (spec cls) conn cls o s).2 = r := congrArg Prod.snd (Option.some.inj hrun)
  exact hr ▸ getInstance_creator fixed (spec cls) conn cls o s

/-- **C09_source_session_never_survives.**  `C09_session_never_survives` about the transcription: with every call made by
    the transcribed `_getInstance`, a session instance serves no call at all once its connection has been closed. -/
theorem C09_source_session_never_survives (spec : Nat → ClassSpec) (ub : Bool) (h : List Event) (sf : State) (tr : List Res)
    (hrun : runHistSrc getInstanceSrc spec ub State.init h = some (sf, tr))
    (i m j c k c' k' : Nat) (o o' : Outcome) (a b : Instance) (x y cr cc : Bool)
    (hno : ∀ n, n < m → h[n]? ≠ some (.openConn c true))
    (hmode : (spec k).mode = .session) (hi : h[i]? = some (.call c k o)) (hti : tr[i]? = some (.served a x y))
    (him : i < m) (hm : h[m]? = some (.close c)) (hmj : m < j) (hj : h[j]? = some (.call c' k' o'))
    (htj : tr[j]? = some (.served b cr cc)) : b.idx ≠ a.idx := by
  obtain rfl := src_trace hrun
  exact C09_session_never_survives fixed spec h i m j c k c' k' o o' a b x y cr cc hno hmode hi hti him hm hmj hj htj

end Pyro.C09
