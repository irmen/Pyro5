/-
  C16 — the registry functions of Pyro5/server.py, transcribed from the source on every run
  (PyroModel/Gen/C16.lean, namespace Pyro.Gen.C16Src, translator harness/props/c16_tr.py, vocabulary
  PyroModel/RegistrySrc.lean), compute exactly what the hand-written model (PyroModel/Registry.lean, `Cfg.fixed`)
  computes — for all states and arguments.  (The property theorems restated about the transcription: PyroProps/C16Src.lean.
  This module does not import the probe obligations of PyroProps/C16.lean: when the source changes, it is the theorem about
  the changed function that stops building.)

  The proofs do not depend on the shape of the generated text: they split on what the *state* looks like (the
  object's attributes, the table entry under the ids involved, whether the referent is alive) and let `simp`
  evaluate both sides; the vocabulary, which evaluates on constructors, is a local simp set.  `Daemon.register`
  is run for the id it resolves its argument to, as a variable; without `force` two more checks come first, and
  when they pass the run is the one with `force`.
-/
import PyroProofs.Registry
import PyroModel.Gen.C16

namespace Pyro.C16

open Pyro Pyro.Registry Pyro.Registry.Src Pyro.Gen.C16Src

attribute [local simp] Target.val IdArg.val resR isStr truthy tblHas tblGet idAttr hasIdAttr Eff.bind isWref entryVal refVal

/-- what `Daemon._registered(i)` is in the model: the entry under `i`, weak references dereferenced, `None` for
    nothing or a dead reference -/
def registeredVal (s : State) (i : Id) : Val :=
  match (lookup i s.objs).bind (deref s) with
  | some r => refVal r
  | none => .none

/-- **C16_registered_translated.** `Daemon._registered` as transcribed = the model's `lookup` + `deref`. -/
theorem C16_registered_translated (s : State) (i : Id) :
    registeredSrc s (.str i) = registeredVal s i := by
  unfold registeredSrc registeredVal
  cases hl : lookup i s.objs with
  | none => simp [hl]
  | some en =>
    obtain ⟨r, w⟩ := en
    cases w <;> cases r with
    | daemonObj => simp [hl, deref, wrefCall]
    | ent e =>
      cases e with
      | cls c => simp [hl, deref, wrefCall]
      | obj k =>
        by_cases hd : s.dead k = true <;>
          simp [hl, deref, wrefCall, hd]

/-- the argument names no pool object that has been collected (the model answers those steps `dead` at harness
    level: there is no such python call) -/
def liveT (s : State) : Target → Prop
  | .byObj e => isDead s e = false
  | _ => True

/-- **C16_finalizer_translated.** The callback that `register(…, weak=True)` hands to `weakref.finalize`
    (`Daemon._unregisterWeak(i, ref)`), as transcribed, with `ref` = the weak reference to object `k`: removes the
    entry exactly as the model's `runFin` does, touches nothing else, returns `None`. -/
theorem C16_finalizer_translated (s : State) (k : Nat) (i : Id) :
    finalizerSrc s (.str i) (.wref (.ent (.obj k))) = ({ s with objs := runFin .fixed k s.objs i }, .ret .none) := by
  unfold finalizerSrc runFin
  cases hl : lookup i s.objs with
  | none => simp [hl, Cfg.fixed]
  | some en =>
    obtain ⟨r, w⟩ := en
    cases w
    · cases r <;> simp [hl, Cfg.fixed, weakOf]
    · by_cases hr : r = .ent (.obj k)
      · subst hr
        simp [hl, Cfg.fixed, weakOf, tblDel]
      · simp [hl, Cfg.fixed, weakOf, hr]

/-- **C16_uriFor_translated.** `Daemon.uriFor` as transcribed = the model's `uriFor`, for every argument kind
    (id string, pool object or class, `None`, an object without pyro attributes, the daemon's own object). -/
theorem C16_uriFor_translated (s : State) (t : Target) (nat : Bool) (hl : liveT s t) :
    uriForSrc s (Target.val t) nat = (s, resR (uriFor s t)) := by
  unfold uriForSrc
  cases t with
  | byId i => simp [retUri, uriFor]
  | noneArg => simp [uriFor]
  | plain => simp [uriFor]
  | daemonObj =>
    cases h : lookup .daemon s.objs <;> simp [uriFor, h, retUri]
  | byObj e =>
    have hd : isDead s e = false := hl
    cases hg : getId s e with
    | none => simp [uriFor, hg, hd]
    | some i =>
      cases h : lookup i s.objs <;> simp [uriFor, h, retUri, hg, hd]

/-- **C16_registeredIds_translated.** `DaemonObject.registered` as transcribed = the key list of the table. -/
theorem C16_registeredIds_translated (cfg : Cfg) (s : State) :
    registeredIdsSrc s = (s, resR (step cfg s .registered).2) := by
  simp [registeredIdsSrc, step, tblKeys]

/-- **C16_autoProxy_translated.** The type-replacement hook `_pyro_obj_to_auto_proxy` as transcribed: the object is
    replaced by `daemon.proxyFor(obj)` exactly when the model's hook condition holds (`_pyroDaemon` is this daemon
    and the object, or its class, owns the table entry under the object's `_pyroId`); otherwise the object itself
    is returned (and serialised by value). -/
theorem C16_autoProxy_translated (s : State) (k : Nat) :
    autoProxySrc s (.ent (.obj k)) =
      if getDm s (.obj k) = .this && ownsEntry s k then (s, resR (proxyFor s (.byObj (.obj k))))
      else (s, .ret (.ent (.obj k))) := by
  have hreg : ∀ v, registeredSrc s v = match v with
      | .str i => registeredVal s i
      | _ => .none := by
    intro v
    cases v with
    | str i => exact C16_registered_translated s i
    | _ => simp [registeredSrc]
  unfold autoProxySrc
  simp only [hreg]
  cases hdm : getDm s (.obj k) with
  | absent => simp [dmAttr, hdm]
  | none => simp [dmAttr, hdm]
  | this =>
    simp only [dmAttr, hdm, truthy, if_true]
    cases hg : getId s (.obj k) with
    | none => simp [hg, ownsEntry, registeredRef, isClassV]
    | some i =>
      simp only [idAttr, hg, ownsEntry, registeredRef, Option.bind_some, registeredVal]
      cases hb : (lookup i s.objs).bind (deref s) with
      | none => simp [isClassV]
      | some r =>
        cases r with
        | daemonObj => simp [isClassV]
        | ent e =>
          cases e with
          | obj k' => by_cases hk : k' = k <;> simp [isClassV, retProxyFor, hk]
          | cls c =>
            by_cases hc : classOf k = c
            · simp [isClassV, retProxyFor, instOf, hc]
            · have hc' : ¬ c = classOf k := fun h => hc h.symm
              simp [isClassV, instOf, hc, hc']

theorem getId_mk_upd (objs : Objs) (pid : Ent → Option Id) (pdm : Ent → DAttr) (dead : Nat → Bool)
    (fins : List (Nat × Id)) (next : Nat) (e : Ent) (i : Id) :
    getId ⟨objs, upd pid e (some i), pdm, dead, fins, next⟩ e = some i := by
  cases e <;> simp [getId, upd]

theorem isClassV_ent (e : Ent) : isClassV (.ent e) = isClass e := by cases e <;> rfl

theorem registeredVal_eq_ent (s : State) (i : Id) (e : Ent) :
    registeredVal s i = Val.ent e ↔ (lookup i s.objs).bind (deref s) = some (.ent e) := by
  unfold registeredVal
  cases (lookup i s.objs).bind (deref s) with
  | none => simp
  | some r => cases r <;> simp

/-- `self._registered(p) is e`: the model's identity test `entryIs`, its flag `true` = the weak reference is unpacked -/
theorem registered_is (s : State) (p : Id) (e : Ent) :
    registeredSrc s (.str p) = .ent e ↔ entryIs s true p e = true := by
  rw [C16_registered_translated, registeredVal_eq_ent, entryIs_unpack, beq_iff_eq]

/-- **C16_unregister_translated.** `Daemon.unregister` as transcribed = the model's `unregister` of the repaired
    code: same final state (table and both attributes of the object) and same outcome (`None`, ValueError,
    DaemonError, AttributeError), for every argument kind. -/
theorem C16_unregister_translated (s : State) (t : Target) (hl : liveT s t) :
    unregisterSrc s (Target.val t) = ((unregister .fixed s t).1, resR (unregister .fixed s t).2) := by
  unfold unregisterSrc
  cases t with
  | noneArg => simp [unregister]
  | plain => simp [unregister]
  | daemonObj => simp [unregister]
  | byId i =>
    by_cases hi : i = .daemon
    · simp [unregister, hi]
    · cases h : lookup i s.objs with
      | none => simp [unregister, hi, h, erase_of_lookup_none h]
      | some en => simp [unregister, hi, h, tblDel]
  | byObj e =>
    have hd : isDead s e = false := hl
    cases hg : getId s e with
    | none => simp [unregister, hg, hd]
    | some i =>
      by_cases hi : i = .daemon
      · simp [unregister, hg, hd, hi]
      · cases h : lookup i s.objs with
        | none => simp [unregister, hg, hd, hi, h]
        | some en =>
          -- server.py 699-703: entry and both attributes go only when the entry (still) is this object
          by_cases hown : deref s en = some (.ent e)
          · simp only [Target.val, unregister, isStr, idAttr, hg, hd, hi, tblHas, h, C16_registered_translated,
              beq_iff_eq, registeredVal_eq_ent, Option.bind_some, hown, Cfg.fixed, tblDel, Eff.bind, delAttrs, delIdAttr, delDmAttr]
            cases hp : s.pid e with
            | none => simp [hi, hp]
            | some j => by_cases ha : s.pdm e = .absent <;> simp [ha, hi, hp]
          · simp [unregister, hg, hd, hi, h, C16_registered_translated, registeredVal_eq_ent, hown, Cfg.fixed]

theorem registerSrc_unforced (s : State) (e : Ent) (j : Id) (weak : Bool)
    (hnew : alreadyHasId .fixed s e = false) (hfree : lookup j s.objs = none) :
    registerSrc s (.ent e) (.str j) false weak = registerSrc s (.ent e) (.str j) true weak := by
  unfold alreadyHasId at hnew
  unfold registerSrc
  cases hp : getId s e with
  | none => simp [hp, hfree]
  | some p =>
    simp [hp, Cfg.fixed] at hnew
    simp [hp, registered_is, hnew, hfree]

theorem registerSrc_dup (s : State) (e : Ent) (j : Id) (weak : Bool) (hj : j ≠ .daemon)
    (hcw : ¬ (isClass e = true ∧ weak = true))
    (hdup : alreadyHasId .fixed s e = true ∨ (lookup j s.objs).isSome = true) :
    registerSrc s (.ent e) (.str j) false weak = (s, .raised .daemonError) := by
  unfold alreadyHasId at hdup
  unfold registerSrc
  rcases hdup with h | h
  · cases hp : getId s e with
    | none => simp [hp] at h
    | some p =>
      simp [hp, Cfg.fixed] at h
      cases hc : isClass e <;> simp [hc] at hcw <;> simp [hj, isClassV_ent, hc, hcw, hp, registered_is, h]
  · cases hp : getId s e <;> cases hc : isClass e <;> simp [hc] at hcw <;>
      simp [hj, isClassV_ent, hc, hcw, hp, registered_is, h]

/-- server.py 669-680.  `hg`: the id counter moves exactly when the id is the one `uuid4` produces next -/
theorem registerSrc_commit (s : State) (e : Ent) (ia : IdArg) (weak : Bool)
    (hj : resolveId s ia ≠ .daemon) (hcw : ¬ (isClass e = true ∧ weak = true))
    (hg : generates ia = decide (resolveId s ia = .gen s.next)) :
    registerSrc s (.ent e) (.str (resolveId s ia)) true weak =
      if canSet e then (regCommit s e ia weak, .ret (.uri (resolveId s ia))) else (s, .raised .attributeError) := by
  unfold registerSrc regCommit
  rw [hg]
  generalize resolveId s ia = j at *
  cases weak <;> cases e
  -- a weak reference is stored for an object only; the finalizer needs the object's number
  case true.cls => simp [isClass] at hcw
  all_goals
    cases hcs : canSet _ <;>
      simp [hj, isClassV, setIdAttr, setDmAttr, installHooks, hcs, getId_mk_upd, tblSet, mkWref, lookup_setEntry, addFin,
        uriForSrc, retUri]

/-- the run of `register` for a string argument, `resolveId s ia` standing for the id it uses -/
theorem registerSrc_resolved (s : State) (e : Ent) (ia : IdArg) (force weak : Bool)
    (hd : isDead s e = false) (hn : ia ≠ .nonStr)
    (hg : generates ia = decide (resolveId s ia = .gen s.next)) :
    registerSrc s (.ent e) (.str (resolveId s ia)) force weak =
      ((register .fixed s e ia force weak).1, resR (register .fixed s e ia force weak).2) := by
  have hC : Cfg.fixed.refuseDaemonName = true := rfl
  by_cases hj : resolveId s ia = .daemon
  · simp [registerSrc, register, regCheck, hd, hn, hj, hC]
  by_cases hcw : isClass e = true ∧ weak = true
  · simp [registerSrc, register, regCheck, hd, hn, hj, hC, isClassV_ent, hcw]
  have hrun : registerSrc s (.ent e) (.str (resolveId s ia)) true weak =
      ((register .fixed s e ia true weak).1, resR (register .fixed s e ia true weak).2) := by
    rw [registerSrc_commit s e ia weak hj hcw hg]
    cases hcs : canSet e <;> simp [register, regCheck, hd, hn, hj, hcw, hcs]
  cases force
  · by_cases hdup : alreadyHasId .fixed s e = true ∨ (lookup (resolveId s ia) s.objs).isSome = true
    · rw [registerSrc_dup s e _ weak hj hcw hdup]
      rcases hdup with h | h <;> simp [register, regCheck, hd, hn, hj, hcw, h]
    · simp only [not_or, Bool.not_eq_true, Option.isSome_eq_false_iff, Option.isNone_iff_eq_none] at hdup
      have : register .fixed s e ia false weak = register .fixed s e ia true weak := by
        simp [register, regCheck, hdup.1, hdup.2]
      rw [registerSrc_unforced s e _ weak hdup.1 hdup.2, hrun, this]
  · exact hrun

/-- **C16_register_translated.** `Daemon.register` as transcribed = the model's `register` of the repaired code:
    the same check fails first with the same exception and nothing changed, or the same attributes, table entry,
    finalizer and URI result — for every object or class, id argument (None, "", non-string, string, the daemon's
    id), `force` and `weak`.  (`hf`: an explicit id is never the id `uuid4` is about to produce.) -/
theorem C16_register_translated (s : State) (e : Ent) (ia : IdArg) (force weak : Bool)
    (hd : isDead s e = false) (hf : ∀ n, ia = .str (.gen n) → n ≠ s.next) :
    registerSrc s (.ent e) (IdArg.val ia) force weak =
      ((register .fixed s e ia force weak).1, resR (register .fixed s e ia force weak).2) := by
  cases ia with
  | nonStr => simp [registerSrc, register, regCheck, hd]
  | none => exact registerSrc_resolved s e .none force weak hd (by simp) (by simp [generates, resolveId])
  | empty => exact registerSrc_resolved s e .empty force weak hd (by simp) (by simp [generates, resolveId])
  | str i =>
    refine registerSrc_resolved s e (.str i) force weak hd (by simp) ?_
    have : i ≠ .gen s.next := fun h => hf s.next (by rw [h]) rfl
    simp [generates, resolveId, this]

end Pyro.C16
