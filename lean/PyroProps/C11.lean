/-
  C11 — A batch behaves like the same calls made one after another.

  Property theorems about `PyroModel.Batch` (model of server.py:452-472, core.py:149-166,
  client.py:437-441 and 571-628).  Quantifiers: EVERY remote object (`o : Obj …` is an arbitrary
  deterministic state machine with an arbitrary, possibly state dependent, exposure gate), every start
  state, every list of calls (no length bound), normal and oneway mode.  The serializer enters through
  `pre` (does `dumpsCall(…, kwargs=None)` succeed on the client); the obligations `C11_gen_…` re-prove,
  from facts extracted from the current source, that it does for all four serializers and that the real code,
  probed on a fixed table of requests and result lists, does what the model says.
-/
import PyroModel.Batch
import PyroModel.Gen.C11
import PyroProofs.Batch

namespace Pyro.C11

open Pyro.Batch

variable {St Name Arg Val Exc : Type}

/-- Both modes at once; the theorems below are its corollaries.  (`loopOf data r`, PyroProofs/Batch.lean: what the server
    loop returns when the sequential outcome is `r`.) -/
theorem clientBatch_sequential (o : Obj St Name Arg Val Exc) (oneway : Bool) (s : St) (cs : List (Name × Arg)) :
    clientBatch none o oneway s cs =
      ((sequential o s cs).1, if oneway then Seen.nothing else expected (sequential o s cs).2) := by
  unfold clientBatch serverBatch
  rw [batchLoop_sequential]
  rcases sequential o s cs with ⟨s', vs, _ | e | e⟩
  -- no failure / gate refused / method raised; the outer two leave `resultsGen` on `vs.map .val`, then nothing or the wrapper
  · have h := resultsGen_vals (Exc := Exc) vs []
    rw [List.append_nil] at h
    cases oneway <;> simp [loopOf, expected, h, resultsGen]
  · cases oneway <;> rfl
  · have h := resultsGen_vals vs [Item.wrapped e]
    cases oneway <;> simp [loopOf, expected, h, resultsGen]

/-- **Refinement.**  For every object, start state and call list: submitting the calls as one batch leaves
    the remote object in exactly the state the one-by-one run leaves it in, and the caller sees exactly what
    the sequential outcome prescribes (`expected`): the same values in the same order; if a method raised,
    that exception right after the values of the calls before it; if the exposure gate refused a name, that
    AttributeError when the batch is submitted. -/
theorem C11_refines (o : Obj St Name Arg Val Exc) (s : St) (cs : List (Name × Arg)) :
    clientBatch none o false s cs = ((sequential o s cs).1, expected (sequential o s cs).2) :=
  clientBatch_sequential o false s cs

/-- **Oneway.**  A oneway batch executes exactly the same prefix of calls (same final state as the
    sequential run, which stops at the first failure) and the caller gets nothing back — no result,
    no exception. -/
theorem C11_oneway (o : Obj St Name Arg Val Exc) (s : St) (cs : List (Name × Arg)) :
    clientBatch none o true s cs = ((sequential o s cs).1, Seen.nothing) :=
  clientBatch_sequential o true s cs

/-- **Results agree position by position.**  Whenever the batch caller gets a result stream, the values
    yielded are exactly the sequential values (so the i-th yielded value is the i-th call's value), and
    the stream ends in an exception iff the sequential run ended in a method's exception — the same one,
    at the same position (after `vs.length` values). -/
theorem C11_positions (o : Obj St Name Arg Val Exc) (s : St) (cs : List (Name × Arg))
    (ys : List Val) (r : Option Exc)
    (h : (clientBatch none o false s cs).2 = Seen.stream ys r) :
    ys = (sequential o s cs).2.1 ∧
    ((r = none ∧ (sequential o s cs).2.2 = none ∧ ys.length = cs.length) ∨
     (∃ e, r = some e ∧ (sequential o s cs).2.2 = some (Fail.raised e) ∧ ys.length < cs.length)) := by
  rw [C11_refines] at h
  have hl := sequential_length o cs s
  generalize sequential o s cs = q at h hl
  rcases q with ⟨s', vs, _ | e | e⟩
  · cases h
    exact ⟨rfl, Or.inl ⟨rfl, rfl, hl⟩⟩
  · cases h
  · cases h
    exact ⟨rfl, Or.inr ⟨e, rfl, rfl, hl⟩⟩

/-- **A submission failure is the gate's exception of the first refused call.**  If `batch()` itself raises,
    the sequential run ended with exactly that exception, raised by the exposure gate for the call at
    position `vs.length` — the calls before it were executed (state as in the sequential run). -/
theorem C11_submit_failure (o : Obj St Name Arg Val Exc) (s : St) (cs : List (Name × Arg)) (e : Exc)
    (h : (clientBatch none o false s cs).2 = Seen.submitRaised e) :
    (sequential o s cs).2.2 = some (Fail.gate e) ∧
    (clientBatch none o false s cs).1 = (sequential o s cs).1 := by
  rw [C11_refines] at h ⊢
  generalize sequential o s cs = q at h
  rcases q with ⟨s', vs, _ | e' | e'⟩
  · cases h
  · cases h
    exact ⟨rfl, rfl⟩
  · cases h

/-- **Nothing after the first failure executes.**  If the calls `pre` all succeed one by one and the next
    call `c` fails (gate or method), then whatever follows `c` in the batch is irrelevant: state of the
    object and everything the caller sees are those of the batch cut off after `c`.  (Holds for every
    object, in particular for one that records every call — see `C11_executed_prefix`.) -/
theorem C11_stops (o : Obj St Name Arg Val Exc) (oneway : Bool) (s s1 : St) (vs : List Val)
    (pre post : List (Name × Arg)) (c : Name × Arg)
    (hpre : sequential o s pre = (s1, vs, none))
    (hc : ∀ v, (serverCall o s1 c).2 ≠ CallOut.ok v) :
    clientBatch none o oneway s (pre ++ c :: post) = clientBatch none o oneway s (pre ++ [c]) := by
  rw [clientBatch_sequential, clientBatch_sequential, sequential_append o pre _ hpre, sequential_append o pre _ hpre,
    sequential, sequential]
  -- both runs from `s1` start with `c`, and only a returning `c` lets the rest matter
  rcases hq : serverCall o s1 c with ⟨s', v | e | e⟩
  · exact absurd (congrArg Prod.snd hq) (hc v)
  · rfl
  · rfl

/-- **Executed calls form the sequential prefix.**  Run the batch against the same object instrumented with
    a log of every call that reached its method.  The log grows by `cs.take k` where `k` is: all calls if
    none failed; the calls before the failing one plus the failing one if its method raised; only the calls
    before it if the gate refused it.  In both modes. -/
theorem C11_executed_prefix (o : Obj St Name Arg Val Exc) (oneway : Bool) (s : St)
    (l cs : List (Name × Arg)) :
    (clientBatch none (withLog o) oneway (s, l) cs).1 =
      ((sequential o s cs).1, l ++ cs.take (ranCount cs.length (sequential o s cs).2)) := by
  rw [clientBatch_sequential, sequential_withLog]

/-- **Programs over several BatchProxy objects (record / copy / submit).**  For every object, start state, initial
    call lists and program: running the program with real batches equals running it with every `submit` replaced
    by the one-by-one run of exactly the calls recorded on that BatchProxy since its creation (by copy: the calls its
    original held at that moment) or its last submit — state of the object and everything seen at every submit.
    In particular a call recorded on a copy never runs when the original is submitted, and nothing runs twice. -/
theorem C11_program (o : Obj St Name Arg Val Exc) :
    ∀ (ops : List (BOp Name Arg)) (s : St) (lists : List (List (Name × Arg))),
      runProg none o s lists ops = specProg o s lists ops := by
  intro ops
  induction ops with
  | nil => intro s lists; rfl
  | cons op ops ih =>
    intro s lists
    cases op with
    | record i c => exact ih _ _
    | copy i => exact ih _ _
    | submit i ow =>
      simp only [runProg, specProg]
      rw [clientBatch_sequential, ih]

/-- **The sequential reference is what it claims to be.**  A failing sequential run splits the call list
    into calls that all returned (`vs` are their values), the call that failed from the state reached, and
    an unexecuted rest.  (Guards against a vacuous reference.) -/
theorem C11_sequential_spec (o : Obj St Name Arg Val Exc) :
    ∀ (cs : List (Name × Arg)) (s s' : St) (vs : List Val) (f : Fail Exc),
      sequential o s cs = (s', vs, some f) →
      ∃ pre c post s1, cs = pre ++ c :: post ∧ pre.length = vs.length ∧
        sequential o s pre = (s1, vs, none) ∧
        serverCall o s1 c = (s', match f with | .gate e => CallOut.gateErr e | .raised e => CallOut.raised e) := by
  intro cs s s' vs f h
  fun_induction sequential o s cs generalizing vs with
  | case1 s => cases h
  | case2 s c rest s1 e hc =>
    cases h
    exact ⟨[], c, rest, s, rfl, rfl, rfl, hc⟩
  | case3 s c rest s1 e hc =>
    cases h
    exact ⟨[], c, rest, s, rfl, rfl, rfl, hc⟩
  | case4 s c rest s1 v hc s2 vs2 f2 hq ih =>
    cases h
    obtain ⟨pre, c', post, s3, rfl, hlen, hp, hcall⟩ := ih vs2 hq
    refine ⟨c :: pre, c', post, s3, rfl, congrArg (· + 1) hlen, ?_, hcall⟩
    simp only [sequential, hc, hp]

/-- **Client-side serialisation failure** (the shape of finding F11, marshal with `kwargs=None`): if
    `dumpsCall` raises, the batch fails at submission with that exception and the remote object is not
    touched — for a call list whose sequential run changes the state or returns values this is NOT what
    C11 demands, which is why `C11_gen_dumpsCall_accepts_no_kwargs` below is an obligation. -/
theorem C11_pre_failure (o : Obj St Name Arg Val Exc) (oneway : Bool) (s : St) (cs : List (Name × Arg)) (e : Exc) :
    clientBatch (some e) o oneway s cs = (s, Seen.submitRaised e) := rfl

/-- The full statement of C11 for a serializer whose client-side step is `pre`. -/
def C11_Statement (pre : Option Exc) : Prop :=
  ∀ (St Name Arg Val : Type) (o : Obj St Name Arg Val Exc) (s : St) (cs : List (Name × Arg)),
    clientBatch pre o false s cs = ((sequential o s cs).1, expected (sequential o s cs).2) ∧
    clientBatch pre o true s cs = ((sequential o s cs).1, Seen.nothing)

/-- C11 holds for every serializer whose `dumpsCall` accepts the batch request. -/
theorem C11_statement_holds : C11_Statement (Exc := Exc) none :=
  fun _ _ _ _ o s cs => ⟨C11_refines o s cs, C11_oneway o s cs⟩

/-- …and fails for a serializer whose `dumpsCall` raises (witness: the empty batch on a one-state object:
    sequentially nothing happens and nothing is raised, the batch raises). -/
theorem C11_statement_fails_when_pre_raises (e : Exc) : ¬ C11_Statement (some e) := by
  intro h
  have := (h Unit Unit Unit Unit ⟨fun _ _ => none, fun _ _ _ => ((), .ok ())⟩ () []).1
  simp [clientBatch, sequential, expected] at this

/-! ### Obligations about facts extracted from the current source (`PyroModel/Gen/C11.lean`) -/

open Pyro.Gen.C11 in
/-- every serializer's `dumpsCall(obj, "<batch>", calls, None)` succeeds (so `pre = none` for all of them;
    on the tree before the F11 fix this fails for marshal) -/
theorem C11_gen_dumpsCall_accepts_no_kwargs :
    dumpsCallNoKwargs.map (·.1) = ["json", "marshal", "msgpack", "serpent"] ∧
    ∀ p ∈ dumpsCallNoKwargs, p.2 = true := ⟨rfl, by decide⟩

open Pyro.Gen.C11 in
/-- every serializer transports the reply list of a batch with the exception wrapper in it (the model's
    `Reply.results items` reaches `resultsGen` unchanged; on the tree before the marshal fix of
    `convert_obj_into_marshallable` this fails for marshal: `ValueError: unmarshallable object`) -/
theorem C11_gen_wrapper_transportable :
    wrapperInReplyList.map (·.1) = ["json", "marshal", "msgpack", "serpent"] ∧
    ∀ p ∈ wrapperInReplyList, p.2 = true := ⟨rfl, by decide⟩

/-! #### Behavioural probes of the real code (taken by the extractor on every run) against the model

`probeObj` is the model of the extractor's probe object (harness/props/c11_extract.py, class Probe): the state is the
number of calls executed; name 0 `ok` returns its argument, 1 `boom` raises exception `a` (ValueError(a)), 2 `unsend`
raises an exception whose instance cannot be serialised (as sent: 900, the describing PyroError); the gate refuses
3 (unexposed, 103), 4 (private, 101) and everything else (missing, 102).  All of them count the execution first. -/

def probeObj : Obj Nat Nat Nat Nat Nat where
  gate := fun _ n => if n ≤ 2 then none else if n = 3 then some 103 else if n = 4 then some 101 else some 102
  apply := fun s n a => if n = 0 then (s + 1, .ok a) else if n = 1 then (s + 1, .exc a) else (s + 1, .exc 900)

def encItem : Item Nat Nat → Nat
  | .val v => 2 * v
  | .wrapped e => 2 * e + 1

def decItem (t : Nat) : Item Nat Nat := if t % 2 = 0 then .val (t / 2) else .wrapped (t / 2)

/-- wire form of a reply as the extractor prints it: nothing | exception response | result list with FLAGS_BATCH -/
def encReply : Option (Reply Nat Nat) → List Nat
  | none => []
  | some (.error e) => [0, e]
  | some (.results items) => 1 :: items.map encItem

def encCallOut : CallOut Nat Nat → List Nat
  | .ok v => [2, v]
  | .gateErr e => [0, e]
  | .raised e => [0, e]

open Pyro.Gen.C11 in
/-- The real `Daemon.handleRequest`, driven with real batch requests (normal and oneway) for the fixed scenario
    table, did exactly what `serverBatch` says for `probeObj`: same number of executed calls at the moment
    handleRequest returned (stop at the first failure; a oneway batch runs in-line), same reply on the wire
    (result list in call order with the wrapper last and FLAGS_BATCH set; the gate's AttributeError as an
    exception response with the collected results dropped; nothing at all for oneway; the describing PyroError
    for an exception instance that cannot be serialised). -/
theorem C11_gen_server_probes :
    serverProbes.map (fun p => (p.1, p.2.1)) =
      [(false, []), (false, [(0, 1), (0, 2), (0, 3)]), (false, [(0, 1), (1, 7), (0, 3)]), (false, [(1, 7), (0, 1)]),
       (false, [(0, 1), (3, 0), (0, 3)]), (false, [(0, 1), (0, 2), (4, 0), (0, 3)]), (false, [(5, 0), (0, 1)]),
       (false, [(0, 1), (2, 0), (0, 2)]),
       (true, []), (true, [(0, 1), (0, 2), (0, 3)]), (true, [(0, 1), (1, 7), (0, 3)]), (true, [(0, 1), (3, 0), (0, 3)])] ∧
    serverProbes.all (fun p =>
      ((serverBatch probeObj p.1 0 p.2.1).1, encReply (serverBatch probeObj p.1 0 p.2.1).2) == (p.2.2.1, p.2.2.2)) = true :=
  ⟨rfl, by decide +kernel⟩

open Pyro.Gen.C11 in
/-- Plain single calls on the real `handleRequest` answer as `serverCall` says: the same gate exceptions as inside a
    batch, a raised exception as an exception response, and the same describing PyroError (900) for the
    unserialisable instance as the batch member got — the "exception as sent" is one function on both paths. -/
theorem C11_gen_single_probes :
    singleProbes.map (·.1) = [(0, 5), (1, 7), (2, 0), (3, 0), (4, 0), (5, 0)] ∧
    singleProbes.all (fun p =>
      ((serverCall probeObj 0 p.1).1, encCallOut (serverCall probeObj 0 p.1).2) == (p.2.1, p.2.2)) = true :=
  ⟨rfl, by decide +kernel⟩

open Pyro.Gen.C11 in
/-- What a caller got out of a real `BatchProxy` (over a scripted proxy) for the fixed table of result lists is what
    `resultsGen` says: values in order up to the first wrapper, then that wrapper's exception; an exception OBJECT
    that is a plain value (ids 50, 51) is yielded like any other value. -/
theorem C11_gen_generator_probes :
    generatorProbes.map (·.1) =
      [[], [2, 4, 6], [2, 15, 6], [15], [2, 4, 19], [2, 100, 4], [102, 15], [104, 106, 2]] ∧
    generatorProbes.all (fun p => resultsGen (p.1.map decItem) == (p.2.1, p.2.2)) = true :=
  ⟨rfl, by decide +kernel⟩

open Pyro.Gen.C11 in
/-- Observed from outside on the real classes: `_BatchedRemoteMethod`/`BatchProxy` forward the collected calls in call
    order with their arguments (a dotted name as one name), submit once per `batch()` and start over with an empty
    list, `oneway=True` is forwarded and returns `None`; `Proxy._pyroInvokeBatch` sends one `<batch>` request with
    the calls and FLAGS_BATCH (| FLAGS_ONEWAY iff oneway); `_ExceptionWrapper.raiseIt` raises the wrapped object. -/
theorem C11_gen_client_facts :
    clientFacts.map (·.1) =
      ["calls-forwarded-in-call-order-with-args-and-kwargs", "dotted-name-forwarded-as-one-name",
       "normal-submit-is-not-oneway-and-returns-the-results", "one-submit-per-call-and-list-cleared-after-submit",
       "oneway-forwarded-and-returns-None",
       "invokeBatch-sends-one-<batch>-request-with-the-calls-and-hands-back-the-reply",
       "invokeBatch-flags-batch-and-oneway-iff-oneway", "raiseIt-raises-the-wrapped-exception-object"] ∧
    ∀ p ∈ clientFacts, p.2 = true := ⟨rfl, by decide⟩

/-! ### Non-vacuity: a concrete stateful object (a counter that refuses to go above 2) -/

/-- names: 0 = `inc` (returns the new count, raises exception 7 at 2 — after nothing changed),
    1 = `boom` (increments and THEN raises exception 8), anything else is refused by the gate (exception 9). -/
def counter : Obj Nat Nat Nat Nat Nat where
  gate := fun _ n => if n ≤ 1 then none else some 9
  apply := fun s n a =>
    if n = 0 then (if s + a ≤ 2 then (s + a, .ok (s + a)) else (s, .exc 7))
    else (s + 1, .exc 8)

example : clientBatch none counter false 0 [(0, 1), (0, 1), (0, 1), (0, 1)] = (2, .stream [1, 2] (some 7)) := by decide +kernel
example : sequential counter 0 [(0, 1), (0, 1), (0, 1), (0, 1)] = (2, [1, 2], some (.raised 7)) := by decide +kernel
example : clientBatch none counter false 0 [(0, 1), (1, 0), (0, 1)] = (2, .stream [1] (some 8)) := by decide +kernel
example : clientBatch none counter false 0 [(0, 1), (5, 0), (0, 1)] = (1, .submitRaised 9) := by decide +kernel
example : clientBatch none counter true 0 [(0, 1), (1, 0), (0, 1)] = (2, .nothing) := by decide +kernel
example : clientBatch none counter false 0 [(0, 1), (0, 1)] = (2, .stream [1, 2] none) := by decide +kernel
example : (clientBatch none (withLog counter) false (0, []) [(0, 1), (1, 0), (0, 1)]).1 = (2, [(0, 1), (1, 0)]) := by decide +kernel
/-- a program: record on 0, copy it, record on the copy, submit the original (runs only its own call), submit the copy -/
example : runProg none counter 0 [[]] [.record 0 (0, 1), .copy 0, .record 1 (0, 1), .submit 0 false, .submit 1 false] =
    (2, [.stream [1] none, .stream [2] (some 7)]) := by decide +kernel
/-- hypotheses of `C11_stops` are satisfiable with a non-empty prefix and a non-empty rest -/
example : sequential counter 0 [(0, 1)] = (1, [1], none) ∧ (∀ v, (serverCall counter 1 (1, 0)).2 ≠ CallOut.ok v) :=
  ⟨by decide +kernel, fun _ h => nomatch h⟩

end Pyro.C11
