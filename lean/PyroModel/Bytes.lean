/-
  Bytes.lean — byte strings and the big-endian fixed-width integer codec used by
  `struct.pack("!H")`, `struct.pack("!I")`, `int.to_bytes(n, "big")`, `int.from_bytes(.., "big")`.

  Core Lean only (no Mathlib): this file is also linked into the driver executables.
-/

namespace Pyro

abbrev Bytes := List UInt8

/-- `toBE w n`: the `w`-byte big-endian representation of `n % 256^w`
    (callers check the range first, as `struct.pack` does). -/
def toBE : Nat → Nat → Bytes
  | 0,     _ => []
  | w + 1, n => UInt8.ofNat (n / 256 ^ w % 256) :: toBE w n

/-- `int.from_bytes(bs, "big")`. -/
def fromBEAux (acc : Nat) : Bytes → Nat
  | []      => acc
  | b :: bs => fromBEAux (acc * 256 + b.toNat) bs

def fromBE (bs : Bytes) : Nat := fromBEAux 0 bs

@[simp] theorem toBE_length (w n : Nat) : (toBE w n).length = w := by
  induction w with
  | zero => rfl
  | succ w ih => simp [toBE, ih]

theorem fromBEAux_append (acc : Nat) (xs ys : Bytes) :
    fromBEAux acc (xs ++ ys) = fromBEAux (fromBEAux acc xs) ys := by
  induction xs generalizing acc with
  | nil => rfl
  | cons x xs ih => simp [fromBEAux, ih]

theorem divhelper (c p r : Nat) (hp : 0 < p) (hr : r < p) : (c * p + r) / p = c := by
  rw [Nat.add_comm, Nat.add_mul_div_right _ _ hp, Nat.div_eq_of_lt hr, Nat.zero_add]

theorem pow256_pos (w : Nat) : 0 < 256 ^ w := Nat.pow_pos (by decide)

/-- `toBE w` only looks at `n % 256^w`. -/
theorem toBE_mod (w n : Nat) : toBE w n = toBE w (n % 256 ^ w) := by
  induction w generalizing n with
  | zero => rfl
  | succ v ihv =>
    simp only [toBE]
    have e1 : n % 256 ^ (v + 1) / 256 ^ v % 256 = n / 256 ^ v % 256 := by
      rw [Nat.pow_succ, Nat.mod_mul_right_div_self]
      exact Nat.mod_mod _ _
    rw [e1]
    congr 1
    rw [ihv n, ihv (n % 256 ^ (v + 1))]
    congr 1
    rw [Nat.pow_succ]
    exact (Nat.mod_mul_right_mod n (256 ^ v) 256).symm

theorem fromBEAux_eq (zs : Bytes) (c : Nat) :
    fromBEAux c zs = c * 256 ^ zs.length + fromBE zs := by
  induction zs generalizing c with
  | nil => simp [fromBEAux, fromBE]
  | cons z zs ihz =>
    simp only [fromBEAux, fromBE, List.length_cons]
    rw [ihz (c * 256 + z.toNat), ihz (0 * 256 + z.toNat)]
    rw [Nat.pow_succ, Nat.add_mul, Nat.add_mul]
    simp only [Nat.zero_mul, Nat.zero_add]
    rw [Nat.mul_assoc, Nat.mul_comm 256 (256 ^ zs.length)]
    omega

theorem fromBE_cons (b : UInt8) (bs : Bytes) :
    fromBE (b :: bs) = b.toNat * 256 ^ bs.length + fromBE bs := by
  simp only [fromBE, fromBEAux]
  rw [fromBEAux_eq]; simp [fromBE]

theorem fromBE_lt (bs : Bytes) : fromBE bs < 256 ^ bs.length := by
  induction bs with
  | nil => simp [fromBE, fromBEAux]
  | cons b bs ih =>
    rw [fromBE_cons, List.length_cons, Nat.pow_succ]
    have hb : b.toNat < 256 := b.toNat_lt
    have : (b.toNat + 1) * 256 ^ bs.length ≤ 256 * 256 ^ bs.length := Nat.mul_le_mul_right _ hb
    rw [Nat.add_mul, Nat.one_mul] at this
    rw [Nat.mul_comm (256 ^ bs.length) 256]
    omega

/-- Round trip of the fixed-width codec: every value that fits is recovered. -/
theorem fromBE_toBE (w n : Nat) (h : n < 256 ^ w) : fromBE (toBE w n) = n := by
  induction w generalizing n with
  | zero => simp [toBE, fromBE, fromBEAux] at *; omega
  | succ w ih =>
    simp only [toBE]
    rw [fromBE_cons, toBE_length]
    have hdiv : n / 256 ^ w < 256 := by
      rw [Nat.div_lt_iff_lt_mul (pow256_pos w)]
      rw [Nat.pow_succ] at h; rw [Nat.mul_comm]; exact h
    have hb : (UInt8.ofNat (n / 256 ^ w % 256)).toNat = n / 256 ^ w := by
      simp [UInt8.toNat_ofNat', Nat.mod_eq_of_lt hdiv]
    rw [hb, toBE_mod, ih _ (Nat.mod_lt _ (pow256_pos w))]
    exact Nat.div_add_mod' n (256 ^ w)

/-- The decoder side: every `w`-byte string is the encoding of the number it decodes to. -/
theorem toBE_fromBE (bs : Bytes) : toBE bs.length (fromBE bs) = bs := by
  induction bs with
  | nil => rfl
  | cons b bs ih =>
    simp only [List.length_cons, toBE]
    rw [fromBE_cons]
    have hlt := fromBE_lt bs
    rw [divhelper _ _ _ (pow256_pos _) hlt]
    have hb : b.toNat < 256 := b.toNat_lt
    rw [toBE_mod, Nat.mul_add_mod_of_lt hlt, ih]
    congr 1
    rw [Nat.mod_eq_of_lt hb]
    exact UInt8.ofNat_toNat

end Pyro
