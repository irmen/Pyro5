/-
  LockRelease.lean — the dual of LockSkeleton.lean: not "every storage access happens while the lock is held" but
  "every acquire of the lock is released again on EVERY path out of the method" (normal end, `return`, exception).

  The *release skeleton* `Rk` of a method is extracted by harness/props/c15_rel.py (`release_skeletons`) from every public
  method of `Pyro5.nameserver.NameServer`: everything except the lock operations and the control flow (sequence, branches,
  loops, try/except/finally, return, raise, "an exception may leave here") is abstracted away.
  `with self.lock: B` is `seq acquire (tryFinally B release)`; `with self.helper(): B` for a `@contextmanager` generator
  `helper` is the generator's body with `B` substituted for its `yield` (an exception of `B` is raised AT the yield, so
  whether the lock is released is decided by the generator's own try/finally — or the lack of one).

  `Exec sk d o d'`: started at lock depth `d` (re-entrant lock: a counter), `sk` can end with outcome `o` at depth `d'`.
  `releasedOnAllPaths sk`: the decidable check.  `released_sound`: the check implies that EVERY execution, whatever its
  outcome, ends at the depth it started at: the method never leaves the lock held (and never releases a lock it does not own).
-/
namespace Pyro.LockRelease

inductive Rk where
  | nop
  | acquire                          -- `self.lock.acquire()` (blocking, re-entrant: depth + 1)
  | release                          -- `self.lock.release()` (depth - 1; RuntimeError when not held)
  | mayRaise                         -- a point where an exception MAY leave (any call, subscript, operator, ...)
  | raise                            -- a `raise` statement: always leaves with an exception
  | ret                              -- a `return` statement: abrupt exit, not caught by `except`, but `finally` still runs
  | seq (a b : Rk)
  | alt (a b : Rk)                   -- if / else
  | star (body : Rk)                 -- for / while: any number of rounds
  | tryFinally (body fin : Rk)       -- `fin` runs after every outcome of `body`; its own abrupt outcome overrides
  | tryExcept (body handler : Rk)    -- the handler MAY catch an exception of `body` (or it propagates)
  | call (body : Rk)                 -- an inlined method of the same class: its `return` does not leave the caller
  deriving Repr, DecidableEq

inductive Outcome where
  | normal | raised | returned
  deriving Repr, DecidableEq

/-- what the caller of an inlined method sees -/
def Outcome.unret : Outcome → Outcome
  | .returned => .normal
  | o => o

inductive Exec : Rk → Nat → Outcome → Nat → Prop where
  | nop (d) : Exec .nop d .normal d
  | acquire (d) : Exec .acquire d .normal (d + 1)
  | releaseOk (d) : Exec .release (d + 1) .normal d
  | releaseErr : Exec .release 0 .raised 0
  | mayRaiseN (d) : Exec .mayRaise d .normal d
  | mayRaiseR (d) : Exec .mayRaise d .raised d
  | raise (d) : Exec .raise d .raised d
  | ret (d) : Exec .ret d .returned d
  | seqN {a b d d1 o d2} : Exec a d .normal d1 → Exec b d1 o d2 → Exec (.seq a b) d o d2
  | seqA {a b d o d1} : Exec a d o d1 → o ≠ .normal → Exec (.seq a b) d o d1
  | altL {a b d o d1} : Exec a d o d1 → Exec (.alt a b) d o d1
  | altR {a b d o d1} : Exec b d o d1 → Exec (.alt a b) d o d1
  | starNil {b} (d) : Exec (.star b) d .normal d
  | starCons {b d d1 o d2} : Exec b d .normal d1 → Exec (.star b) d1 o d2 → Exec (.star b) d o d2
  | starAbort {b d o d1} : Exec b d o d1 → o ≠ .normal → Exec (.star b) d o d1
  | finN {b f d o d1 d2} : Exec b d o d1 → Exec f d1 .normal d2 → Exec (.tryFinally b f) d o d2
  | finA {b f d o d1 o' d2} : Exec b d o d1 → Exec f d1 o' d2 → o' ≠ .normal → Exec (.tryFinally b f) d o' d2
  | exPass {b h d o d1} : Exec b d o d1 → Exec (.tryExcept b h) d o d1            -- nothing raised, or not caught
  | exCatch {b h d d1 o d2} : Exec b d .raised d1 → Exec h d1 o d2 → Exec (.tryExcept b h) d o d2
  | call {b d o d1} : Exec b d o d1 → Exec (.call b) d o.unret d1

/-- a finite set of (outcome, depth relative to the depth at which the method started) -/
abbrev Res := List (Outcome × Nat)

def ins (x : Outcome × Nat) (L : Res) : Res := if x ∈ L then L else x :: L

def union : Res → Res → Res
  | [], B => B
  | x :: A, B => ins x (union A B)

/-- apply `f` to every element, union of the results; `none` (not understood) is contagious -/
def bindO (f : Outcome → Nat → Option Res) : Res → Option Res
  | [] => some []
  | x :: rest =>
    match bindO f rest, f x.1 x.2 with
    | some R, some S => some (union S R)
    | _, _ => none

/-- after a `finally` block ended with `(o', k')` what the whole statement ends with when the body ended with `o` -/
def override (o : Outcome) : Res → Res
  | [] => []
  | x :: rest => ins (if x.1 = .normal then o else x.1, x.2) (override o rest)

def unrets : Res → Res
  | [] => []
  | x :: rest => ins (x.1.unret, x.2) (unrets rest)

/-- the possible (outcome, relative depth) pairs of `sk` started at relative depth `k` (the lock is held at least `k`
    times); `none`: refused (a release that is not known to be matched by an acquire of this method; a loop body whose
    rounds do not end at the depth they started at) -/
def outs : Rk → Nat → Option Res
  | .nop, k => some [(.normal, k)]
  | .acquire, k => some [(.normal, k + 1)]
  | .release, k => match k with
    | 0 => none
    | k + 1 => some [(.normal, k)]
  | .mayRaise, k => some [(.normal, k), (.raised, k)]
  | .raise, k => some [(.raised, k)]
  | .ret, k => some [(.returned, k)]
  | .seq a b, k =>
    match outs a k with
    | some A => bindO (fun o k1 => if o = .normal then outs b k1 else some [(o, k1)]) A
    | none => none
  | .alt a b, k =>
    match outs a k, outs b k with
    | some A, some B => some (union A B)
    | _, _ => none
  | .star b, k =>
    match outs b k with
    | some L => if L.all (fun x => decide (x.1 ≠ .normal) || decide (x.2 = k)) then some (ins (.normal, k) L) else none
    | none => none
  | .tryFinally b f, k =>
    match outs b k with
    | some B => bindO (fun o k1 => match outs f k1 with
                                   | some F => some (override o F)
                                   | none => none) B
    | none => none
  | .tryExcept b h, k =>
    match outs b k with
    | some B =>
      match bindO (fun o k1 => if o = .raised then outs h k1 else some []) B with
      | some H => some (union B H)
      | none => none
    | none => none
  | .call b, k =>
    match outs b k with
    | some B => some (unrets B)
    | none => none

/-- THE CHECK: every path out of the skeleton, whatever its outcome, is back at the depth it started at -/
def releasedOnAllPaths (sk : Rk) : Bool :=
  match outs sk 0 with
  | some L => L.all (fun x => decide (x.2 = 0))
  | none => false

theorem mem_ins {y x : Outcome × Nat} {L : Res} : y ∈ ins x L ↔ y = x ∨ y ∈ L := by
  unfold ins
  split
  · exact ⟨.inr, fun h => h.elim (· ▸ ‹x ∈ L›) id⟩
  · exact List.mem_cons

theorem mem_union {y : Outcome × Nat} {A B : Res} : y ∈ union A B ↔ y ∈ A ∨ y ∈ B := by
  induction A with
  | nil => simp [union]
  | cons x A ih => simp [union, mem_ins, ih, or_assoc]

theorem mem_override {o o' : Outcome} {k : Nat} {F : Res} (h : (o', k) ∈ F) :
    ((if o' = .normal then o else o'), k) ∈ override o F := by
  induction F with
  | nil => cases h
  | cons x F ih =>
    simp only [override, mem_ins]
    rcases List.mem_cons.mp h with h | h
    · subst h; exact Or.inl rfl
    · exact Or.inr (ih h)

theorem mem_unrets {o : Outcome} {k : Nat} {B : Res} (h : (o, k) ∈ B) : (o.unret, k) ∈ unrets B := by
  induction B with
  | nil => cases h
  | cons x B ih =>
    simp only [unrets, mem_ins]
    rcases List.mem_cons.mp h with h | h
    · subst h; exact Or.inl rfl
    · exact Or.inr (ih h)

theorem bindO_mem {f : Outcome → Nat → Option Res} {L R : Res} {o : Outcome} {k : Nat}
    (hb : bindO f L = some R) (hm : (o, k) ∈ L) : ∃ S, f o k = some S ∧ ∀ x ∈ S, x ∈ R := by
  induction L generalizing R with
  | nil => cases hm
  | cons x rest ih =>
    simp only [bindO] at hb
    split at hb
    · rename_i R' S' hR hS
      cases hb
      rcases List.mem_cons.mp hm with h | h
      · subst h
        exact ⟨S', hS, fun x hx => mem_union.mpr (Or.inl hx)⟩
      · obtain ⟨S, hS1, hS2⟩ := ih hR h
        exact ⟨S, hS1, fun x hx => mem_union.mpr (Or.inr (hS2 x hx))⟩
    · cases hb

/-- the computed set covers every execution -/
theorem outs_sound {sk : Rk} {d : Nat} {o : Outcome} {d' : Nat} (h : Exec sk d o d') :
    ∀ (d0 k : Nat) (L : Res), d = d0 + k → outs sk k = some L → ∃ k', (o, k') ∈ L ∧ d' = d0 + k' := by
  induction h with (intro d0 k L hd hc; simp only [outs] at hc)
  | nop d | mayRaiseN d | mayRaiseR d | raise d | ret d =>
    cases hc
    exact ⟨k, by simp, hd⟩
  | acquire d =>
    cases hc
    exact ⟨k + 1, by simp, congrArg (· + 1) hd⟩
  | releaseOk d =>
    split at hc
    · cases hc
    · rename_i k'
      cases hc
      exact ⟨k', by simp, Nat.succ.inj hd⟩
  | releaseErr =>
    split at hc
    · cases hc
    · exact absurd hd.symm (Nat.succ_ne_zero _)
  | seqN _ _ ih1 ih2 =>
    split at hc
    · obtain ⟨k1, hm1, hd1⟩ := ih1 d0 k _ hd ‹_›
      obtain ⟨S, hS, hsub⟩ := bindO_mem hc hm1
      obtain ⟨k2, hm2, hd2⟩ := ih2 d0 k1 S hd1 hS
      exact ⟨k2, hsub _ hm2, hd2⟩
    · cases hc
  | seqA _ hne ih =>
    split at hc
    · obtain ⟨k1, hm1, hd1⟩ := ih d0 k _ hd ‹_›
      obtain ⟨S, hS, hsub⟩ := bindO_mem hc hm1
      rw [if_neg hne] at hS
      cases hS
      exact ⟨k1, hsub _ (by simp), hd1⟩
    · cases hc
  | altL _ ih =>
    split at hc
    · cases hc
      obtain ⟨k1, hm1, hd1⟩ := ih d0 k _ hd ‹_›
      exact ⟨k1, mem_union.mpr (.inl hm1), hd1⟩
    · cases hc
  | altR _ ih =>
    split at hc
    · cases hc
      obtain ⟨k1, hm1, hd1⟩ := ih d0 k _ hd ‹_›
      exact ⟨k1, mem_union.mpr (.inr hm1), hd1⟩
    · cases hc
  | starNil d =>
    split at hc
    · split at hc
      · cases hc; exact ⟨k, mem_ins.mpr (.inl rfl), hd⟩
      · cases hc
    · cases hc
  | @starCons b _ _ _ _ _ _ ih1 ih2 =>
    split at hc
    · rename_i B hB
      split at hc
      · rename_i hall
        -- a round that ends normally ends at the depth it started at, so the next rounds see the same table
        obtain ⟨k1, hm1, hd1⟩ := ih1 d0 k B hd hB
        have := List.all_eq_true.mp hall _ hm1
        simp at this
        subst this
        exact ih2 d0 k1 L hd1 (by simp only [outs, hB, hall, if_true]; exact hc)
      · cases hc
    · cases hc
  | starAbort _ hne ih =>
    split at hc
    · split at hc
      · cases hc
        obtain ⟨k1, hm1, hd1⟩ := ih d0 k _ hd ‹_›
        exact ⟨k1, mem_ins.mpr (.inr hm1), hd1⟩
      · cases hc
    · cases hc
  | @finN _ _ _ ob _ _ _ _ ih1 ih2 =>
    split at hc
    · obtain ⟨k1, hm1, hd1⟩ := ih1 d0 k _ hd ‹_›
      obtain ⟨S, hS, hsub⟩ := bindO_mem hc hm1
      split at hS
      · cases hS
        obtain ⟨k2, hm2, hd2⟩ := ih2 d0 k1 _ hd1 ‹_›
        exact ⟨k2, hsub _ (mem_override (o := ob) hm2), hd2⟩
      · cases hS
    · cases hc
  | @finA _ _ _ ob _ _ _ _ _ hne ih1 ih2 =>
    split at hc
    · obtain ⟨k1, hm1, hd1⟩ := ih1 d0 k _ hd ‹_›
      obtain ⟨S, hS, hsub⟩ := bindO_mem hc hm1
      split at hS
      · cases hS
        obtain ⟨k2, hm2, hd2⟩ := ih2 d0 k1 _ hd1 ‹_›
        have := mem_override (o := ob) hm2
        rw [if_neg hne] at this
        exact ⟨k2, hsub _ this, hd2⟩
      · cases hS
    · cases hc
  | exPass _ ih =>
    split at hc
    · split at hc
      · cases hc
        obtain ⟨k1, hm1, hd1⟩ := ih d0 k _ hd ‹_›
        exact ⟨k1, mem_union.mpr (.inl hm1), hd1⟩
      · cases hc
    · cases hc
  | exCatch _ _ ih1 ih2 =>
    split at hc
    · split at hc
      · rename_i H hH
        cases hc
        obtain ⟨k1, hm1, hd1⟩ := ih1 d0 k _ hd ‹_›
        obtain ⟨S, hS, hsub⟩ := bindO_mem hH hm1
        obtain ⟨k2, hm2, hd2⟩ := ih2 d0 k1 S hd1 hS
        exact ⟨k2, mem_union.mpr (.inr (hsub _ hm2)), hd2⟩
      · cases hc
    · cases hc
  | call _ ih =>
    split at hc
    · cases hc
      obtain ⟨k1, hm1, hd1⟩ := ih d0 k _ hd ‹_›
      exact ⟨k1, mem_unrets hm1, hd1⟩
    · cases hc

/-- SOUNDNESS of the check, for all skeletons and all executions: whatever way the method ends (normally, by `return`,
    by an exception), the lock is exactly as deep as it was at the start: nothing stays held -/
theorem released_sound {sk : Rk} {d : Nat} {o : Outcome} {d' : Nat} (h : Exec sk d o d')
    (hc : releasedOnAllPaths sk = true) : d' = d := by
  unfold releasedOnAllPaths at hc
  split at hc
  · rename_i L hL
    obtain ⟨k', hm, hd⟩ := outs_sound h d 0 L rfl hL
    have := List.all_eq_true.mp hc _ hm
    simp at this
    omega
  · cases hc

/-! non-vacuity -/

/-- `with self.lock:` around a body that may raise, return early, or raise for sure: passes -/
example : releasedOnAllPaths
    (.seq .acquire (.tryFinally (.seq .mayRaise (.alt (.seq .mayRaise .ret) .raise)) .release)) = true := by decide +kernel

/-- acquire / try / finally release, with a loop, a caught exception and an inlined helper that takes the (re-entrant)
    lock itself: passes -/
example : releasedOnAllPaths
    (.seq .acquire (.tryFinally
      (.seq (.star (.seq .mayRaise (.tryExcept .mayRaise .raise)))
            (.call (.seq .acquire (.tryFinally (.seq .mayRaise .ret) .release))))
      .release)) = true := by decide +kernel

/-- the leaky shape (a `@contextmanager` generator without try/finally around its `yield`): refused -/
example : releasedOnAllPaths (.seq .acquire (.seq (.seq .mayRaise (.alt .nop .raise)) .release)) = false := by decide +kernel

/-- ... and the leak is real: an execution that ends with an exception and the lock one deeper than at the start -/
example (d : Nat) : Exec (.seq .acquire (.seq (.seq .mayRaise (.alt .nop .raise)) .release)) d .raised (d + 1) :=
  .seqN (.acquire d) (.seqA (.seqN (.mayRaiseN _) (.altR (.raise _))) (by decide))

/-- an early `return` between acquire and release leaks as well -/
example : releasedOnAllPaths (.seq .acquire (.seq (.alt .nop .ret) .release)) = false := by decide +kernel
example (d : Nat) : Exec (.seq .acquire (.seq (.alt .nop .ret) .release)) d .returned (d + 1) :=
  .seqN (.acquire d) (.seqA (.altR (.ret _)) (by decide))

/-- a release that is not matched by an acquire of the method itself, and a loop that acquires once per round: refused -/
example : releasedOnAllPaths (.seq .release .acquire) = false := by decide +kernel
example : releasedOnAllPaths (.seq (.star .acquire) (.star .release)) = false := by decide +kernel

end Pyro.LockRelease
