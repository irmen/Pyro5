/-
  Helper lemmas for C16: the dict operations, what the checks of `register` mean, the weak-reference invariants
  (hold for every history of every variant of the code that refuses the daemon's id), the back-pointer invariant (holds as long as no object is given a
  second id by force) and the abstract registry `Spec` with its refinement.
-/
import PyroModel.Registry

namespace Pyro.Registry

/-! ### the dict -/

theorem lookup_cons (j k : Id) (e : Entry) (r : Objs) :
    lookup j ((k, e) :: r) = if j = k then some e else lookup j r := by
  simp only [lookup, eq_comm]

theorem erase_cons (i k : Id) (e : Entry) (r : Objs) :
    erase i ((k, e) :: r) = if k = i then erase i r else (k, e) :: erase i r := by
  by_cases h : k = i <;> simp [erase, h]

theorem lookup_setEntry (i j : Id) (en : Entry) (l : Objs) :
    lookup j (setEntry i en l) = if j = i then some en else lookup j l := by
  induction l with
  | nil => simp [setEntry, lookup_cons, lookup]
  | cons p r ih =>
    obtain ⟨k, e⟩ := p
    by_cases hk : k = i
    · subst hk; by_cases hj : j = k <;> simp [setEntry, lookup_cons, hj]
    · by_cases hj : j = k
      · subst hj; simp [setEntry, lookup_cons, hk]
      · simp [setEntry, lookup_cons, hk, hj, ih]

theorem lookup_erase (i j : Id) (l : Objs) :
    lookup j (erase i l) = if j = i then none else lookup j l := by
  induction l with
  | nil => simp [erase, lookup]
  | cons p r ih =>
    obtain ⟨k, e⟩ := p
    by_cases hk : k = i
    · subst hk
      by_cases hj : j = k
      · subst hj; simp [erase_cons, ih]
      · simp [erase_cons, lookup_cons, hj, ih]
    · by_cases hj : j = k
      · subst hj; simp [erase_cons, lookup_cons, hk]
      · simp [erase_cons, lookup_cons, hk, hj, ih]

theorem lookup_of_erase {i j : Id} {en : Entry} {l : Objs} (h : lookup j (erase i l) = some en) :
    j ≠ i ∧ lookup j l = some en := by
  rw [lookup_erase] at h
  split at h
  · cases h
  · exact ⟨‹_›, h⟩

theorem erase_of_lookup_none {i : Id} {l : Objs} (h : lookup i l = none) : erase i l = l := by
  induction l with
  | nil => rfl
  | cons p r ih =>
    obtain ⟨k, e⟩ := p
    by_cases hk : i = k <;> simp [lookup_cons, hk] at h
    simp [erase_cons, Ne.symm hk, ih h]

theorem lookup_mem {i : Id} {en : Entry} {l : Objs} (h : lookup i l = some en) : (i, en) ∈ l := by
  induction l with
  | nil => simp [lookup] at h
  | cons p r ih =>
    by_cases hk : p.1 = i <;> simp [lookup, hk] at h
    · simp [← hk, ← h]
    · exact List.mem_cons_of_mem _ (ih h)

theorem lookup_of_mem_nodup {l : Objs} (hn : (keys l).Nodup) {i : Id} {en : Entry} (h : (i, en) ∈ l) :
    lookup i l = some en := by
  induction l with
  | nil => simp at h
  | cons p r ih =>
    simp only [keys, List.map_cons, List.nodup_cons, List.mem_map, not_exists, not_and] at hn
    rcases List.mem_cons.1 h with rfl | h
    · simp [lookup]
    · have : ¬ p.1 = i := fun hk => hn.1 _ h hk.symm
      simp [lookup, this, ih hn.2 h]

theorem mem_keys_iff (i : Id) (l : Objs) : i ∈ keys l ↔ (lookup i l).isSome = true := by
  induction l with
  | nil => simp [keys, lookup]
  | cons p r ih =>
    obtain ⟨k, e⟩ := p
    unfold keys at ih
    by_cases hk : i = k <;> simp [keys, lookup_cons, hk, ih]

theorem keys_setEntry (i : Id) (en : Entry) (l : Objs) :
    keys (setEntry i en l) = if i ∈ keys l then keys l else keys l ++ [i] := by
  induction l with
  | nil => simp [setEntry, keys]
  | cons p r ih =>
    obtain ⟨k, e⟩ := p
    unfold keys at ih
    by_cases hk : i = k
    · simp [setEntry, hk, keys]
    · by_cases hm : i ∈ r.map (·.1) <;> simp [setEntry, keys, hk, Ne.symm hk, ih, hm]

theorem nodup_setEntry (i : Id) (en : Entry) (l : Objs) (h : (keys l).Nodup) : (keys (setEntry i en l)).Nodup := by
  rw [keys_setEntry]
  split
  · exact h
  · rename_i hn
    rw [List.nodup_append]
    refine ⟨h, by simp, ?_⟩
    intro a ha b hb
    simp only [List.mem_singleton] at hb
    subst hb
    intro hab
    exact hn (hab ▸ ha)

theorem nodup_erase (i : Id) (l : Objs) (h : (keys l).Nodup) : (keys (erase i l)).Nodup := by
  unfold keys erase
  exact (List.Nodup.sublist (List.Sublist.map _ List.filter_sublist) h)

/-! ### register: what the checks mean -/

theorem ite_some_eq_none {α : Type} {c : Prop} [Decidable c] {a : α} {b : Option α} :
    (if c then some a else b) = none ↔ ¬ c ∧ b = none := by
  by_cases hc : c <;> simp [hc]

theorem of_ite_some_eq_some {α : Type} {c : Prop} [Decidable c] {a r : α} {b : Option α}
    (h : (if c then some a else b) = some r) : (c ∧ r = a) ∨ b = some r := by
  by_cases hc : c
  · rw [if_pos hc] at h; exact .inl ⟨hc, (Option.some.inj h).symm⟩
  · rw [if_neg hc] at h; exact .inr h

theorem register_cases (cfg : Cfg) (s : State) (e : Ent) (ia : IdArg) (force weak : Bool) :
    (∃ r, regCheck cfg s e ia force weak = some r ∧ register cfg s e ia force weak = (s, r)) ∨
    (regCheck cfg s e ia force weak = none ∧
      register cfg s e ia force weak = (regCommit s e ia weak, .uri (resolveId s ia))) := by
  unfold register
  cases h : regCheck cfg s e ia force weak with
  | some r => left; exact ⟨r, rfl, rfl⟩
  | none => right; exact ⟨rfl, rfl⟩

theorem regCheck_none {cfg : Cfg} {s : State} {e : Ent} {ia : IdArg} {force weak : Bool}
    (h : regCheck cfg s e ia force weak = none) :
    isDead s e = false ∧ ia ≠ .nonStr ∧ (cfg.refuseDaemonName = true → resolveId s ia ≠ .daemon) ∧
    ¬(isClass e = true ∧ weak = true) ∧
    (force = false → alreadyHasId cfg s e = false) ∧
    (force = false → lookup (resolveId s ia) s.objs = none) ∧ canSet e = true := by
  simpa [regCheck, ite_some_eq_none] using h

theorem regCheck_some {cfg : Cfg} {s : State} {e : Ent} {ia : IdArg} {force weak : Bool} {r : Res}
    (h : regCheck cfg s e ia force weak = some r) :
    (isDead s e = true ∧ r = .dead) ∨ (ia = .nonStr ∧ r = .err .typeError) ∨
    ((cfg.refuseDaemonName = true ∧ resolveId s ia = .daemon) ∧ r = .err .daemonError) ∨
    ((isClass e = true ∧ weak = true) ∧ r = .err .typeError) ∨
    ((force = false ∧ alreadyHasId cfg s e = true) ∧ r = .err .daemonError) ∨
    ((force = false ∧ (lookup (resolveId s ia) s.objs).isSome = true) ∧ r = .err .daemonError) ∨
    (canSet e = false ∧ r = .err .attributeError) := by
  unfold regCheck at h
  simp only [Bool.and_eq_true, Bool.not_eq_true', decide_eq_true_eq] at h
  -- one step per test; the disjuncts stand in the order of the tests
  exact (of_ite_some_eq_some h).imp_right fun h => (of_ite_some_eq_some h).imp_right fun h =>
    (of_ite_some_eq_some h).imp_right fun h => (of_ite_some_eq_some h).imp_right fun h =>
    (of_ite_some_eq_some h).imp_right fun h => (of_ite_some_eq_some h).imp_right fun h =>
    (of_ite_some_eq_some h).resolve_right (by simp)

theorem regCheck_some_not_uri {cfg : Cfg} {s : State} {e : Ent} {ia : IdArg} {f w : Bool} {r : Res}
    (h : regCheck cfg s e ia f w = some r) (i : Id) : r ≠ .uri i := by
  rcases regCheck_some h with ⟨_, rfl⟩ | ⟨_, rfl⟩ | ⟨_, rfl⟩ | ⟨_, rfl⟩ | ⟨_, rfl⟩ | ⟨_, rfl⟩ | ⟨_, rfl⟩ <;> nofun

theorem deref_ref {s : State} {en : Entry} {r : Ref} (h : deref s en = some r) : en.ref = r := by
  unfold deref at h
  split at h
  · split at h
    · simp at h
    · simpa using h
  · simpa using h

theorem deref_of_alive (s : State) (en : Entry) (h : ∀ k, en.ref = .ent (.obj k) → s.dead k = false) :
    deref s en = some en.ref := by
  unfold deref
  split
  · rename_i k hw hr
    simp [h k hr, hr]
  · rfl

theorem entryIs_unpack (s : State) (i : Id) (e : Ent) :
    entryIs s true i e = ((lookup i s.objs).bind (deref s) == some (.ent e)) := by
  unfold entryIs
  cases lookup i s.objs with
  | none => rfl
  | some en =>
    obtain ⟨r, w⟩ := en
    cases w
    · simp [deref]
    · simp

theorem entryIs_has {s : State} {u : Bool} {p : Id} {e : Ent} (h : entryIs s u p e = true) :
    ∃ w, lookup p s.objs = some ⟨.ent e, w⟩ := by
  unfold entryIs at h
  split at h
  · simp at h
  · rename_i en hl
    obtain ⟨r, w⟩ := en
    split at h
    · simp only [Bool.and_eq_true, beq_iff_eq] at h
      have := deref_ref h.2
      simp only at this; subst this
      exact ⟨w, hl⟩
    · simp only [beq_iff_eq] at h
      subst h
      exact ⟨w, hl⟩

/-! ### the weak-reference invariant -/

/-- invariants about weak references, the daemon's own entry and the dict: hold in every reachable state of every
    variant of the code that refuses the daemon's id (`invW_run`) -/
structure InvW (s : State) : Prop where
  alive : ∀ i k w, lookup i s.objs = some ⟨.ent (.obj k), w⟩ → s.dead k = false
  fin : ∀ i k, lookup i s.objs = some ⟨.ent (.obj k), true⟩ → (k, i) ∈ s.fins
  weakObj : ∀ i en, lookup i s.objs = some en → en.weak = true → ∃ k, en.ref = .ent (.obj k)
  daemon : lookup .daemon s.objs = some ⟨.daemonObj, false⟩
  nodup : (keys s.objs).Nodup

theorem lookup_init (i : Id) : lookup i init.objs = if i = .daemon then some ⟨.daemonObj, false⟩ else none := by
  simp only [init, lookup_cons, lookup]

theorem entry_of_lookup_init {i : Id} {en : Entry} (h : lookup i init.objs = some en) : en = ⟨.daemonObj, false⟩ := by
  rw [lookup_init] at h
  split at h
  · exact (Option.some.inj h).symm
  · cases h

theorem invW_init : InvW init := by
  constructor
  case alive =>
    intro i k w h; cases entry_of_lookup_init h
  case fin =>
    intro i k h; cases entry_of_lookup_init h
  case weakObj =>
    intro i en h hw; cases entry_of_lookup_init h; cases hw
  case daemon =>
    rw [lookup_init]; simp
  case nodup =>
    simp [init, keys]

theorem lookup_regCommit {s : State} {e : Ent} {ia : IdArg} {weak : Bool} {i : Id} {en : Entry}
    (h : lookup i (regCommit s e ia weak).objs = some en) :
    (i = resolveId s ia ∧ en = ⟨.ent e, weak⟩) ∨ (i ≠ resolveId s ia ∧ lookup i s.objs = some en) := by
  simp only [regCommit, lookup_setEntry] at h
  split at h
  · exact .inl ⟨‹_›, (Option.some.inj h).symm⟩
  · exact .inr ⟨‹_›, h⟩

theorem invW_regCommit {cfg : Cfg} {s : State} {e : Ent} {ia : IdArg} {force weak : Bool}
    (hI : InvW s) (hRefuse : cfg.refuseDaemonName = true) (hc : regCheck cfg s e ia force weak = none) :
    InvW (regCommit s e ia weak) := by
  obtain ⟨hdead, _, hnd, hcw, _, _, _⟩ := regCheck_none hc
  have hnd := hnd hRefuse
  constructor
  case alive =>
    intro i k w h
    rcases lookup_regCommit h with ⟨_, hen⟩ | ⟨_, h⟩
    · cases hen
      exact hdead
    · exact hI.alive i k w h
  case fin =>
    intro i k h
    rcases lookup_regCommit h with ⟨hi, hen⟩ | ⟨_, h⟩
    · cases hen
      rw [hi]
      exact List.mem_cons_self
    · have := hI.fin i k h
      simp only [regCommit]
      split
      · exact List.mem_cons_of_mem _ this
      · exact this
  case weakObj =>
    intro i en h hw
    rcases lookup_regCommit h with ⟨_, hen⟩ | ⟨_, h⟩
    · subst hen
      cases e with
      | obj k => exact ⟨k, rfl⟩
      | cls c => exact absurd ⟨rfl, hw⟩ hcw
    · exact hI.weakObj i en h hw
  case daemon =>
    simp [regCommit, lookup_setEntry, Ne.symm hnd, hI.daemon]
  case nodup =>
    exact nodup_setEntry _ _ _ hI.nodup

theorem invW_congr {s s' : State} (ho : s'.objs = s.objs) (hd : s'.dead = s.dead) (hf : s'.fins = s.fins)
    (h : InvW s) : InvW s' := by
  constructor
  case alive =>
    intro i k w; rw [ho, hd]; exact h.alive i k w
  case fin =>
    intro i k; rw [ho, hf]; exact h.fin i k
  case weakObj =>
    intro i en; rw [ho]; exact h.weakObj i en
  case daemon =>
    rw [ho]; exact h.daemon
  case nodup =>
    rw [ho]; exact h.nodup

theorem invW_erase {s : State} (i : Id) (hi : i ≠ .daemon) (h : InvW s) :
    InvW { s with objs := erase i s.objs } := by
  constructor
  case alive =>
    exact fun j k w hj => h.alive j k w (lookup_of_erase hj).2
  case fin =>
    exact fun j k hj => h.fin j k (lookup_of_erase hj).2
  case weakObj =>
    exact fun j en hj => h.weakObj j en (lookup_of_erase hj).2
  case daemon =>
    simp [lookup_erase, Ne.symm hi, h.daemon]
  case nodup =>
    exact nodup_erase _ _ h.nodup

theorem delAttrs_frame (s : State) (e : Ent) :
    (delAttrs s e).1.objs = s.objs ∧ (delAttrs s e).1.dead = s.dead ∧ (delAttrs s e).1.fins = s.fins ∧
    (delAttrs s e).1.next = s.next := by
  unfold delAttrs
  split
  · simp
  · split <;> simp

theorem invW_unregister {cfg : Cfg} {s : State} (t : Target) (h : InvW s) : InvW (unregister cfg s t).1 := by
  -- the table changes in two branches only: `byId` of another id than the daemon's, and the last one of `byObj`
  unfold unregister
  split
  · exact h
  · exact h
  · exact h
  · split
    · exact h
    · rename_i hi; exact invW_erase _ hi h
  · split
    · exact h
    · split
      · exact h
      · split
        · exact h
        · split
          · exact h
          · split
            · exact h
            · rename_i i _ hi _ _ _ _
              obtain ⟨ho, hd, hf, _⟩ := delAttrs_frame { s with objs := erase i s.objs } ‹Ent›
              exact invW_congr ho hd hf (invW_erase _ hi h)


/-! ### finalizers -/

theorem runFin_cases (cfg : Cfg) (k : Nat) (objs : Objs) (i : Id) :
    runFin cfg k objs i = objs ∨ runFin cfg k objs i = erase i objs := by
  unfold runFin
  split
  · split
    · split
      · exact .inr rfl
      · exact .inl rfl
    · exact .inl rfl
  · split
    · exact .inl rfl
    · exact .inr rfl

theorem lookup_runFin_ne (cfg : Cfg) (k : Nat) (objs : Objs) {i j : Id} (h : j ≠ i) :
    lookup j (runFin cfg k objs i) = lookup j objs := by
  rcases runFin_cases cfg k objs i with hr | hr <;> rw [hr]
  simp [lookup_erase, h]

theorem lookup_runFin_sub (cfg : Cfg) (k : Nat) (objs : Objs) (i j : Id) (en : Entry)
    (h : lookup j (runFin cfg k objs i) = some en) : lookup j objs = some en := by
  rcases runFin_cases cfg k objs i with hr | hr <;> rw [hr] at h
  · exact h
  · exact (lookup_of_erase h).2

theorem lookup_runFin_weak (cfg : Cfg) (k : Nat) (objs : Objs) (i : Id) (en : Entry)
    (h : lookup i objs = some en) (hw : weakOf k en = true) (hi : i ≠ .daemon) :
    lookup i (runFin cfg k objs i) = none := by
  unfold runFin
  split
  · simp [h, hw, lookup_erase]
  · simp [lookup_erase]

theorem lookup_runFin_keep {cfg : Cfg} (hFin : cfg.finalizerChecksOwner = true) (k : Nat) (objs : Objs) (i j : Id)
    (en : Entry) (h : lookup j objs = some en) (hw : weakOf k en = false) :
    lookup j (runFin cfg k objs i) = some en := by
  by_cases hj : j = i
  · subst hj
    simp [runFin, hFin, h, hw]
  · rwa [lookup_runFin_ne _ k objs hj]

theorem lookup_runFin_daemon (cfg : Cfg) (k : Nat) (objs : Objs) (i : Id)
    (h : lookup .daemon objs = some ⟨.daemonObj, false⟩) :
    lookup .daemon (runFin cfg k objs i) = some ⟨.daemonObj, false⟩ := by
  by_cases hj : Id.daemon = i
  · subst hj
    simp [runFin, h, weakOf]
  · rwa [lookup_runFin_ne _ k objs hj]

theorem nodup_runFin (cfg : Cfg) (k : Nat) (objs : Objs) (i : Id) (h : (keys objs).Nodup) :
    (keys (runFin cfg k objs i)).Nodup := by
  rcases runFin_cases cfg k objs i with hr | hr <;> rw [hr]
  · exact h
  · exact nodup_erase _ _ h

theorem foldl_runFin {cfg : Cfg} {k : Nat} {P : Objs → Prop} (hP : ∀ objs i, P objs → P (runFin cfg k objs i))
    (ids : List Id) {objs : Objs} (h : P objs) : P (ids.foldl (runFin cfg k) objs) := by
  induction ids generalizing objs with
  | nil => exact h
  | cons a r ih => exact ih (hP _ a h)

theorem foldl_runFin_sub (cfg : Cfg) (k : Nat) (ids : List Id) (objs : Objs) (j : Id) (en : Entry)
    (h : lookup j (ids.foldl (runFin cfg k) objs) = some en) : lookup j objs = some en := by
  induction ids generalizing objs with
  | nil => exact h
  | cons a r ih => exact lookup_runFin_sub cfg k objs a j en (ih _ h)

theorem foldl_runFin_weak (cfg : Cfg) (k : Nat) (ids : List Id) (objs : Objs) (i : Id) (en : Entry)
    (hm : i ∈ ids) (h : lookup i objs = some en) (hw : weakOf k en = true) (hi : i ≠ .daemon) :
    lookup i (ids.foldl (runFin cfg k) objs) = none := by
  induction ids generalizing objs with
  | nil => simp at hm
  | cons a r ih =>
    simp only [List.foldl]
    by_cases ha : i = a
    · subst ha
      have h0 := lookup_runFin_weak cfg k objs i en h hw hi
      cases hx : lookup i (List.foldl (runFin cfg k) (runFin cfg k objs i) r) with
      | none => rfl
      | some en' => rw [foldl_runFin_sub cfg k r _ i en' hx] at h0; simp at h0
    · have hm' : i ∈ r := by simpa [ha] using hm
      exact ih _ hm' (by rwa [lookup_runFin_ne cfg k objs ha])

theorem stronglyHeld_of_lookup {k : Nat} {objs : Objs} {i : Id}
    (h : lookup i objs = some ⟨.ent (.obj k), false⟩) : stronglyHeld k objs = true := by
  unfold stronglyHeld
  rw [List.any_eq_true]
  exact ⟨_, lookup_mem h, by simp⟩

theorem stronglyHeld_iff {s : State} (hI : InvW s) (k : Nat) :
    stronglyHeld k s.objs = true ↔ ∃ i, lookup i s.objs = some ⟨.ent (.obj k), false⟩ := by
  constructor
  · intro h
    unfold stronglyHeld at h
    rw [List.any_eq_true] at h
    obtain ⟨⟨i, en⟩, hm, hp⟩ := h
    obtain ⟨r, w⟩ := en
    simp only [Bool.and_eq_true, Bool.not_eq_true', decide_eq_true_eq] at hp
    obtain ⟨hw, hr⟩ := hp
    subst hw; subst hr
    exact ⟨i, lookup_of_mem_nodup hI.nodup hm⟩
  · rintro ⟨i, h⟩
    exact stronglyHeld_of_lookup h

/-- the table `gc` leaves when it collects `k` (the `objs` of its last branch) has no entry that refers to `k` -/
theorem gc_no_entry {cfg : Cfg} {s : State} {k : Nat} (hI : InvW s) (hs : stronglyHeld k s.objs = false)
    (i : Id) (w : Bool) :
    lookup i (((s.fins.filter (fun p => p.1 = k)).map (·.2)).foldl (runFin cfg k) s.objs) ≠ some ⟨.ent (.obj k), w⟩ := by
  intro h
  have h0 := foldl_runFin_sub cfg k _ _ i _ h
  cases w with
  | false => rw [stronglyHeld_of_lookup h0] at hs; simp at hs
  | true =>
    have hf := hI.fin i k h0
    have hm : i ∈ (s.fins.filter (fun p => p.1 = k)).map (·.2) := by
      simp only [List.mem_map, List.mem_filter]
      exact ⟨(k, i), ⟨hf, by simp⟩, rfl⟩
    have hi : i ≠ .daemon := by
      intro hd; subst hd; rw [hI.daemon] at h0; simp at h0
    rw [foldl_runFin_weak cfg k _ _ i _ hm h0 (by simp [weakOf]) hi] at h
    simp at h

theorem invW_gc {cfg : Cfg} {s : State} (k : Nat) (hI : InvW s) : InvW (gc cfg s k).1 := by
  unfold gc
  split
  · exact hI
  · split
    · exact hI
    · rename_i hdead hs
      have hs : stronglyHeld k s.objs = false := by simpa using hs
      constructor
      case alive =>
        intro i k' w h
        simp only at h ⊢
        by_cases hk : k' = k
        · subst hk; exact absurd h (gc_no_entry hI hs i w)
        · simp only [upd, hk, if_false]
          exact hI.alive i k' w (foldl_runFin_sub cfg k _ _ i _ h)
      case fin =>
        intro i k' h
        simp only at h ⊢
        by_cases hk : k' = k
        · subst hk; exact absurd h (gc_no_entry hI hs i true)
        · have := hI.fin i k' (foldl_runFin_sub cfg k _ _ i _ h)
          simp only [List.mem_filter]
          exact ⟨this, by simp [hk]⟩
      case weakObj =>
        intro i en h hw
        exact hI.weakObj i en (foldl_runFin_sub cfg k _ _ i _ h) hw
      case daemon =>
        exact foldl_runFin (fun o a => lookup_runFin_daemon cfg k o a) _ hI.daemon
      case nodup =>
        exact foldl_runFin (fun o a => nodup_runFin cfg k o a) _ hI.nodup


/-! ### steps that leave the table alone; the invariant along histories -/

theorem byValue_res (s : State) (k : Nat) (ser : Ser) : (byValue s k ser).2 = .byValue := by
  unfold byValue
  split <;> rfl

theorem byValue_frame (s : State) (k : Nat) (ser : Ser) :
    (byValue s k ser).1.objs = s.objs ∧ (byValue s k ser).1.dead = s.dead ∧ (byValue s k ser).1.fins = s.fins ∧
    (byValue s k ser).1.next = s.next ∧ (byValue s k ser).1.pid = s.pid ∧
    (∀ e, e ≠ .obj k → (byValue s k ser).1.pdm e = s.pdm e) := by
  unfold byValue
  split
  · refine ⟨rfl, rfl, rfl, rfl, rfl, ?_⟩
    intro e he; simp [upd, he]
  · simp

/-- returning an object changes at most that object's own `_pyroDaemon`, and only on the by-value path -/
theorem returnObj_frame (cfg : Cfg) (s : State) (k : Nat) (ser : Ser) :
    (returnObj cfg s k ser).1.objs = s.objs ∧ (returnObj cfg s k ser).1.dead = s.dead ∧
    (returnObj cfg s k ser).1.fins = s.fins ∧ (returnObj cfg s k ser).1.next = s.next ∧
    (returnObj cfg s k ser).1.pid = s.pid ∧ (∀ e, e ≠ .obj k → (returnObj cfg s k ser).1.pdm e = s.pdm e) := by
  unfold returnObj
  split
  · simp
  split
  · simp
  · exact byValue_frame s k ser

theorem ownsEntry_unregistered {s : State} {k : Nat}
    (hk : ∀ i w, lookup i s.objs ≠ some ⟨.ent (.obj k), w⟩)
    (hc : ∀ i w, lookup i s.objs ≠ some ⟨.ent (.cls (classOf k)), w⟩) : ownsEntry s k = false := by
  have : ∀ e, (∀ i w, lookup i s.objs ≠ some ⟨.ent e, w⟩) → registeredRef s (.obj k) ≠ some (.ent e) := by
    intro e he hreg
    obtain ⟨i, _, hreg⟩ := Option.bind_eq_some_iff.1 hreg
    obtain ⟨en, hl, hde⟩ := Option.bind_eq_some_iff.1 hreg
    exact he i en.weak (by rw [hl, ← deref_ref hde])
  simp [ownsEntry, this _ hk, this _ hc]

/-- **the weak-reference invariants hold after every step**, for every variant of the code that
    refuses the daemon's own id -/
theorem invW_step {cfg : Cfg} (hRefuse : cfg.refuseDaemonName = true) {s : State} (op : Op) (hI : InvW s) :
    InvW (step cfg s op).1 := by
  cases op with
  | register e ia f w =>
    simp only [step]
    rcases register_cases cfg s e ia f w with ⟨r, _, h⟩ | ⟨hc, h⟩
    · rw [h]; exact hI
    · rw [h]; exact invW_regCommit hI hRefuse hc
  | unregister t => exact invW_unregister t hI
  | gc k => exact invW_gc k hI
  | returnObj k ser =>
    obtain ⟨ho, hd, hf, _⟩ := returnObj_frame cfg s k ser
    exact invW_congr ho hd hf hI
  | _ => exact hI

theorem invW_run {cfg : Cfg} (hRefuse : cfg.refuseDaemonName = true) (h : List Op) {s : State} (hI : InvW s) :
    InvW (run cfg s h) := by
  induction h generalizing s with
  | nil => exact hI
  | cons op r ih => exact ih (invW_step hRefuse op hI)


/-! ### the back-pointer invariant -/

/-- every registered pool entity carries the id it is registered under, and this daemon -/
def Back (s : State) : Prop :=
  ∀ i e w, lookup i s.objs = some ⟨.ent e, w⟩ → s.pid e = some i ∧ s.pdm e = .this

/-- the step does not give an already registered object a second id by force -/
def NoAliasOp (s : State) : Op → Prop
  | .register e ia true _ => ∀ j w, lookup j s.objs = some ⟨.ent e, w⟩ → j = resolveId s ia
  | _ => True

theorem back_init : Back init := by
  intro i e w h; cases entry_of_lookup_init h

theorem getId_of_back {s : State} (hB : Back s) {i : Id} {e : Ent} {w : Bool}
    (h : lookup i s.objs = some ⟨.ent e, w⟩) : getId s e = some i := by
  have := (hB i e w h).1
  cases e with
  | obj k => simp [getId, this]
  | cls c => simp [getId, this]

theorem getDm_of_back {s : State} (hB : Back s) {i : Id} {e : Ent} {w : Bool}
    (h : lookup i s.objs = some ⟨.ent e, w⟩) : getDm s e = .this := by
  have := (hB i e w h).2
  cases e with
  | obj k => simp [getDm, this]
  | cls c => simp [getDm, this]

theorem deref_entry {s : State} (hI : InvW s) {i : Id} {en : Entry} (h : lookup i s.objs = some en) :
    deref s en = some en.ref := by
  apply deref_of_alive
  intro k hk
  obtain ⟨r, w⟩ := en
  simp only at hk; subst hk
  exact hI.alive i k w h

theorem alreadyHasId_of_entry {cfg : Cfg} (hUnpack : cfg.identityUnpacksWeak = true) {s : State} (hI : InvW s) (hB : Back s)
    {i : Id} {e : Ent} {w : Bool} (h : lookup i s.objs = some ⟨.ent e, w⟩) : alreadyHasId cfg s e = true := by
  unfold alreadyHasId
  rw [getId_of_back hB h]
  simp only [entryIs, h, hUnpack]
  have := deref_entry hI h
  cases w <;> simp [this]

theorem back_regCommit {cfg : Cfg} (hUnpack : cfg.identityUnpacksWeak = true) {s : State} {e : Ent} {ia : IdArg} {force weak : Bool}
    (hI : InvW s) (hB : Back s) (hc : regCheck cfg s e ia force weak = none)
    (hA : NoAliasOp s (.register e ia force weak)) : Back (regCommit s e ia weak) := by
  have hne : ∀ j w, lookup j s.objs = some ⟨.ent e, w⟩ → j = resolveId s ia := by
    cases force with
    | true => exact hA
    | false =>
      intro j w h
      obtain ⟨_, _, _, _, hnew, _, _⟩ := regCheck_none hc
      have := hnew rfl
      rw [alreadyHasId_of_entry hUnpack hI hB h] at this
      simp at this
  intro i e' w h
  rcases lookup_regCommit h with ⟨hi, hen⟩ | ⟨hi, hl⟩
  · cases hen
    simp [regCommit, upd, hi]
  · have hee : e' ≠ e := by
      intro he; subst he; exact hi (hne i w hl)
    simp only [regCommit, upd, hee, if_false]
    exact hB i e' w hl

theorem back_erase {s : State} (i : Id) (hB : Back s) : Back { s with objs := erase i s.objs } :=
  fun j e w h => hB j e w (lookup_of_erase h).2

theorem back_unique {s : State} (hB : Back s) {i j : Id} {e : Ent} {w w' : Bool}
    (hi : lookup i s.objs = some ⟨.ent e, w⟩) (hj : lookup j s.objs = some ⟨.ent e, w'⟩) : i = j := by
  have h := (hB j e w' hj).1
  rw [(hB i e w hi).1] at h
  exact Option.some.inj h

theorem unregister_registered {cfg : Cfg} {s : State} (hI : InvW s) (hB : Back s) {j : Id} {e : Ent} {w : Bool}
    (hl : lookup j s.objs = some ⟨.ent e, w⟩) :
    unregister cfg s (.byObj e) =
      ({ s with objs := erase j s.objs, pid := upd s.pid e none, pdm := upd s.pdm e .absent }, .ok) := by
  have hb := hB j e w hl
  have hj : j ≠ .daemon := by
    intro hd; subst hd; rw [hI.daemon] at hl; simp at hl
  have hdead : isDead s e = false := by
    cases e with
    | obj k => exact hI.alive j k w hl
    | cls c => rfl
  simp [unregister, hdead, getId_of_back hB hl, hj, hl, deref_entry hI hl, delAttrs, hb.1, hb.2]

/-- the id the object still carries may by now be another's; `hOwner`: the repaired `unregister` removes only the object's own entry -/
theorem unregister_unregistered {cfg : Cfg} (hOwner : cfg.unregChecksOwner = true) {s : State} {e : Ent}
    (hr : ∀ j w, lookup j s.objs ≠ some ⟨.ent e, w⟩) : (unregister cfg s (.byObj e)).1 = s := by
  by_cases hd : isDead s e = true
  · simp [unregister, hd]
  cases hg : getId s e with
  | none => simp [unregister, hd, hg]
  | some i =>
    cases hl : lookup i s.objs with
    | none => by_cases hi : i = .daemon <;> simp [unregister, hd, hg, hi, hl]
    | some en =>
      have : deref s en ≠ some (.ent e) := fun h => hr i en.weak (by rw [hl, ← deref_ref h])
      by_cases hi : i = .daemon <;> simp [unregister, hd, hg, hi, hl, hOwner, this]

theorem back_unregister {cfg : Cfg} {s : State} (t : Target) (hOwner : cfg.unregChecksOwner = true) (hI : InvW s)
    (hB : Back s) : Back (unregister cfg s t).1 := by
  cases t with
  | byId i =>
    simp only [unregister]
    split
    · exact hB
    · exact back_erase _ hB
  | byObj e =>
    by_cases hr : ∃ j w, lookup j s.objs = some ⟨.ent e, w⟩
    · obtain ⟨j, w, hl⟩ := hr
      rw [unregister_registered hI hB hl]
      intro i e' w' h
      obtain ⟨hij, hi⟩ := lookup_of_erase h
      have hee : e' ≠ e := by
        intro he; subst he; exact hij (back_unique hB hi hl)
      simp only [upd, hee, if_false]
      exact hB i e' w' hi
    · rw [unregister_unregistered hOwner fun j w h => hr ⟨j, w, h⟩]
      exact hB
  | _ => exact hB

theorem back_gc {cfg : Cfg} {s : State} (k : Nat) (hB : Back s) : Back (gc cfg s k).1 := by
  unfold gc
  split
  · exact hB
  · split
    · exact hB
    · intro i e w h
      exact hB i e w (foldl_runFin_sub cfg k _ _ i _ h)

/-- what the type-replacement hook tests and returns, on a registered object -/
theorem registered_owns {s : State} (hI : InvW s) (hB : Back s) {k : Nat} {i : Id} {w : Bool}
    (h : lookup i s.objs = some ⟨.ent (.obj k), w⟩) :
    getDm s (.obj k) = .this ∧ ownsEntry s k = true ∧ proxyFor s (.byObj (.obj k)) = .proxy i := by
  have hd : s.dead k = false := hI.alive i k w h
  have hgi := getId_of_back hB h
  have hde := deref_entry hI h
  exact ⟨getDm_of_back hB h, by simp [ownsEntry, registeredRef, hgi, h, hde],
    by simp [proxyFor, uriFor, isDead, hd, hgi, h, hde]⟩

/-- a registered object returned from a method arrives as the proxy of its id, and nothing changes -/
theorem returnObj_registered {cfg : Cfg} {s : State} (hI : InvW s) (hB : Back s) {k : Nat} {i : Id} {w : Bool}
    (h : lookup i s.objs = some ⟨.ent (.obj k), w⟩) (ser : Ser) :
    returnObj cfg s k ser = (s, .proxy i) := by
  obtain ⟨hgd, hown, hp⟩ := registered_owns hI hB h
  simp [returnObj, hI.alive i k w h, hgd, hown, hp]

theorem back_returnObj {cfg : Cfg} {s : State} (k : Nat) (ser : Ser) (hI : InvW s) (hB : Back s) :
    Back (returnObj cfg s k ser).1 := by
  by_cases hr : ∃ i w, lookup i s.objs = some ⟨.ent (.obj k), w⟩
  · obtain ⟨i, w, h⟩ := hr
    rw [returnObj_registered hI hB h]; exact hB
  · obtain ⟨ho, _, _, _, hp, hm⟩ := returnObj_frame cfg s k ser
    intro i e w h
    rw [ho] at h
    have hee : e ≠ .obj k := by
      intro he; subst he; exact hr ⟨i, w, h⟩
    rw [hp, hm e hee]
    exact hB i e w h

theorem back_step {cfg : Cfg} (hUnpack : cfg.identityUnpacksWeak = true) (hOwner : cfg.unregChecksOwner = true)
    {s : State} (op : Op) (hI : InvW s) (hB : Back s) (hA : NoAliasOp s op) :
    Back (step cfg s op).1 := by
  cases op with
  | register e ia f w =>
    simp only [step]
    rcases register_cases cfg s e ia f w with ⟨r, _, h⟩ | ⟨hc, h⟩
    · rw [h]; exact hB
    · rw [h]; exact back_regCommit hUnpack hI hB hc hA
  | unregister t => exact back_unregister t hOwner hI hB
  | gc k => exact back_gc k hB
  | returnObj k ser => exact back_returnObj k ser hI hB
  | _ => exact hB


/-! ### the abstract registry -/

/-- the specification: a partial map from ids to registered entities (with the weak flag), the set of
    collected objects, and the id counter.  No attributes on objects, no finalizers. -/
structure Spec where
  m : Id → Option Entry
  dead : Nat → Bool
  next : Nat

def abs (s : State) : Spec := ⟨fun i => lookup i s.objs, s.dead, s.next⟩

def Spec.init : Spec :=
  ⟨fun i => if i = .daemon then some ⟨.daemonObj, false⟩ else none, fun _ => false, 0⟩

/-- `e` is registered (under some id) -/
def Spec.has (σ : Spec) (e : Ent) : Prop := ∃ i w, σ.m i = some ⟨.ent e, w⟩

def Spec.isDead (σ : Spec) : Ent → Bool
  | .obj k => σ.dead k
  | .cls _ => false

def Spec.resolve (σ : Spec) : IdArg → Id
  | .str i => i
  | _ => .gen σ.next

/-- when the specification refuses a registration: the object is gone, the id is not a string, the id
    is the daemon's own, a class is to be registered weakly, — without `force` — the object is
    registered already or the id is taken, or the object cannot carry the pyro attributes -/
def Spec.refuses (σ : Spec) (e : Ent) (ia : IdArg) (force weak : Bool) : Prop :=
  σ.isDead e = true ∨ ia = .nonStr ∨ σ.resolve ia = .daemon ∨ (isClass e = true ∧ weak = true) ∨
  (force = false ∧ (σ.has e ∨ (σ.m (σ.resolve ia)).isSome = true)) ∨ canSet e = false

open Classical in
/-- one step of the specification -/
noncomputable def specStep (σ : Spec) : Op → Spec
  | .register e ia force weak =>
    if σ.refuses e ia force weak then σ
    else { σ with m := upd σ.m (σ.resolve ia) (some ⟨.ent e, weak⟩),
                  next := if generates ia then σ.next + 1 else σ.next }
  | .unregister (.byId i) => if i = .daemon then σ else { σ with m := upd σ.m i none }
  | .unregister (.byObj e) => { σ with m := fun i => (σ.m i).filter (fun en => en.ref ≠ .ent e) }
  | .unregister _ => σ
  | .gc k =>
    if σ.dead k = true ∨ (∃ i, σ.m i = some ⟨.ent (.obj k), false⟩) then σ
    else { σ with dead := upd σ.dead k true, m := fun i => (σ.m i).filter (fun en => en.ref ≠ .ent (.obj k)) }
  | _ => σ

noncomputable def specRun (σ : Spec) : List Op → Spec
  | [] => σ
  | op :: h => specRun (specStep σ op) h

theorem abs_init : abs init = Spec.init := by
  simp only [abs, Spec.init]
  congr 1
  funext i
  exact lookup_init i

theorem abs_resolve (s : State) (ia : IdArg) : (abs s).resolve ia = resolveId s ia := by
  cases ia <;> rfl

theorem abs_isDead (s : State) (e : Ent) : (abs s).isDead e = isDead s e := by
  cases e <;> rfl

theorem regCheck_some_refuses {cfg : Cfg} {s : State} {e : Ent} {ia : IdArg}
    {force weak : Bool} {r : Res} (h : regCheck cfg s e ia force weak = some r) : (abs s).refuses e ia force weak := by
  unfold Spec.refuses
  rw [abs_resolve, abs_isDead]
  rcases regCheck_some h with ⟨h, _⟩ | ⟨h, _⟩ | ⟨h, _⟩ | ⟨h, _⟩ | ⟨h, _⟩ | ⟨h, _⟩ | ⟨h, _⟩
  · exact .inl h
  · exact .inr (.inl h)
  · exact .inr (.inr (.inl h.2))
  · exact .inr (.inr (.inr (.inl h)))
  · refine .inr (.inr (.inr (.inr (.inl ⟨h.1, .inl ?_⟩))))
    have h5 := h.2
    unfold alreadyHasId at h5
    split at h5
    · rename_i p _
      obtain ⟨w, hl⟩ := entryIs_has h5
      exact ⟨p, w, hl⟩
    · simp at h5
  · exact .inr (.inr (.inr (.inr (.inl ⟨h.1, .inr h.2⟩))))
  · exact .inr (.inr (.inr (.inr (.inr h))))

theorem regCheck_none_not_refuses {cfg : Cfg} (hRefuse : cfg.refuseDaemonName = true) (hUnpack : cfg.identityUnpacksWeak = true)
    {s : State} (hI : InvW s) (hB : Back s) {e : Ent} {ia : IdArg}
    {force weak : Bool} (h : regCheck cfg s e ia force weak = none) : ¬ (abs s).refuses e ia force weak := by
  obtain ⟨h1, h2, h3, h4, h5, h6, h7⟩ := regCheck_none h
  unfold Spec.refuses
  rw [abs_resolve, abs_isDead]
  rintro (hd | hn | hdm | hcw | ⟨hf, hh | ht⟩ | hcs)
  · rw [h1] at hd; simp at hd
  · exact h2 hn
  · exact h3 hRefuse hdm
  · exact h4 hcw
  · obtain ⟨i, w, hl⟩ := hh
    have := h5 hf
    rw [alreadyHasId_of_entry hUnpack hI hB hl] at this
    simp at this
  · have := h6 hf
    simp only [abs] at ht
    rw [this] at ht; simp at ht
  · rw [h7] at hcs; simp at hcs

theorem filter_ref_of_ne {o : Option Entry} {r : Ref} (h : ∀ w, o ≠ some ⟨r, w⟩) :
    o.filter (fun en => en.ref ≠ r) = o := by
  cases o with
  | none => rfl
  | some en =>
    have : en.ref ≠ r := fun hre => h en.weak (by rw [← hre])
    simp [Option.filter, this]

/-- the concrete step of the repaired code refines the specification step -/
theorem abs_step {s : State} (op : Op) (hI : InvW s) (hB : Back s) (hA : NoAliasOp s op) :
    abs (step .fixed s op).1 = specStep (abs s) op := by
  cases op with
  | register e ia f w =>
    simp only [step, specStep]
    rcases register_cases .fixed s e ia f w with ⟨r, hc, h⟩ | ⟨hc, h⟩
    · rw [h, if_pos (regCheck_some_refuses hc)]
    · rw [h, if_neg (regCheck_none_not_refuses rfl rfl hI hB hc), abs_resolve]
      simp only [abs, regCommit]
      congr 1
      funext i
      simp only [lookup_setEntry, upd]
  | unregister t =>
    cases t with
    | noneArg => rfl
    | plain => rfl
    | daemonObj => rfl
    | byId i =>
      simp only [step, unregister, specStep]
      split
      · rfl
      · simp only [abs]
        congr 1
        funext j
        simp only [lookup_erase, upd]
    | byObj e =>
      simp only [step, specStep]
      by_cases hr : ∃ j w, lookup j s.objs = some ⟨.ent e, w⟩
      · obtain ⟨j, w, hl⟩ := hr
        rw [unregister_registered hI hB hl]
        simp only [abs]
        congr 1
        funext i
        simp only [lookup_erase]
        by_cases hi : i = j
        · subst hi; simp [hl, Option.filter]
        · rw [if_neg hi, filter_ref_of_ne]
          exact fun w' hx => hi (back_unique hB hx hl)
      · rw [unregister_unregistered rfl fun j w h => hr ⟨j, w, h⟩]
        simp only [abs]
        congr 1
        funext i
        exact (filter_ref_of_ne fun w' hx => hr ⟨i, w', hx⟩).symm
  | gc k =>
    have hsh := stronglyHeld_iff hI k
    simp only [step, specStep, gc]
    by_cases hd : s.dead k = true
    · simp [abs, hd]
    by_cases hs : stronglyHeld k s.objs = true
    · simp [abs, hd, hs, hsh.1 hs]
    rw [if_neg hd, if_neg hs, if_neg (show ¬ ((abs s).dead k = true ∨ ∃ i, (abs s).m i = some ⟨.ent (.obj k), false⟩) from
      not_or.2 ⟨hd, hs ∘ hsh.2⟩)]
    simp only [abs]
    congr 1
    funext i
    cases hy : lookup i (List.foldl _ _ _) with
    | some en' =>
      rw [foldl_runFin_sub _ k _ _ i en' hy, filter_ref_of_ne]
      intro w h
      exact gc_no_entry hI (by simpa using hs) i w (by rw [hy, h])
    | none =>
      cases hx : lookup i s.objs with
      | none => rfl
      | some en =>
        by_cases hre : en.ref = .ent (.obj k)
        · simp [Option.filter, hre]
        · rw [foldl_runFin (fun o a h => lookup_runFin_keep rfl k o a i en h (by simp [weakOf, hre])) _ hx] at hy
          cases hy
  | returnObj k ser =>
    obtain ⟨ho, hd, _, hn, _⟩ := returnObj_frame .fixed s k ser
    simp only [step, specStep, abs, ho, hd, hn]
  | _ => rfl


/-! ### histories -/

/-- decidable form of `NoAliasOp` -/
def noAliasOp (s : State) : Op → Bool
  | .register e ia true _ => s.objs.all (fun p => decide (p.2.ref ≠ .ent e) || decide (p.1 = resolveId s ia))
  | _ => true

theorem noAliasOp_sound {s : State} {op : Op} (h : noAliasOp s op = true) : NoAliasOp s op := by
  cases op with
  | register e ia f w =>
    cases f with
    | false => trivial
    | true =>
      intro j w' hl
      simp only [noAliasOp, List.all_eq_true] at h
      simpa using h _ (lookup_mem hl)
  | _ => trivial

/-- the history never gives an object that is registered under another id a second id by `force=True`
    (forced re-registration under the *same* id, forced take-over of an id held by another object, and
    everything without `force` are allowed) -/
def noAliasHist (s : State) : List Op → Bool
  | [] => true
  | op :: h => noAliasOp s op && noAliasHist (step .fixed s op).1 h

/-- along such a history of the repaired code all invariants hold and the state abstracts to the
    specification's state -/
theorem reach {s : State} (h : List Op) (hI : InvW s) (hB : Back s) (hA : noAliasHist s h = true) :
    InvW (run .fixed s h) ∧ Back (run .fixed s h) ∧ abs (run .fixed s h) = specRun (abs s) h := by
  induction h generalizing s with
  | nil => exact ⟨hI, hB, rfl⟩
  | cons op r ih =>
    simp only [noAliasHist, Bool.and_eq_true] at hA
    have hA1 := noAliasOp_sound hA.1
    have := ih (invW_step rfl op hI) (back_step rfl rfl op hI hB hA1) hA.2
    simp only [run, specRun]
    rw [← abs_step op hI hB hA1]
    exact this

/-- who answers a call addressed to `i` according to the specification -/
def specCall (σ : Spec) (i : Id) : Res :=
  match σ.m i with
  | none => .unknownObject
  | some ⟨.ent (.cls c), _⟩ => .inst c
  | some ⟨r, _⟩ => .reached r

theorem call_eq_specCall {s : State} (hI : InvW s) (i : Id) : call s i = specCall (abs s) i := by
  unfold call specCall
  simp only [abs]
  cases hx : lookup i s.objs with
  | none => rfl
  | some en =>
    simp only [deref_entry hI hx]
    obtain ⟨r, w⟩ := en
    cases r with
    | daemonObj => rfl
    | ent e => cases e <;> rfl

end Pyro.Registry
