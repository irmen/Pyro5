/-
  PoolConn: decoding of the connection-life tables obtained by RUNNING the real ClientConnectionJob /
  SocketServer_Threadpool.events on fakes (harness/props/c18_conn.py), and the lemmas about `serve`.
-/
import PyroModel.PoolConn

namespace Pyro.PoolConn

def hsOf : Nat → Option Hs
  | 0 => some .ok | 1 => some .refused | 2 => some .raises | _ => none

def reqOf : Nat → Option Req
  | 0 => some .served | 1 => some .connClosed | 2 => some .sockError | 3 => some .security
  | 4 => some .timeout | 5 => some .otherError | _ => none

/-- job row: [[handshake outcome, hook raises, COMMTIMEOUT set, something came out of __call__], requests, observed effects] -/
def checkJobRow : List (List Nat) → Bool
  | [[hs, hook, _ct, raised], reqs, trace] =>
    match hsOf hs, reqs.mapM reqOf with
    | some h, some rs =>
      let p := jobCall h rs (hook != 0)
      raised == 0 && p.2 == false && p.1.map Eff.code == trace
    | _, _ => false
  | _ => false

/-- deny row: [[refusing handshake raises, COMMTIMEOUT set, something came out], [], observed effects] -/
def checkDenyRow : List (List Nat) → Bool
  | [[r, _ct, raised], [], trace] => raised == 0 && (deny (r != 0)).map Eff.code == trace
  | _ => false

/-- accept row: [[COMMTIMEOUT set, pool full, refusing handshake raises, something came out,
    the socket had its timeout when the refusing handshake started to read], [], observed effects] -/
def checkAcceptRow : List (List Nat) → Bool
  | [[ct, full, r, raised, tOk], [], trace] =>
    raised == 0 && tOk == 1 && (acceptStep (ct != 0) (full != 0) (r != 0)).map Eff.code == trace
  | _ => false

theorem serve_still (h : Bool) (reqs : List Req) :
    (serve h reqs).2 = true → (∀ r ∈ reqs, r = .served) ∧ Eff.close ∉ (serve h reqs).1 := by
  induction reqs with
  | nil => simp [serve]
  | cons r rest ih =>
    unfold serve; split
    · next hr =>
      intro hs
      obtain ⟨h1, h2⟩ := ih hs
      exact ⟨List.forall_mem_cons.mpr ⟨hr, h1⟩, by simp [h2]⟩
    · simp

theorem serve_done (h : Bool) (reqs : List Req) :
    (serve h reqs).2 = false →
      (∃ r ∈ reqs, r ≠ .served) ∧ (serve h reqs).1.count .close = 1 ∧ (serve h reqs).1.count .hook = 1 ∧
      (serve h reqs).1.getLast? = some .close := by
  induction reqs with
  | nil => simp [serve]
  | cons r rest ih =>
    unfold serve; split
    · next hr =>
      intro hs
      obtain ⟨⟨x, hx, hne⟩, h2, h3, h4⟩ := ih hs
      simp [hr, h2, h3, h4, List.getLast?_cons]
      exact ⟨x, hx, hne⟩
    · next hr => simp [hr]

end Pyro.PoolConn
