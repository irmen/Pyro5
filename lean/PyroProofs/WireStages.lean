/-
  Helper lemmas for PyroProps/C06.lean: what each stage of `recvStub` does (its case split, and what an `.ok` result tells),
  then the annotation walk and `addPayload` (an accepted payload is tiled by chunks).
-/
import PyroModel.Wire
import PyroProofs.Wire

namespace Pyro.Wire

open Pyro

/-! ### the stages of `recvStub` -/

theorem recvN_some (n : Nat) (s a b : Bytes) (h : recvN n s = some (a, b)) :
    s = a ++ b ∧ a.length = n := by
  unfold recvN at h
  split at h
  · simp only [Option.some.injEq, Prod.mk.injEq] at h
    obtain ⟨rfl, rfl⟩ := h
    refine ⟨(List.take_append_drop _ _).symm, ?_⟩
    simp only [List.length_take]; omega
  · cases h

theorem stage3_requested (z : Zlib) (H : Header) (s2 : Bytes) :
    (recvStage3 z H s2).requested = headerSize + H.annSize + H.dataSize := by
  unfold recvStage3
  generalize recvN (H.annSize + H.dataSize) s2 = r
  cases r with
  | none => rfl
  | some p => obtain ⟨_, _⟩ := p; rfl

theorem stage3_ok (z : Zlib) (H : Header) (s2 : Bytes) (d : Decoded) (n : Nat) (rest : Bytes)
    (h : recvStage3 z H s2 = ⟨.ok d, n, rest⟩) :
    ∃ body, s2 = body ++ rest ∧ body.length = H.annSize + H.dataSize ∧
      addPayload z H body = .ok d ∧ n = headerSize + H.annSize + H.dataSize := by
  unfold recvStage3 at h
  generalize hr : recvN (H.annSize + H.dataSize) s2 = r at h
  cases r with
  | none => simp at h
  | some p =>
    obtain ⟨body, s3⟩ := p
    simp only [StubResult.mk.injEq] at h
    obtain ⟨h1, h2, h3⟩ := h
    subst h3
    obtain ⟨e1, e2⟩ := recvN_some _ _ _ _ hr
    exact ⟨body, e1, e2, h1, h2.symm⟩

theorem stage2_inv (cfg : Cfg) (z : Zlib) (accepted : List Nat) (h40 s2 : Bytes) :
    (∃ e, (recvStage2 cfg z accepted h40 s2).out = .error e ∧ (recvStage2 cfg z accepted h40 s2).requested = headerSize) ∨
    ∃ H, parseHeader cfg h40 = .ok H ∧ (accepted = [] ∨ H.type ∈ accepted) ∧
      ∀ s, recvStage2 cfg z accepted h40 s = recvStage3 z H s := by
  unfold recvStage2
  cases parseHeader cfg h40 with
  | error e => exact Or.inl ⟨e, rfl, rfl⟩
  | ok H =>
    simp only
    by_cases hf : (!accepted.isEmpty && !accepted.contains H.type) = true
    · rw [if_pos hf]
      exact Or.inl ⟨_, rfl, rfl⟩
    · refine Or.inr ⟨H, rfl, ?_, fun s => if_neg hf⟩
      cases accepted with
      | nil => exact Or.inl rfl
      | cons a as =>
        right
        simp only [List.isEmpty_cons, Bool.not_false, Bool.true_and, Bool.not_eq_true', Bool.not_eq_false] at hf
        simpa using hf

theorem stage2_ok (cfg : Cfg) (z : Zlib) (accepted : List Nat) (h40 s2 : Bytes) (d : Decoded) (n : Nat)
    (rest : Bytes) (h : recvStage2 cfg z accepted h40 s2 = ⟨.ok d, n, rest⟩) :
    ∃ H, parseHeader cfg h40 = .ok H ∧ (accepted = [] ∨ H.type ∈ accepted) ∧
      recvStage3 z H s2 = ⟨.ok d, n, rest⟩ := by
  rcases stage2_inv cfg z accepted h40 s2 with ⟨e, he, _⟩ | ⟨H, hp, hacc, hs⟩
  · rw [h] at he
    cases he
  · exact ⟨H, hp, hacc, hs s2 ▸ h⟩

theorem recvStub_append (cfg : Cfg) (z : Zlib) (accepted : List Nat) (h6 h34 s2 : Bytes) (l6 : h6.length = 6)
    (l34 : h34.length = headerSize - 6) (ht : h6.take 4 = tagPYRO) (hv : h6.drop 4 = toBE 2 protocolVersion) :
    recvStub cfg z accepted (h6 ++ (h34 ++ s2)) = recvStage2 cfg z accepted (h6 ++ h34) s2 := by
  unfold recvStub
  rw [recvN_append h6 _ 6 l6]
  simp only
  rw [if_neg (not_not_intro ht), if_neg (not_not_intro hv), recvN_append h34 _ _ l34]

theorem recvStub_inv (cfg : Cfg) (z : Zlib) (accepted : List Nat) (stream : Bytes) :
    (∃ e, (recvStub cfg z accepted stream).out = .error e ∧ (recvStub cfg z accepted stream).requested ≤ headerSize) ∨
    ∃ h6 h34 s2, stream = h6 ++ (h34 ++ s2) ∧ h6.length = 6 ∧ h34.length = headerSize - 6 ∧
      h6.take 4 = tagPYRO ∧ h6.drop 4 = toBE 2 protocolVersion := by
  have hle : 6 ≤ headerSize := by decide
  unfold recvStub
  cases hr : recvN 6 stream with
  | none => exact Or.inl ⟨_, rfl, hle⟩
  | some p =>
    obtain ⟨h6, s1⟩ := p
    simp only
    by_cases c1 : h6.take 4 ≠ tagPYRO
    · rw [if_pos c1]
      exact Or.inl ⟨_, rfl, hle⟩
    · rw [if_neg c1]
      by_cases c2 : h6.drop 4 ≠ toBE 2 protocolVersion
      · rw [if_pos c2]
        exact Or.inl ⟨_, rfl, hle⟩
      · rw [if_neg c2]
        cases hr2 : recvN (headerSize - 6) s1 with
        | none => exact Or.inl ⟨_, rfl, Nat.le_refl _⟩
        | some p2 =>
          obtain ⟨h34, s2⟩ := p2
          obtain ⟨e1, e2⟩ := recvN_some _ _ _ _ hr
          obtain ⟨e3, e4⟩ := recvN_some _ _ _ _ hr2
          exact Or.inr ⟨h6, h34, s2, by rw [e1, e3], e2, e4, Decidable.not_not.mp c1, Decidable.not_not.mp c2⟩

theorem recvStub_ok (cfg : Cfg) (z : Zlib) (accepted : List Nat) (stream : Bytes) (d : Decoded) (n : Nat)
    (rest : Bytes) (h : recvStub cfg z accepted stream = ⟨.ok d, n, rest⟩) :
    ∃ h6 h34 s2, stream = h6 ++ (h34 ++ s2) ∧ h6.length = 6 ∧ h34.length = headerSize - 6 ∧
      recvStage2 cfg z accepted (h6 ++ h34) s2 = ⟨.ok d, n, rest⟩ := by
  rcases recvStub_inv cfg z accepted stream with ⟨e, he, _⟩ | ⟨h6, h34, s2, rfl, l6, l34, ht, hv⟩
  · rw [h] at he
    cases he
  · rw [recvStub_append cfg z accepted h6 h34 s2 l6 l34 ht hv] at h
    exact ⟨h6, h34, s2, rfl, l6, l34, h⟩

/-! ### the annotation walk and `addPayload` -/

/-- annotation chunks as they lie on the wire: raw 4-byte id, 4-byte big-endian length, value -/
def rawChunks : List (Bytes × Bytes) → Bytes
  | [] => []
  | (i, v) :: r => i ++ (toBE 4 v.length ++ (v ++ rawChunks r))

theorem walk_tiles (fuel : Nat) :
    ∀ (rest : Bytes) (remaining : Nat) (acc anns : List Ann),
      walkAnns fuel rest remaining acc = .ok anns → remaining ≤ rest.length →
      ∃ chunks : List (Bytes × Bytes),
        rest.take remaining = rawChunks chunks ∧
        (∀ c ∈ chunks, c.1.length = 4 ∧ c.1.any (· ≥ 128) = false ∧ c.2.length < 2 ^ 32) ∧
        anns = chunks.foldl (fun d c => dictSet d (c.1.map UInt8.toNat) c.2) acc := by
  induction fuel with
  | zero =>
    intro rest remaining acc anns h _
    simp only [walkAnns] at h
    by_cases h0 : remaining = 0
    · subst h0
      simp only [if_true, Except.ok.injEq] at h; subst h
      exact ⟨[], by simp [rawChunks], by simp, rfl⟩
    · rw [if_neg h0] at h; cases h
  | succ fuel ih =>
    intro rest remaining acc anns h hlen
    simp only [walkAnns] at h
    by_cases h0 : remaining = 0
    · subst h0
      simp only [if_true, Except.ok.injEq] at h; subst h
      exact ⟨[], by simp [rawChunks], by simp, rfl⟩
    · rw [if_neg h0] at h
      by_cases h1 : (List.take 4 rest).any (· ≥ 128) = true
      · rw [if_pos h1] at h; cases h
      · rw [if_neg h1] at h
        by_cases h2 : 8 + fromBE (List.take 4 (List.drop 4 rest)) > remaining
        · rw [if_pos h2] at h; cases h
        · rw [if_neg h2] at h
          have hl4 : (List.take 4 (List.drop 4 rest)).length = 4 := by
            simp only [List.length_take, List.length_drop]; omega
          have hlt := fromBE_lt (List.take 4 (List.drop 4 rest))
          rw [hl4] at hlt
          obtain ⟨chunks, hc1, hc2, hc3⟩ := ih _ _ _ _ h (by simp only [List.length_drop]; omega)
          refine ⟨(List.take 4 rest, List.take (fromBE (List.take 4 (List.drop 4 rest))) (List.drop 8 rest)) :: chunks, ?_, ?_, ?_⟩
          · simp only [rawChunks]
            have hvl : (List.take (fromBE (List.take 4 (List.drop 4 rest))) (List.drop 8 rest)).length
                = fromBE (List.take 4 (List.drop 4 rest)) := by
              simp only [List.length_take, List.length_drop]; omega
            rw [hvl]
            have hbe : toBE 4 (fromBE (List.take 4 (List.drop 4 rest))) = List.take 4 (List.drop 4 rest) := by
              have := toBE_fromBE (List.take 4 (List.drop 4 rest))
              rw [hl4] at this; exact this
            rw [hbe, ← hc1]
            generalize fromBE (List.take 4 (List.drop 4 rest)) = L at *
            have e1 : remaining = 4 + (4 + (L + (remaining - (8 + L)))) := by omega
            conv => lhs; rw [e1]
            rw [List.take_add, List.take_add, List.take_add]
            simp only [List.drop_drop]
          · intro c hc
            simp only [List.mem_cons] at hc
            rcases hc with rfl | hc
            · refine ⟨?_, (Bool.not_eq_true _).mp h1, ?_⟩
              · simp only [List.length_take]
                omega
              · simp only [List.length_take, List.length_drop]
                omega
            · exact hc2 c hc
          · rw [hc3]; rfl

theorem addPayload_inv (z : Zlib) (H : Header) (body : Bytes) (d : Decoded)
    (h : addPayload z H body = .ok d) :
    body.length = H.dataSize + H.annSize ∧ walkAnns H.annSize body H.annSize [] = .ok d.anns ∧
    d.type = H.type ∧ d.serId = H.serId ∧ d.seq = H.seq ∧ d.corr = H.corr ∧
    ((hasBit H.flags FLAGS_COMPRESSED = false ∧ d.data = body.drop H.annSize ∧ d.flags = H.flags) ∨
     (hasBit H.flags FLAGS_COMPRESSED = true ∧ z.decompress (body.drop H.annSize) = some d.data ∧
        d.flags = clearBit H.flags FLAGS_COMPRESSED)) := by
  unfold addPayload at h
  by_cases hl : body.length ≠ H.dataSize + H.annSize
  · rw [if_pos hl] at h; cases h
  · rw [if_neg hl] at h
    refine ⟨Decidable.not_not.mp hl, ?_⟩
    generalize walkAnns H.annSize body H.annSize [] = w at h ⊢
    cases w with
    | error e => simp at h
    | ok anns =>
      simp only at h
      by_cases hc : hasBit H.flags FLAGS_COMPRESSED = true
      · rw [if_pos hc] at h
        generalize hz : z.decompress (List.drop H.annSize body) = zr at h
        cases zr with
        | none => simp at h
        | some dd =>
          simp only [Except.ok.injEq] at h
          subst h
          exact ⟨rfl, rfl, rfl, rfl, rfl, Or.inr ⟨hc, rfl, rfl⟩⟩
      · rw [if_neg hc] at h
        simp only [Except.ok.injEq] at h
        subst h
        exact ⟨rfl, rfl, rfl, rfl, rfl, Or.inl ⟨by simpa using hc, rfl, rfl⟩⟩

theorem addPayload_ok (z : Zlib) (H : Header) (body : Bytes) (d : Decoded)
    (h : addPayload z H body = .ok d) :
    body.length = H.dataSize + H.annSize ∧
    ∃ chunks : List (Bytes × Bytes),
      body.take H.annSize = rawChunks chunks ∧
      d.anns = chunks.foldl (fun a c => dictSet a (c.1.map UInt8.toNat) c.2) [] ∧
      d.type = H.type ∧ d.serId = H.serId ∧ d.seq = H.seq ∧ d.corr = H.corr ∧
      ((hasBit H.flags FLAGS_COMPRESSED = false ∧ d.data = body.drop H.annSize ∧ d.flags = H.flags) ∨
       (hasBit H.flags FLAGS_COMPRESSED = true ∧ z.decompress (body.drop H.annSize) = some d.data ∧
          d.flags = clearBit H.flags FLAGS_COMPRESSED)) := by
  obtain ⟨hl, hw, hfields⟩ := addPayload_inv z H body d h
  obtain ⟨chunks, hc1, _, hc3⟩ := walk_tiles _ _ _ _ _ hw (by omega)
  exact ⟨hl, chunks, hc1, hc3, hfields⟩

end Pyro.Wire
