/-
  NSMem.lean — `MemoryStorage` (a dict) meets the storage contract `StoreOK`; the represented map is the
  dict itself.
-/
import PyroProofs.NSRefine

namespace Pyro.NS

theorem map_replace_perm (n u : Str) (t : Tags) :
    ∀ (s : List Entry), NodupKeys s → s.any (·.name == n) = true →
      (s.map (fun e => if e.name == n then (⟨n, u, t⟩ : Entry) else e)).Perm
        (s.filter (fun e => !(e.name == n)) ++ [⟨n, u, t⟩])
  | [], _, h => by cases h
  | a :: s, hk, h => by
    rw [NodupKeys, List.pairwise_cons] at hk
    by_cases ha : a.name = n
    · -- the key is at the head, so nowhere in the tail: the map and the filter leave the tail alone
      have hs : ∀ b ∈ s, (b.name == n) = false := fun b hb =>
        beq_eq_false_iff_ne.mpr fun hb' => hk.1 b hb (ha.trans hb'.symm)
      have hmap : s.map (fun e => if e.name == n then (⟨n, u, t⟩ : Entry) else e) = s := by
        rw [List.map_congr_left (g := id) fun b hb => by simp only [hs b hb, Bool.false_eq_true, if_false, id], List.map_id]
      have hfil : s.filter (fun e => !(e.name == n)) = s :=
        List.filter_eq_self.mpr fun b hb => by rw [hs b hb]; rfl
      simp only [List.map_cons, List.filter_cons, ha, beq_self_eq_true, if_true, Bool.not_true, Bool.false_eq_true,
        if_false, hmap, hfil]
      exact (List.perm_append_singleton _ _).symm
    · have ha' : (a.name == n) = false := beq_eq_false_iff_ne.mpr ha
      simp only [List.map_cons, ha', Bool.false_eq_true, if_false, List.filter_cons, Bool.not_false, if_true,
        List.cons_append]
      exact (map_replace_perm n u t s hk.2 (by simpa [List.any_cons, ha'] using h)).cons a

theorem memSet_perm {s : List Entry} (h : NodupKeys s) (n u : Str) (t : Tags) :
    (memSet n u t s).Perm (Spec.put s ⟨n, u, t⟩) := by
  unfold memSet Spec.put
  by_cases ha : s.any (·.name == n) = true
  · rw [if_pos ha]
    exact map_replace_perm n u t s h ha
  · rw [if_neg ha]
    have ha' : s.any (·.name == n) = false := by simpa using ha
    have := filter_ne_of_not_any ha'
    simp only [bne] at this ⊢
    rw [this]

theorem memRemoveItems_eq : ∀ (items : List Str) (s : List Entry),
    memRemoveItems items s = s.filter (fun e => !items.contains e.name)
  | [], s => by
    simp only [memRemoveItems, List.contains_nil, Bool.not_false]
    exact (List.filter_eq_self.mpr fun _ _ => rfl).symm
  | n :: ns, s => by
    have h1 : (if s.any (·.name == n) = true then s.filter (·.name != n) else s) = s.filter (fun e => !(e.name == n)) := by
      by_cases ha : s.any (·.name == n) = true
      · rw [if_pos ha]; rfl
      · rw [if_neg ha]
        exact (filter_ne_of_not_any (by simpa using ha)).symm
    rw [memRemoveItems, h1, memRemoveItems_eq ns, List.filter_filter]
    apply List.filter_congr
    intro e _
    simp only [List.contains_cons, Bool.not_or, Bool.and_comm]

theorem mem_storeOK : StoreOK (fun (s : MemDb) => s) (fun _ => True) False memStore where
  len s _ _ := .ret rfl trivial rfl
  contains n s _ _ := .ret rfl trivial rfl
  getItem n s _ _ := .ret rfl trivial rfl
  iter s _ _ := .ret rfl trivial (.refl _)
  optPrefix p wm s _ _ := .ret rfl trivial fun l hl => nomatch hl
  optRegex r wm s _ _ := .ret rfl trivial rfl
  optMeta all ts wm s _ _ _ := .ret rfl trivial fun l hl => nomatch hl
  everything wm s _ _ := .ret rfl trivial (.refl _)
  setItem n u t s _ hs _ := .ret trivial (memSet_perm hs.1 n u t)
  delItem n s _ _ := by
    simp only [memStore]
    by_cases ha : s.any (·.name == n) = true
    · rw [if_pos ha]
      exact .ret trivial ⟨fun _ => rfl, .refl _⟩
    · rw [if_neg ha]
      have ha' : s.any (·.name == n) = false := by simpa using ha
      exact .ret trivial ⟨fun h => absurd h ha, by rw [filter_ne_of_not_any ha']⟩
  removeItems items s _ _ := .ret trivial (by simp only [memRemoveItems_eq]; exact .refl _)

end Pyro.NS
