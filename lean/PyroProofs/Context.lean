/-
  Ownership invariant of the response-annotation dict heap (helper lemmas for PyroProps/C12.lean).
-/
import PyroModel.Context

namespace Pyro.Context

def HeapOK (heap : List Dict) : Prop := ∀ d ∈ heap, ∀ kw ∈ d.keys, kw.2 = d.owner
def PendingOK (s : State) : Prop := ∀ p ∈ s.pending, ∀ dd, s.heap[p.dict]? = some dd → dd.owner = p.rid
def RepliesOK (s : State) : Prop := ∀ r ∈ s.replies, ∀ kw ∈ r.keys, kw.2 = r.rid

/-- owners of existing dict objects never change -/
def OwnersKept (h h' : List Dict) : Prop :=
  ∀ (j : Nat) (dd' : Dict), h'[j]? = some dd' → j < h.length → ∃ dd, h[j]? = some dd ∧ dd.owner = dd'.owner

theorem ownersKept_refl (h : List Dict) : OwnersKept h h := fun _ dd' hj _ => ⟨dd', hj, rfl⟩

theorem ownersKept_trans {a b c : List Dict} (h1 : OwnersKept a b) (h2 : OwnersKept b c) (hl : a.length ≤ b.length) :
    OwnersKept a c := by
  intro j dd' hj hlt
  obtain ⟨dd, hd, ho⟩ := h2 j dd' hj (Nat.lt_of_lt_of_le hlt hl)
  obtain ⟨dd0, hd0, ho0⟩ := h1 j dd hd hlt
  exact ⟨dd0, hd0, by rw [ho0, ho]⟩

theorem mem_snoc {α} {a b : α} {l : List α} (h : a ∈ l ++ [b]) : a ∈ l ∨ a = b :=
  (List.mem_append.mp h).imp_right List.mem_singleton.mp

/-- the dict object `d` of heap `h`, if there is one, belongs to request `rid` -/
def OwnedBy (h : List Dict) (d rid : Nat) : Prop := ∀ dd, h[d]? = some dd → dd.owner = rid

theorem owner_fresh {h : List Dict} {x : Dict} : OwnedBy (h ++ [x]) h.length x.owner := by
  intro dd hdd
  rw [List.getElem?_concat_length] at hdd
  rw [← Option.some.inj hdd]

/-- `h'` is a good heap in which the dict objects of `h` are still there, with their owners -/
def Grows (h h' : List Dict) : Prop := HeapOK h' ∧ OwnersKept h h' ∧ h.length ≤ h'.length

theorem Grows.trans {a b c : List Dict} (h1 : Grows a b) (h2 : Grows b c) : Grows a c :=
  ⟨h2.1, ownersKept_trans h1.2.1 h2.2.1 h1.2.2, Nat.le_trans h1.2.2 h2.2.2⟩

theorem grows_append {h : List Dict} {o : Nat} {ks : List (Nat × Nat)} (hh : HeapOK h) (hk : ∀ kw ∈ ks, kw.2 = o) :
    Grows h (h ++ [⟨o, ks⟩]) := by
  refine ⟨fun d hd => ?_, fun j dd' hj hlt => ?_, by simp⟩
  · rcases mem_snoc hd with hd | rfl
    · exact hh d hd
    · exact hk
  · rw [List.getElem?_append_left hlt] at hj
    exact ⟨dd', hj, rfl⟩

section
variable {h : List Dict} {id : Nat} {keys : List Nat} {w : Nat}

theorem heapWrite_length : (heapWrite h id keys w).length = h.length := by
  unfold heapWrite
  cases h[id]? <;> simp

theorem heapWrite_owner (j : Nat) (dd' : Dict) (hj : (heapWrite h id keys w)[j]? = some dd') :
    ∃ dd, h[j]? = some dd ∧ dd.owner = dd'.owner := by
  unfold heapWrite at hj
  cases hid : h[id]? with
  | none => rw [hid] at hj; exact ⟨dd', hj, rfl⟩
  | some d =>
    rw [hid] at hj
    by_cases he : id = j
    · subst he
      have := (List.getElem?_set_self (List.getElem?_eq_some_iff.mp hid).1).symm.trans hj
      exact ⟨d, hid, by rw [← Option.some.inj this]; rfl⟩
    · exact ⟨dd', (List.getElem?_set_ne he).symm.trans hj, rfl⟩

theorem heapOK_write (hh : HeapOK h) (hown : OwnedBy h id w) : HeapOK (heapWrite h id keys w) := by
  unfold heapWrite
  cases hid : h[id]? with
  | none => exact hh
  | some d =>
    intro d' hd' kw hk
    rcases List.mem_or_eq_of_mem_set hd' with hd' | rfl
    · exact hh d' hd' kw hk
    · rcases List.mem_append.mp hk with hk | hk
      · exact hh d (List.mem_of_getElem? hid) kw hk
      · obtain ⟨k, _, rfl⟩ := List.mem_map.mp hk
        exact (hown d hid).symm

end

theorem keys_of_owned {h : List Dict} {d rid : Nat} (hh : HeapOK h) (hown : OwnedBy h d rid) :
    ∀ kw ∈ (h[d]?.map (·.keys)).getD [], kw.2 = rid := by
  intro kw hk
  cases hd : h[d]? with
  | none => rw [hd] at hk; exact nomatch hk
  | some dd =>
    rw [hd] at hk
    rw [hh dd (List.mem_of_getElem? hd) kw hk]
    exact hown dd hd

section
variable {s : State} {rid d : Nat} {keys : List Nat} {mode : AnnMode}

@[simp] theorem methodWrites_replies : (methodWrites s rid d keys mode).1.replies = s.replies := by cases mode <;> rfl

@[simp] theorem methodWrites_pending : (methodWrites s rid d keys mode).1.pending = s.pending := by cases mode <;> rfl

@[simp] theorem methodWrites_snaps : (methodWrites s rid d keys mode).1.snaps = s.snaps := by cases mode <;> rfl

end

/-- what `methodWrites` guarantees when the dict it starts from is owned by the writing request -/
theorem methodWrites_ok (s : State) (rid d : Nat) (keys : List Nat) (mode : AnnMode) (hh : HeapOK s.heap) (hown : OwnedBy s.heap d rid) :
    Grows s.heap (methodWrites s rid d keys mode).1.heap ∧
    OwnedBy (methodWrites s rid d keys mode).1.heap (methodWrites s rid d keys mode).2 rid := by
  cases mode with
  | mutate =>
    refine ⟨⟨heapOK_write hh hown, fun j dd' hj _ => heapWrite_owner j dd' hj,
      Nat.le_of_eq heapWrite_length.symm⟩, fun dd hdd => ?_⟩
    obtain ⟨dd0, h0, ho⟩ := heapWrite_owner _ _ hdd
    rw [← ho]; exact hown dd0 h0
  | assign =>
    refine ⟨grows_append hh fun kw hk => ?_, owner_fresh⟩
    rcases List.mem_append.mp hk with hk | hk
    · exact keys_of_owned hh hown kw hk
    · obtain ⟨k, _, rfl⟩ := List.mem_map.mp hk
      rfl

end Pyro.Context
