/-
  NSRefine.lean — the generic half of the C14 refinement:
   * results are compared up to the order of dict listings (`Res.Equiv`);
   * the abstract operations preserve the map invariant (`SpecInv`, PyroProofs/NSLists.lean, where the list lemmas
     used here live) and respect permutation of the representation;
   * `StoreOK`: what a storage back-end must guarantee, method by method;
   * `ns_step_refines`: over any such back-end every `NameServer` operation either fails with a storage
     error leaving the represented map untouched, or answers as the abstract map does and moves the
     represented map accordingly.
-/
import PyroModel.NameServer
import PyroProofs.NSLists

namespace Pyro.NS

/-- equal, or both listings with the same entries in a different order -/
def Res.Equiv (r r' : Res) : Prop := r = r' ∨ ∃ a b, r = .listing a ∧ r' = .listing b ∧ a.Perm b

theorem Res.Equiv.rfl' (r : Res) : Res.Equiv r r := .inl rfl

theorem Res.Equiv.of_perm {a b : List Entry} (p : a.Perm b) : Res.Equiv (.listing a) (.listing b) :=
  .inr ⟨a, b, rfl, rfl, p⟩

theorem Res.Equiv.trans {a b c : Res} (h1 : Res.Equiv a b) (h2 : Res.Equiv b c) : Res.Equiv a c := by
  rcases h1 with rfl | ⟨x, y, rfl, rfl, p⟩
  · exact h2
  · rcases h2 with rfl | ⟨x', y', h, rfl, p'⟩
    · exact .of_perm p
    · cases h; exact .of_perm (p.trans p')

theorem Res.Equiv.symm {a b : Res} (h : Res.Equiv a b) : Res.Equiv b a := by
  rcases h with rfl | ⟨x, y, rfl, rfl, p⟩
  · exact .inl rfl
  · exact .of_perm p.symm

/-! ### the abstract operations keep the invariant and do not depend on the order of the representation -/

theorem storedTags_nodup (md : MetaArg) : (storedTags md).Nodup := by
  unfold storedTags; split
  · exact nodup_dedup _
  · exact List.nodup_nil

theorem SpecInv.put {s : Spec} (h : SpecInv s) {e : Entry} (he : e.tags.Nodup) : SpecInv (s.put e) := by
  constructor
  · unfold Spec.put NodupKeys
    rw [List.pairwise_append]
    refine ⟨h.1.filter _, List.pairwise_singleton _ _, ?_⟩
    intro a ha b hb
    have := (List.mem_filter.mp ha).2
    rw [List.mem_singleton.mp hb]
    simpa using this
  · intro a ha
    rcases List.mem_append.mp ha with h1 | h1
    · exact h.2 a (List.mem_filter.mp h1).1
    · rw [List.mem_singleton.mp h1]; exact he

theorem SpecInv.drop {s : Spec} (h : SpecInv s) (v : Str → Bool) : SpecInv (s.drop v) := h.filter _

theorem Spec.put_perm {s s' : Spec} (p : s.Perm s') (e : Entry) : (s.put e).Perm (s'.put e) :=
  (p.filter _).append_right _

theorem Spec.drop_perm {s s' : Spec} (p : s.Perm s') (v : Str → Bool) : (s.drop v).Perm (s'.drop v) :=
  p.filter _

theorem Spec.select_perm {s s' : Spec} (p : s.Perm s') (q : Entry → Bool) (wm : Bool) :
    (s.select q wm).Perm (s'.select q wm) := (p.filter _).map _

/-- The outcomes of one abstract operation on two orderings of one map: same answer (listings up to order), the
    new maps again orderings of one another, the invariant kept. -/
def StepSim (t t' : Res × Spec) : Prop := Res.Equiv t.1 t'.1 ∧ t.2.Perm t'.2 ∧ SpecInv t.2

theorem StepSim.ite {c : Prop} [Decidable c] {a b a' b' : Res × Spec} (h1 : c → StepSim a a') (h2 : ¬c → StepSim b b') :
    StepSim (if c then a else b) (if c then a' else b') := by
  split
  · exact h1 ‹_›
  · exact h2 ‹_›

theorem specStep_sim (env : Env) (op : Op) {s s' : Spec} (p : s.Perm s') (h : SpecInv s) :
    StepSim (specStep env op s) (specStep env op s') := by
  have hget : ∀ n, Spec.get s' n = Spec.get s n := fun n => (find?_perm h.1 p n).symm
  have hhas : ∀ n, Spec.has s' n = Spec.has s n := fun n => (List.Perm.any_eq p).symm
  have same : ∀ r, StepSim (r, s) (r, s') := fun r => ⟨.rfl' _, p, h⟩
  have put : ∀ r e, e.tags.Nodup → StepSim (r, s.put e) (r, s'.put e) := fun r e he => ⟨.rfl' _, Spec.put_perm p e, h.put he⟩
  have sel : ∀ q wm, StepSim (.listing (s.select q wm), s) (.listing (s'.select q wm), s') :=
    fun q wm => ⟨.of_perm (Spec.select_perm p q wm), p, h⟩
  have rm : ∀ m, StepSim (specRemoveWhere m s) (specRemoveWhere m s') :=
    fun m => ⟨.inl (congrArg Res.num (p.filter _).length_eq), Spec.drop_perm p fun n => m n && n != nsName,
      h.drop fun n => m n && n != nsName⟩
  cases op with
  | count => simp only [specStep, p.length_eq]; exact same _
  | lookup n wm =>
    simp only [specStep, hget]
    cases s.get n with
    | none => exact same _
    | some e => exact .ite (fun _ => same _) (fun _ => same _)
  | register n u safe md =>
    simp only [specStep, hhas]
    exact .ite (fun _ => same _) fun _ =>
      .ite (fun _ => same _) fun _ =>
      .ite (fun _ => same _) fun _ =>
      put _ _ (storedTags_nodup md)
  | setMeta n md =>
    simp only [specStep, hget]
    refine .ite (fun _ => same _) fun _ => ?_
    cases s.get n with
    | none => exact same _
    | some e => exact put _ _ (storedTags_nodup md)
  | remove name pfx regex =>
    have hv : s'.nameVictim name = s.nameVictim name := by simp only [Spec.nameVictim, hhas]
    simp only [specStep, hv]
    cases s.nameVictim name with
    | some n => exact ⟨.rfl' _, Spec.drop_perm p (· == n), h.drop (· == n)⟩
    | none =>
      cases truthy? pfx with
      | some q => exact rm _
      | none =>
        cases truthy? regex with
        | some r => exact .ite (fun _ => rm _) (fun _ => same _)
        | none => exact same _
  | list pfx regex wm =>
    simp only [specStep]
    cases truthy? pfx with
    | none =>
      cases truthy? regex with
      | none => exact sel _ _
      | some r => exact .ite (fun _ => sel _ _) (fun _ => same _)
    | some p =>
      cases truthy? regex with
      | none => exact sel _ _
      | some r => exact same _
  | yplookup all any wm =>
    simp only [specStep]
    exact .ite (fun _ => same _) fun _ =>
      .ite (fun _ => .ite (fun _ => same _) fun _ => sel _ _) fun _ =>
      .ite (fun _ => .ite (fun _ => same _) fun _ => sel _ _) fun _ =>
      same _

theorem specStep_inv (env : Env) (op : Op) {s : Spec} (h : SpecInv s) : SpecInv (specStep env op s).2 :=
  (specStep_sim env op (.refl s) h).2.2

/-! ### what a back-end has to guarantee -/

section
variable {σ : Type} (abs : σ → List Entry) (inv : σ → Prop) (F : Prop)

/-- a read-only storage method: the represented map is untouched, a delivered value is `good`;
    `F` says whether storage statements can fail at all -/
def RO {α : Type} (s : σ) (out : Option α × σ) (good : α → Prop) : Prop :=
  abs out.2 = abs s ∧ inv out.2 ∧ (out.1 = none → F) ∧ ∀ a, out.1 = some a → good a

/-- a mutating storage method: on failure the represented map is untouched, else it is `good` -/
def MU {α : Type} (s : σ) (out : Option α × σ) (good : α → List Entry → Prop) : Prop :=
  inv out.2 ∧ (out.1 = none → F ∧ abs out.2 = abs s) ∧ ∀ a, out.1 = some a → good a (abs out.2)

/-- The storage contract: from a state satisfying `inv` that represents a map satisfying `SpecInv`, every method
    behaves as a read-only (`RO`) or mutating (`MU`) access to the represented map `abs s`. -/
structure StoreOK (S : Store σ) : Prop where
  len : ∀ s, inv s → SpecInv (abs s) → RO abs inv F s (S.len s) (fun n => n = (abs s).length)
  contains : ∀ n s, inv s → SpecInv (abs s) → RO abs inv F s (S.contains n s) (fun b => b = (abs s).any (·.name == n))
  getItem : ∀ n s, inv s → SpecInv (abs s) → RO abs inv F s (S.getItem n s) (fun o => o = (abs s).find? (·.name == n))
  iter : ∀ s, inv s → SpecInv (abs s) → RO abs inv F s (S.iter s) (fun l => l.Perm ((abs s).map (·.name)))
  optPrefix : ∀ p wm s, inv s → SpecInv (abs s) →
    RO abs inv F s (S.optPrefix p wm s) (fun o => ∀ l, o = some l → l.Perm (Spec.select (abs s) (fun e => p.isPrefixOf e.name) wm))
  optRegex : ∀ r wm s, inv s → SpecInv (abs s) → RO abs inv F s (S.optRegex r wm s) (fun o => o = none)
  optMeta : ∀ all ts wm s, inv s → SpecInv (abs s) → ts ≠ [] →
    RO abs inv F s (S.optMeta all ts wm s)
      (fun o => ∀ l, o = some l → l.Perm (Spec.select (abs s) (if all then hasAll ts else hasAny ts) wm))
  everything : ∀ wm s, inv s → SpecInv (abs s) →
    RO abs inv F s (S.everything wm s) (fun l => l.Perm ((abs s).map (Entry.strip wm)))
  setItem : ∀ n u t s, inv s → SpecInv (abs s) → t.Nodup →
    MU abs inv F s (S.setItem n u t s) (fun _ l => l.Perm (Spec.put (abs s) ⟨n, u, t⟩))
  delItem : ∀ n s, inv s → SpecInv (abs s) →
    MU abs inv F s (S.delItem n s) (fun b l => ((abs s).any (·.name == n) = true → b = true) ∧ l.Perm ((abs s).filter (fun e => !(e.name == n))))
  removeItems : ∀ items s, inv s → SpecInv (abs s) →
    MU abs inv F s (S.removeItems items s) (fun _ l => l.Perm ((abs s).filter (fun e => !items.contains e.name)))

/-- outcome of a read-only stretch started on the map `A`: map untouched; storage error or the answer `r` -/
def GoodRO (A : List Entry) (r : Res) (out : Res × σ) : Prop :=
  inv out.2 ∧ abs out.2 = A ∧ ((F ∧ out.1 = .err .storage) ∨ Res.Equiv out.1 r)

/-- outcome of a whole operation started on the map `A` whose abstract outcome is `t` -/
def Good (A : List Entry) (t : Res × Spec) (out : Res × σ) : Prop :=
  inv out.2 ∧ ((F ∧ out.1 = .err .storage ∧ abs out.2 = A) ∨ (Res.Equiv out.1 t.1 ∧ (abs out.2).Perm t.2))

variable {abs inv F}

theorem RO.ret {α : Type} {s s1 : σ} {good : α → Prop} {a : α} (hs : abs s1 = abs s) (hi : inv s1) (hg : good a) :
    RO abs inv F s (some a, s1) good :=
  ⟨hs, hi, (fun h => nomatch h), fun _ h => Option.some.inj h ▸ hg⟩

theorem MU.ret {α : Type} {s s1 : σ} {good : α → List Entry → Prop} {a : α} (hi : inv s1) (hg : good a (abs s1)) :
    MU abs inv F s (some a, s1) good :=
  ⟨hi, (fun h => nomatch h), fun _ h => Option.some.inj h ▸ hg⟩

theorem GoodRO.good {A : List Entry} {t : Res × Spec} {out : Res × σ} (h : GoodRO abs inv F A t.1 out) (ht : t.2 = A) :
    Good abs inv F A t out := by
  obtain ⟨h1, h2, h3⟩ := h
  refine ⟨h1, ?_⟩
  rcases h3 with h3 | h3
  · exact .inl ⟨h3.1, h3.2, h2⟩
  · exact .inr ⟨h3, by rw [h2, ht]⟩

/-- a read-only storage call inside a read-only stretch -/
theorem call_roro {α : Type} {m : σ → Option α × σ} {k : α → σ → Res × σ} {s : σ} {good : α → Prop}
    {A : List Entry} {r : Res} (h : RO abs inv F s (m s) good) (hA : abs s = A)
    (hk : ∀ a s1, good a → abs s1 = A → inv s1 → GoodRO abs inv F A r (k a s1)) :
    GoodRO abs inv F A r (call m k s) := by
  unfold call
  obtain ⟨h1, h2, hF, h3⟩ := h
  rcases hm : m s with ⟨o, s1⟩
  rw [hm] at h1 h2 h3 hF
  cases o with
  | none => exact ⟨h2, h1.trans hA, .inl ⟨hF rfl, rfl⟩⟩
  | some a => exact hk a s1 (h3 a rfl) (h1.trans hA) h2

/-- a read-only storage call inside a whole operation -/
theorem call_ro {α : Type} {m : σ → Option α × σ} {k : α → σ → Res × σ} {s : σ} {good : α → Prop}
    {A : List Entry} {t : Res × Spec} (h : RO abs inv F s (m s) good) (hA : abs s = A)
    (hk : ∀ a s1, good a → abs s1 = A → inv s1 → Good abs inv F A t (k a s1)) :
    Good abs inv F A t (call m k s) := by
  unfold call
  obtain ⟨h1, h2, hF, h3⟩ := h
  rcases hm : m s with ⟨o, s1⟩
  rw [hm] at h1 h2 h3 hF
  cases o with
  | none => exact ⟨h2, .inl ⟨hF rfl, rfl, h1.trans hA⟩⟩
  | some a => exact hk a s1 (h3 a rfl) (h1.trans hA) h2

/-- a mutating storage call, the last access of an operation -/
theorem call_mu {α : Type} {m : σ → Option α × σ} {k : α → σ → Res × σ} {s : σ} {good : α → List Entry → Prop}
    {A : List Entry} {t : Res × Spec} (h : MU abs inv F s (m s) good) (hA : abs s = A)
    (hk : ∀ a s1, good a (abs s1) → inv s1 → Good abs inv F A t (k a s1)) :
    Good abs inv F A t (call m k s) := by
  unfold call
  obtain ⟨h1, h2, h3⟩ := h
  rcases hm : m s with ⟨o, s1⟩
  rw [hm] at h1 h2 h3
  cases o with
  | none => exact ⟨h1, .inl ⟨(h2 rfl).1, rfl, (h2 rfl).2.trans hA⟩⟩
  | some a => exact hk a s1 (h3 a rfl) h1

theorem Good.ite {c : Prop} [Decidable c] {A : List Entry} {t t' : Res × Spec} {out out' : Res × σ}
    (h1 : c → Good abs inv F A t out) (h2 : ¬c → Good abs inv F A t' out') :
    Good abs inv F A (if c then t else t') (if c then out else out') := by
  split
  · exact h1 ‹_›
  · exact h2 ‹_›

theorem Good.ret {A : List Entry} (r : Res) {s1 : σ} (hs1 : abs s1 = A) (hi1 : inv s1) :
    Good abs inv F A (r, A) (r, s1) := ⟨hi1, .inr ⟨.rfl' _, by rw [hs1]⟩⟩

/-! ### the listing loop and `NameServer.list` -/

theorem collect_good {S : Store σ} (ok : StoreOK abs inv F S) (pred : Str → Bool) (wm : Bool)
    {A : List Entry} (hA : SpecInv A) :
    ∀ (names : List Str) (s : σ), abs s = A → inv s → (∀ n ∈ names, ∃ e ∈ A, e.name = n) →
      inv (collect S pred wm names s).2 ∧ abs (collect S pred wm names s).2 = A ∧
      ((F ∧ (collect S pred wm names s).1 = .err .storage) ∨
       (collect S pred wm names s).1 =
         .listing ((names.filter pred).filterMap fun n => (A.find? (·.name == n)).map (Entry.strip wm))) := by
  intro names
  induction names with
  | nil => intro s hs hi _; exact ⟨hi, hs, .inr rfl⟩
  | cons n ns ih =>
    intro s hs hi hall
    have hall' : ∀ m ∈ ns, ∃ e ∈ A, e.name = m := fun m hm => hall m (List.mem_cons_of_mem _ hm)
    unfold collect
    by_cases hp : pred n = true
    · rw [if_pos hp]
      obtain ⟨e, heA, hen⟩ := hall n (List.mem_cons_self ..)
      have hfind : A.find? (·.name == n) = some e := by rw [← hen]; exact find?_of_mem hA.1 heA
      obtain ⟨h1, h2, hF, h3⟩ := ok.getItem n s hi (hs ▸ hA)
      rcases hm : S.getItem n s with ⟨o, s1⟩
      rw [hm] at h1 h2 h3 hF
      cases o with
      | none => exact ⟨h2, h1.trans hs, .inl ⟨hF rfl, rfl⟩⟩
      | some o =>
        have := h3 o rfl
        rw [hs, hfind] at this
        subst this
        simp only
        obtain ⟨i1, i2, i3⟩ := ih s1 (h1.trans hs) h2 hall'
        rcases hc : collect S pred wm ns s1 with ⟨r, s2⟩
        rw [hc] at i1 i2 i3
        rcases i3 with ⟨iF, i3⟩ | i3
        · simp only at i3; subst i3; exact ⟨i1, i2, .inl ⟨iF, rfl⟩⟩
        · simp only at i3; subst i3
          refine ⟨i1, i2, .inr ?_⟩
          simp only [List.filter_cons, hp, if_true, List.filterMap_cons, hfind, Option.map_some]
    · rw [if_neg hp, List.filter_cons, if_neg hp]
      exact ih s hs hi hall'

/-- the generic loop `iter` + `collect` gives the abstract selection -/
theorem loop_good {S : Store σ} (ok : StoreOK abs inv F S) (pred : Str → Bool) (wm : Bool)
    {A : List Entry} (hA : SpecInv A) (s : σ) (hs : abs s = A) (hi : inv s) :
    GoodRO abs inv F A (.listing (Spec.select A (fun e => pred e.name) wm))
      (call S.iter (fun names s2 => collect S pred wm names s2) s) := by
  refine call_roro (ok.iter s hi (hs ▸ hA)) hs ?_
  intro names s1 hn hs1 hi1
  rw [hs] at hn
  obtain ⟨i1, i2, i3⟩ := collect_good ok pred wm hA names s1 hs1 hi1 fun n hn' => by
    simpa using hn.mem_iff.mp hn'
  refine ⟨i1, i2, i3.imp id fun h => ?_⟩
  rw [h]
  exact .of_perm (collect_pure hA.1 pred wm hn)

theorem truthy?_some {o : Option Str} {p : Str} (h : truthy? o = some p) : truthy? (some p) = some p := by
  unfold truthy? at h
  split at h
  · cases h; rfl
  · cases h

theorem truthy?_none : truthy? Option.none = Option.none := rfl

theorem nsList_good {S : Store σ} (ok : StoreOK abs inv F S) (env : Env) (pfx regex : Option Str) (wm : Bool)
    {A : List Entry} (hA : SpecInv A) (s : σ) (hs : abs s = A) (hi : inv s) :
    GoodRO abs inv F A (specStep env (.list pfx regex wm) A).1 (nsList S env pfx regex wm s) := by
  unfold nsList
  simp only [specStep]
  split
  · exact ⟨hi, hs, .inr (.rfl' _)⟩
  · refine call_roro (ok.optPrefix _ wm s hi (hs ▸ hA)) hs ?_
    intro o s1 ho hs1 hi1
    cases o with
    | some l => exact ⟨hi1, hs1, .inr (.of_perm (hs ▸ ho l rfl))⟩
    | none => exact loop_good ok _ wm hA s1 hs1 hi1
  · refine call_roro (ok.optRegex _ wm s hi (hs ▸ hA)) hs ?_
    intro o s1 ho hs1 hi1
    subst ho
    simp only
    split
    · exact loop_good ok _ wm hA s1 hs1 hi1
    · exact ⟨hi1, hs1, .inr (.rfl' _)⟩
  · refine call_roro (ok.everything wm s hi (hs ▸ hA)) hs ?_
    intro l s1 hl hs1 hi1
    refine ⟨hi1, hs1, .inr (.of_perm ?_)⟩
    rw [hs] at hl
    have : A.filter (fun _ => true) = A := List.filter_eq_self.mpr (fun _ _ => rfl)
    simpa [Spec.select, this] using hl

/-- a listing answered by the plain map's `list` is a selection of the map -/
theorem spec_list_is_select (env : Env) (p r : Option Str) (wm : Bool) (A : Spec) {b : List Entry}
    (h : (specStep env (.list p r wm) A).1 = .listing b) : ∃ q, b = Spec.select A q wm := by
  simp only [specStep] at h
  split at h
  · cases h
  · cases h; exact ⟨_, rfl⟩
  · split at h
    · cases h; exact ⟨_, rfl⟩
    · cases h
  · cases h; exact ⟨_, rfl⟩

/-! ### removal of a listed set -/

theorem mem_items_iff {A l : List Entry} {q : Str → Bool} (hl : l.Perm (Spec.select A (fun e => q e.name) false))
    {e : Entry} (he : e ∈ A) :
    ((l.map (·.name)).filter (· != nsName)).contains e.name = (q e.name && e.name != nsName) := by
  rw [Bool.eq_iff_iff, List.contains_iff_mem, List.mem_filter, List.mem_map, Bool.and_eq_true]
  constructor
  · rintro ⟨⟨e', he', hn⟩, h2⟩
    refine ⟨?_, h2⟩
    have := hl.mem_iff.mp he'
    simp only [Spec.select, List.mem_map, List.mem_filter] at this
    obtain ⟨e'', ⟨_, hq''⟩, rfl⟩ := this
    rw [strip_name] at hn
    rw [← hn]; exact hq''
  · rintro ⟨h1, h2⟩
    refine ⟨⟨e.strip false, ?_, strip_name _ _⟩, h2⟩
    apply hl.mem_iff.mpr
    simp only [Spec.select, List.mem_map, List.mem_filter]
    exact ⟨e, ⟨he, h1⟩, rfl⟩

theorem items_length {A l : List Entry} {q : Entry → Bool} (hl : l.Perm (Spec.select A q false)) :
    ((l.map (·.name)).filter (· != nsName)).length = (A.filter (fun e => q e && e.name != nsName)).length := by
  have h1 : ((l.map (·.name)).filter (· != nsName)).Perm ((((A.filter q).map (Entry.strip false)).map (·.name)).filter (· != nsName)) :=
    ((hl.map _).filter _)
  rw [h1.length_eq, List.map_map, List.filter_map, List.length_map, List.filter_filter]
  congr 1
  apply List.filter_congr
  intro x _
  simp only [Function.comp, strip_name, Bool.and_comm]

theorem Res.Equiv.listing_right {r : Res} {b : List Entry} (h : Res.Equiv r (.listing b)) :
    ∃ a, r = .listing a ∧ a.Perm b := by
  rcases h with rfl | ⟨a, b', rfl, hb, hab⟩
  · exact ⟨b, rfl, .refl _⟩
  · cases hb; exact ⟨a, rfl, hab⟩

theorem Res.Equiv.err_right {r : Res} {e : Err} (h : Res.Equiv r (.err e)) : r = .err e := by
  rcases h with rfl | ⟨a, b', rfl, hb, hab⟩
  · rfl
  · cases hb

theorem removeItems_good {S : Store σ} (ok : StoreOK abs inv F S) {A : List Entry} (hA : SpecInv A)
    (q : Str → Bool) {l : List Entry} (hl : l.Perm (Spec.select A (fun e => q e.name) false))
    (s1 : σ) (hs1 : abs s1 = A) (hi1 : inv s1) :
    Good abs inv F A (specRemoveWhere q A)
      (call (S.removeItems ((l.map (·.name)).filter (· != nsName)))
        (fun _ s2 => (Res.num ((l.map (·.name)).filter (· != nsName)).length, s2)) s1) := by
  refine call_mu (ok.removeItems _ s1 hi1 (hs1 ▸ hA)) hs1 ?_
  intro _ s2 hg hi2
  refine ⟨hi2, .inr ⟨?_, ?_⟩⟩
  · unfold specRemoveWhere
    simp only
    rw [items_length hl]
    exact .rfl' _
  · refine hg.trans ?_
    unfold specRemoveWhere Spec.drop
    simp only
    rw [hs1]
    have : ∀ e ∈ A, (!((l.map (·.name)).filter (· != nsName)).contains e.name)
        = !(q e.name && e.name != nsName) := by
      intro e he
      rw [mem_items_iff hl he]
    rw [List.filter_congr this]

/-- `remove` by prefix or regex: list, then `remove_items`.  `hspec`: the plain map's `list` answers a selection by
    name (then the selected names go, bar the name server's) or an error (passed on). -/
theorem nsRemoveListed_good {S : Store σ} (ok : StoreOK abs inv F S) (env : Env) (pfx regex : Option Str)
    {A : List Entry} (hA : SpecInv A) (s : σ) (hs : abs s = A) (hi : inv s) {t : Res × Spec}
    (hspec : (∃ q : Str → Bool, (specStep env (.list pfx regex false) A).1 =
          .listing (Spec.select A (fun e => q e.name) false) ∧ t = specRemoveWhere q A) ∨
        ∃ e, (specStep env (.list pfx regex false) A).1 = .err e ∧ t = (.err e, A)) :
    Good abs inv F A t (nsRemoveListed S env pfx regex s) := by
  unfold nsRemoveListed
  obtain ⟨i1, i2, i3⟩ := nsList_good ok env pfx regex false hA s hs hi
  rcases hc : nsList S env pfx regex false s with ⟨r, s1⟩
  rw [hc] at i1 i2 i3
  simp only at i1 i2 i3
  rcases i3 with ⟨iF, rfl⟩ | i3
  · exact ⟨i1, .inl ⟨iF, rfl, i2⟩⟩
  · rcases hspec with ⟨q, hq, rfl⟩ | ⟨e, he, rfl⟩
    · rw [hq] at i3
      obtain ⟨a, rfl, ha⟩ := i3.listing_right
      exact removeItems_good ok hA q ha s1 i2 i1
    · rw [he] at i3
      rw [i3.err_right]
      exact .ret _ i2 i1

/-! ### yplookup -/

theorem MetaArg.tags_ne_nil {arg : MetaArg} (ht : arg.truthy = true) (hstr : arg.isStr = false) : arg.tags ≠ [] := by
  cases arg with
  | none => cases ht
  | str b => cases hstr
  | list l => cases l <;> simp_all [MetaArg.truthy, MetaArg.tags]

theorem nsYp_good {S : Store σ} (ok : StoreOK abs inv F S) (all : Bool) (arg : MetaArg) (wm : Bool)
    {A : List Entry} (hA : SpecInv A) (s : σ) (hs : abs s = A) (hi : inv s) (ht : arg.truthy = true) :
    Good abs inv F A
      (if arg.isStr then (.err .type, A)
       else (.listing (Spec.select A (if all then hasAll arg.tags else hasAny arg.tags) wm), A))
      (nsYp S all arg wm s) := by
  unfold nsYp
  by_cases hstr : arg.isStr = true
  · rw [if_pos hstr, if_pos hstr]; exact .ret _ hs hi
  · rw [if_neg hstr, if_neg hstr]
    refine GoodRO.good (call_roro (ok.optMeta all arg.tags wm s hi (hs ▸ hA) (arg.tags_ne_nil ht (by simpa using hstr))) hs ?_) rfl
    intro o s1 ho hs1 hi1
    cases o with
    | some l => exact ⟨hi1, hs1, .inr (.of_perm (hs ▸ ho l rfl))⟩
    | none =>
      refine call_roro (ok.everything true s1 hi1 (hs1 ▸ hA)) hs1 ?_
      intro l s2 hl hs2 hi2
      refine ⟨hi2, hs2, .inr (.of_perm ?_)⟩
      rw [hs1, map_strip_true] at hl
      exact (hl.filter _).map _

/-! ### every operation -/

theorem ns_step_refines {S : Store σ} (ok : StoreOK abs inv F S) (env : Env) (op : Op) (s : σ)
    (hi : inv s) (hs : SpecInv (abs s)) :
    Good abs inv F (abs s) (specStep env op (abs s)) (nsStep S env op s) := by
  -- `storage[n] = uri, tags` from a state representing the same map
  have set : ∀ n u md s1, abs s1 = abs s → inv s1 →
      Good abs inv F (abs s) (.none, Spec.put (abs s) ⟨n, u, storedTags md⟩)
        (call (S.setItem n u (storedTags md)) (fun _ s2 => (.none, s2)) s1) := by
    intro n u md s1 hs1 hi1
    refine call_mu (ok.setItem n u _ s1 hi1 (hs1 ▸ hs) (storedTags_nodup md)) hs1 ?_
    intro _ s2 hg hi2
    exact ⟨hi2, .inr ⟨.rfl' _, hs1 ▸ hg⟩⟩
  cases op with
  | count =>
    simp only [nsStep, specStep]
    refine call_ro (ok.len s hi hs) rfl ?_
    intro n s1 hn hs1 hi1
    subst hn
    exact .ret _ hs1 hi1
  | lookup n wm =>
    simp only [nsStep, specStep, Spec.get]
    refine call_ro (ok.getItem n s hi hs) rfl ?_
    intro o s1 ho hs1 hi1
    subst ho
    cases (abs s).find? (·.name == n) with
    | none => exact .ret _ hs1 hi1
    | some e => exact .ite (fun _ => .ret _ hs1 hi1) (fun _ => .ret _ hs1 hi1)
  | register n u safe md =>
    simp only [nsStep, specStep]
    refine .ite (fun _ => .ret _ rfl hi) fun _ => .ite (fun _ => .ret _ rfl hi) fun _ => ?_
    cases safe with
    | true =>
      simp only [if_true, Bool.true_and, Spec.has]
      refine call_ro (ok.contains n s hi hs) rfl ?_
      intro b s1 hb hs1 hi1
      subst hb
      exact .ite (fun _ => .ret _ hs1 hi1) fun _ => set n u md s1 hs1 hi1
    | false =>
      simp only [Bool.false_eq_true, if_false, Bool.false_and]
      exact set n u md s rfl hi
  | setMeta n md =>
    simp only [nsStep, specStep, Spec.get]
    refine .ite (fun _ => .ret _ rfl hi) fun _ => ?_
    refine call_ro (ok.getItem n s hi hs) rfl ?_
    intro o s1 ho hs1 hi1
    subst ho
    cases (abs s).find? (·.name == n) with
    | none => exact .ret _ hs1 hi1
    | some e => exact set n e.uri md s1 hs1 hi1
  | remove name pfx regex =>
    -- the prefix / regex tail, from any state representing the same map
    have rest : ∀ s1, abs s1 = abs s → inv s1 →
        Good abs inv F (abs s) (specStep env (.remove Option.none pfx regex) (abs s))
          (nsStep S env (.remove Option.none pfx regex) s1) := by
      intro s1 hs1 hi1
      simp only [nsStep, specStep, Spec.nameVictim, truthy?_none]
      cases hp : truthy? pfx with
      | some p =>
        refine nsRemoveListed_good ok env (some p) Option.none hs s1 hs1 hi1 (.inl ⟨_, ?_, rfl⟩)
        simp only [specStep, truthy?_some hp, truthy?_none]
      | none =>
        cases hr : truthy? regex with
        | some r =>
          by_cases hok : env.reOk r = true
          · simp only [hok, if_true]
            refine nsRemoveListed_good ok env Option.none (some r) hs s1 hs1 hi1 (.inl ⟨_, ?_, rfl⟩)
            simp only [specStep, truthy?_some hr, truthy?_none, hok, if_true]
          · simp only [hok]
            refine nsRemoveListed_good ok env Option.none (some r) hs s1 hs1 hi1 (.inr ⟨.naming, ?_, rfl⟩)
            simp only [specStep, truthy?_some hr, truthy?_none, hok]
            rfl
        | none => exact .ret _ hs1 hi1
    simp only [nsStep, specStep, Spec.nameVictim, truthy?_none] at rest ⊢
    cases truthy? name with
    | none => exact rest s rfl hi
    | some n =>
      refine call_ro (ok.contains n s hi hs) rfl ?_
      intro b s1 hb hs1 hi1
      have hb' : b = Spec.has (abs s) n := hb
      subst hb'
      simp only []
      by_cases hc : (Spec.has (abs s) n && n != nsName) = true
      · rw [if_pos hc, if_pos hc]
        refine call_mu (ok.delItem n s1 hi1 (hs1 ▸ hs)) hs1 ?_
        intro b s2 hg hi2
        rw [hs1] at hg
        have hb : b = true := hg.1 ((Bool.and_eq_true _ _).mp hc).1
        subst hb
        exact ⟨hi2, .inr ⟨.rfl' _, hg.2⟩⟩
      · rw [if_neg hc, if_neg hc]
        exact rest s1 hs1 hi1
  | list pfx regex wm =>
    have h2 : (specStep env (.list pfx regex wm) (abs s)).2 = abs s := by
      simp only [specStep]
      cases truthy? pfx with
      | some p => cases truthy? regex <;> rfl
      | none =>
        cases truthy? regex with
        | none => rfl
        | some r =>
          simp only []
          cases env.reOk r <;> rfl
    exact (nsList_good ok env pfx regex wm hs s rfl hi).good h2
  | yplookup all any wm =>
    simp only [nsStep, specStep]
    exact .ite (fun _ => .ret _ rfl hi) fun _ =>
      .ite (fun h => nsYp_good ok true all wm hs s rfl hi h) fun _ =>
      .ite (fun h => nsYp_good ok false any wm hs s rfl hi h) fun _ =>
      .ret _ rfl hi

end

end Pyro.NS
