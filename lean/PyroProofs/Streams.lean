/-
  Lemmas about the stream table (PyroModel/Streams.lean): association-list facts, the operations equation by
  equation, the history invariant `Inv` (every live stream's replies so far ++ what its iterator still holds = its
  source) and its preservation by every operation; then what the C10 theorems use: the reply to `next`, forgotten
  streams, the conditions of forgetting, quiescence, the client side as a refinement (`Ref`), expiry (`TInv`).
-/
import PyroModel.Streams

namespace Pyro.Streams

/-! ### association list -/

def Table.keys (t : Table) : List Nat := t.map (·.1)

theorem get_cons (k : Nat) (e : Entry) (r : Table) (id : Nat) :
    Table.get ((k, e) :: r) id = if k = id then some e else Table.get r id := rfl

theorem get_none_iff (t : Table) (id : Nat) : t.get id = none ↔ id ∉ t.keys := by
  induction t with
  | nil => simp [Table.get, Table.keys]
  | cons p r ih => grind [Table.get, Table.keys]

theorem mem_of_get {t : Table} {id : Nat} {e : Entry} (h : t.get id = some e) : (id, e) ∈ t := by
  induction t with
  | nil => nomatch h
  | cons p r ih => grind [Table.get]

theorem get_of_mem {t : Table} {id : Nat} {e : Entry} (hnd : t.keys.Nodup) (h : (id, e) ∈ t) :
    t.get id = some e := by
  induction t with
  | nil => nomatch h
  | cons p r ih =>
    obtain ⟨k, w⟩ := p
    rw [Table.keys, List.map_cons, List.nodup_cons] at hnd
    rw [get_cons]
    rcases List.mem_cons.mp h with h | h
    · cases h; exact if_pos rfl
    · have hne : k ≠ id := fun hk => hnd.1 (List.mem_map.mpr ⟨(id, e), h, hk.symm⟩)
      rw [if_neg hne]
      exact ih hnd.2 h

theorem get_filter_none (t : Table) (q : Nat × Entry → Bool) (id : Nat) (h : t.get id = none) :
    Table.get (t.filter q) id = none := by
  rw [get_none_iff] at h ⊢
  intro hm
  obtain ⟨p, hp, hk⟩ := List.mem_map.mp hm
  exact h (List.mem_map.mpr ⟨p, (List.mem_filter.mp hp).1, hk⟩)

theorem get_erase (t : Table) (id id' : Nat) : (t.erase id).get id' = if id' = id then none else t.get id' := by
  induction t with
  | nil => simp [Table.erase, Table.get]
  | cons p r ih => grind [Table.erase, Table.get]

theorem get_erase_self (t : Table) (id : Nat) : (t.erase id).get id = none := by
  rw [get_erase, if_pos rfl]

theorem get_erase_ne (t : Table) {id id' : Nat} (h : id' ≠ id) : (t.erase id).get id' = t.get id' := by
  rw [get_erase, if_neg h]

theorem erase_of_not_mem (t : Table) (id : Nat) (h : id ∉ t.keys) : t.erase id = t :=
  List.filter_eq_self.mpr fun p hp => decide_eq_true fun hk => h (List.mem_map.mpr ⟨p, hp, hk⟩)

theorem get_set (t : Table) (id id' : Nat) (e : Entry) :
    (t.set id e).get id' = if id' = id then some e else t.get id' := by
  induction t with
  | nil => simp [Table.set, Table.get, eq_comm]
  | cons p r ih => grind [Table.set, Table.get]

theorem get_set_self (t : Table) (id : Nat) (e : Entry) : (t.set id e).get id = some e := by
  rw [get_set, if_pos rfl]

theorem get_set_ne (t : Table) {id id' : Nat} (e : Entry) (h : id' ≠ id) : (t.set id e).get id' = t.get id' := by
  rw [get_set, if_neg h]

theorem mem_set_sub {t : Table} {id : Nat} {e : Entry} {p : Nat × Entry} (h : p ∈ Table.set t id e) : p ∈ t ∨ p = (id, e) := by
  induction t with
  | nil => simpa [Table.set] using h
  | cons q r ih => grind [Table.set]

theorem nodup_set (t : Table) (id : Nat) (e : Entry) (hnd : t.keys.Nodup) : (t.set id e).keys.Nodup := by
  induction t with
  | nil => exact List.nodup_cons.mpr ⟨List.not_mem_nil, List.nodup_nil⟩
  | cons p r ih =>
    obtain ⟨k, w⟩ := p
    rw [Table.keys, List.map_cons, List.nodup_cons] at hnd
    rw [Table.set]
    by_cases hk : k = id
    · rw [if_pos hk, Table.keys, List.map_cons, List.nodup_cons]
      exact hk ▸ hnd
    · rw [if_neg hk, Table.keys, List.map_cons, List.nodup_cons]
      refine ⟨?_, ih hnd.2⟩
      show k ∉ Table.keys (Table.set r id e)
      rw [← get_none_iff, get_set_ne _ _ hk, get_none_iff]
      exact hnd.1

theorem nodup_filter (t : Table) (q : Nat × Entry → Bool) (hnd : t.keys.Nodup) : (Table.keys (t.filter q)).Nodup :=
  List.Nodup.sublist (List.Sublist.map _ List.filter_sublist) hnd

theorem nodup_erase (t : Table) (id : Nat) (hnd : t.keys.Nodup) : (Table.keys (t.erase id)).Nodup :=
  nodup_filter t _ hnd

theorem keys_mapVal (t : Table) (g : Entry → Entry) : Table.keys (t.map fun p => (p.1, g p.2)) = t.keys :=
  List.map_map.trans rfl

theorem get_mapVal (t : Table) (g : Entry → Entry) (id : Nat) :
    Table.get (t.map fun p => (p.1, g p.2)) id = (t.get id).map g := by
  induction t with
  | nil => rfl
  | cons p r ih => grind [Table.get]

/-- filtering on the entry: a key survives iff its entry passes -/
theorem get_filterVal (t : Table) (q : Entry → Bool) (id : Nat) (hnd : t.keys.Nodup) :
    Table.get (t.filter fun p => q p.2) id = (t.get id).filter q := by
  induction t with
  | nil => rfl
  | cons p r ih =>
    obtain ⟨k, w⟩ := p
    rw [Table.keys, List.map_cons, List.nodup_cons] at hnd
    rw [List.filter_cons, get_cons]
    by_cases hk : k = id
    · rw [if_pos hk, Option.filter_some]
      cases hq : q w
      · rw [if_neg Bool.false_ne_true, if_neg Bool.false_ne_true]
        exact get_filter_none r _ id ((get_none_iff r id).mpr (hk ▸ hnd.1))
      · rw [if_pos rfl, if_pos rfl, get_cons, if_pos hk]
    · rw [if_neg hk, ← ih hnd.2]
      cases q w
      · rw [if_neg Bool.false_ne_true]
      · rw [if_pos rfl, get_cons, if_neg hk]

/-- `_sub`: an entry of the smaller table is an entry of the table it was made from (what `inv_shrink` asks for) -/
theorem get_filterVal_sub (t : Table) (q : Entry → Bool) (hnd : t.keys.Nodup) (id : Nat) (e' : Entry)
    (h : Table.get (t.filter fun p => q p.2) id = some e') : t.get id = some e' ∧ q e' = true := by
  rw [get_filterVal t q id hnd] at h
  exact Option.filter_eq_some_iff.mp h

/-! ### the operations, equation by equation -/

/-- `get_next_stream_item` re-associates a stream without owner with the calling connection (the `e1` of `doNext`) -/
@[reducible] def Entry.claim (conn : Nat) (e : Entry) : Entry :=
  if e.owner.isNone then { e with owner := some conn, linger := 0 } else e

theorem claim_rest (conn : Nat) (e : Entry) : (e.claim conn).rest = e.rest := by
  unfold Entry.claim; split <;> rfl

theorem doNext_none {st : State} {id : Nat} (conn : Nat) (hg : st.table.get id = none) :
    doNext st id conn = (st, .terminated) := by
  unfold doNext; rw [hg]

theorem doNext_nil {st : State} {id : Nat} {e : Entry} (conn : Nat) (hg : st.table.get id = some e) (hr : e.rest = []) :
    doNext st id conn = ({ st with table := st.table.erase id }, .stop) := by
  unfold doNext
  rw [hg]
  dsimp only
  rw [(claim_rest conn e).trans hr]

theorem doNext_val {st : State} {id : Nat} {e : Entry} {v : Nat} {tl : List Item} (conn : Nat)
    (hg : st.table.get id = some e) (hr : e.rest = .val v :: tl) :
    doNext st id conn = ({ st with table := st.table.set id { e.claim conn with rest := tl } }, .item v) := by
  unfold doNext
  rw [hg]
  dsimp only
  rw [(claim_rest conn e).trans hr]

theorem doNext_raises {st : State} {id : Nat} {e : Entry} {x : Nat} {tl : List Item} (conn : Nat)
    (hg : st.table.get id = some e) (hr : e.rest = .raises x :: tl) :
    doNext st id conn = ({ st with table := st.table.erase id }, .raised x) := by
  unfold doNext
  rw [hg]
  dsimp only
  rw [(claim_rest conn e).trans hr]

theorem doNext_other {st : State} {id id' : Nat} (conn : Nat) (hne : id ≠ id') :
    (doNext st id' conn).1.table.get id = st.table.get id := by
  cases hg : st.table.get id' with
  | none => rw [doNext_none conn hg]
  | some e =>
    cases hr : e.rest with
    | nil => rw [doNext_nil conn hg hr]; exact get_erase_ne _ hne
    | cons it tl =>
      cases it with
      | val v => rw [doNext_val conn hg hr]; exact get_set_ne _ _ hne
      | raises x => rw [doNext_raises conn hg hr]; exact get_erase_ne _ hne

theorem doOpen_iter (cfg : Settings) (st : State) (conn : Nat) (items : List Item) :
    doOpen cfg st conn (.iter items) =
      if cfg.streaming then
        ({ st with table := st.table.set st.nextId { owner := some conn, created := st.now, linger := 0, rest := items },
                   nextId := st.nextId + 1 }, .stream st.nextId)
      else (st, .noStream) := rfl

theorem doClose_eq (st : State) (id : Nat) : doClose st id = { st with table := st.table.erase id } := by
  unfold doClose
  cases hg : st.table.get id with
  | none => rw [erase_of_not_mem _ _ ((get_none_iff _ _).mp hg)]
  | some e => rfl

theorem filter_if {α : Type} (c : Prop) [Decidable c] (t : List α) (q : α → Bool) :
    (if c then t.filter (fun p => !q p) else t) = t.filter fun p => !(decide c && q p) := by
  by_cases h : c
  · rw [if_pos h, decide_eq_true h]; rfl
  · rw [if_neg h, decide_eq_false h]; exact (List.filter_eq_self.mpr fun _ _ => rfl).symm

/-- a housekeeping pass at clock `now` removes it: past a configured lifetime, or lingering past a configured period -/
def expired (cfg : Settings) (now : Nat) (e : Entry) : Bool :=
  (decide (0 < cfg.lifetime) && lifeExpired cfg now e) || (decide (0 < cfg.linger) && lingerExpired cfg now e)

/-- the emptiness test in front of the two loops changes nothing -/
theorem doHousekeeping_eq (cfg : Settings) (st : State) :
    doHousekeeping cfg st = { st with table := st.table.filter fun p => !expired cfg st.now p.2 } := by
  obtain ⟨t, now, nextId⟩ := st
  cases t with
  | nil => rfl
  | cons p r =>
    show ({ table := if 0 < cfg.linger then
              (if 0 < cfg.lifetime then (p :: r).filter (fun p => !lifeExpired cfg now p.2) else p :: r).filter
                (fun p => !lingerExpired cfg now p.2)
            else if 0 < cfg.lifetime then (p :: r).filter (fun p => !lifeExpired cfg now p.2) else p :: r,
            now := now, nextId := nextId } : State) = _
    rw [filter_if (0 < cfg.lifetime), filter_if (0 < cfg.linger), List.filter_filter]
    have hq : ∀ e, (!(decide (0 < cfg.linger) && lingerExpired cfg now e) &&
        !(decide (0 < cfg.lifetime) && lifeExpired cfg now e)) = !expired cfg now e := fun e => by
      unfold expired; rw [Bool.not_or, Bool.and_comm]
    exact congrArg (fun q => State.mk ((p :: r).filter q) now nextId) (funext fun p => hq p.2)

/-! ### events -/

theorem source_append (id : Nat) (a b : List Event) : source id (a ++ b) = source id a ++ source id b :=
  List.flatMap_append

theorem delivered_append (id : Nat) (a b : List Event) : delivered id (a ++ b) = delivered id a ++ delivered id b :=
  List.flatMap_append

theorem source_snoc (id : Nat) (ev : List Event) (x : Event) : source id (ev ++ [x]) = source id ev ++ srcOf id x := by
  rw [source_append]; exact congrArg _ (List.append_nil _)

theorem delivered_snoc (id : Nat) (ev : List Event) (x : Event) :
    delivered id (ev ++ [x]) = delivered id ev ++ delOf id x := by
  rw [delivered_append]; exact congrArg _ (List.append_nil _)

theorem exec_append (cfg : Settings) (st : State) (a b : List Op) :
    exec cfg st (a ++ b) = ((exec cfg (exec cfg st a).1 b).1, (exec cfg st a).2 ++ (exec cfg (exec cfg st a).1 b).2) := by
  induction a generalizing st with
  | nil => rfl
  | cons op ops ih => rw [List.cons_append, exec, ih]; rfl

/-! ### the history invariant -/

/-- `nodup`: no id twice in the table; `live`: a remembered stream's replies so far ++ what its iterator holds = its source; `pre`: for every id, also a
    forgotten one, the replies are a prefix of the source; `fresh`: an id at or above the counter has no past -/
structure Inv (st : State) (ev : List Event) : Prop where
  nodup : st.table.keys.Nodup
  live : ∀ id e, st.table.get id = some e → delivered id ev ++ e.rest = source id ev
  pre : ∀ id, delivered id ev <+: source id ev
  fresh : ∀ id, st.nextId ≤ id → st.table.get id = none ∧ source id ev = [] ∧ delivered id ev = []

theorem inv_init (t0 : Nat) : Inv (State.init t0) [] :=
  ⟨List.nodup_nil, fun _ _ h => (nomatch h), fun _ => List.prefix_refl _, fun _ _ => ⟨rfl, rfl, rfl⟩⟩

/-- operations that only drop entries or rewrite their owner / linger fields, and hand nothing out -/
theorem inv_shrink {st st' : State} {ev : List Event} {x : Event} (h : Inv st ev)
    (hnd : st'.table.keys.Nodup) (hid : st'.nextId = st.nextId)
    (hsub : ∀ id e', st'.table.get id = some e' → ∃ e, st.table.get id = some e ∧ e.rest = e'.rest)
    (hsrc : ∀ id, srcOf id x = []) (hdel : ∀ id, delOf id x = []) : Inv st' (ev ++ [x]) := by
  have hs : ∀ id, source id (ev ++ [x]) = source id ev := fun id => by
    rw [source_snoc, hsrc, List.append_nil]
  have hd : ∀ id, delivered id (ev ++ [x]) = delivered id ev := fun id => by
    rw [delivered_snoc, hdel, List.append_nil]
  refine { nodup := hnd, live := fun id e' he' => ?_, pre := fun id => ?_, fresh := fun id hle => ?_ }
  · obtain ⟨e, he, hr⟩ := hsub id e' he'
    rw [hs, hd, ← hr]
    exact h.live id e he
  · rw [hs, hd]
    exact h.pre id
  · rw [hs, hd]
    obtain ⟨h1, h23⟩ := h.fresh id (hid ▸ hle)
    refine ⟨?_, h23⟩
    cases hg : st'.table.get id with
    | none => rfl
    | some e' =>
      obtain ⟨e, he, _⟩ := hsub id e' hg
      rw [h1] at he; cases he

/-- an operation that touches the one stream `id₀` (opens it, or hands out its next item), after which it holds
    `rest'` if it is still there -/
theorem inv_touch {st st' : State} {ev : List Event} {x : Event} (id₀ : Nat) (rest' : List Item) (h : Inv st ev)
    (hnd : st'.table.keys.Nodup) (hid : st.nextId ≤ st'.nextId) (hlt : id₀ < st'.nextId)
    (hget : ∀ id, id ≠ id₀ → st'.table.get id = st.table.get id)
    (hsrc : ∀ id, id ≠ id₀ → srcOf id x = []) (hdel : ∀ id, id ≠ id₀ → delOf id x = [])
    (heq : delivered id₀ ev ++ delOf id₀ x ++ rest' = source id₀ ev ++ srcOf id₀ x)
    (hrest : ∀ e', st'.table.get id₀ = some e' → e'.rest = rest') : Inv st' (ev ++ [x]) := by
  have hs : ∀ id, id ≠ id₀ → source id (ev ++ [x]) = source id ev := fun id hne => by
    rw [source_snoc, hsrc id hne, List.append_nil]
  have hd : ∀ id, id ≠ id₀ → delivered id (ev ++ [x]) = delivered id ev := fun id hne => by
    rw [delivered_snoc, hdel id hne, List.append_nil]
  refine { nodup := hnd, live := fun id e' he' => ?_, pre := fun id => ?_, fresh := fun id hle => ?_ }
  · by_cases hne : id = id₀
    · subst hne
      rw [source_snoc, delivered_snoc, hrest e' he']
      exact heq
    · rw [hs id hne, hd id hne]
      exact h.live id e' (hget id hne ▸ he')
  · by_cases hne : id = id₀
    · subst hne
      rw [source_snoc, delivered_snoc]
      exact ⟨rest', heq⟩
    · rw [hs id hne, hd id hne]
      exact h.pre id
  · have hne : id ≠ id₀ := fun h2 => Nat.lt_irrefl _ (Nat.lt_of_lt_of_le (h2 ▸ hlt) hle)
    rw [hs id hne, hd id hne, hget id hne]
    exact h.fresh id (Nat.le_trans hid hle)

theorem get_erase_sub (t : Table) (id id' : Nat) (e' : Entry) (h : (t.erase id).get id' = some e') :
    ∃ e, t.get id' = some e ∧ e.rest = e'.rest := by
  rw [get_erase] at h
  split at h
  · cases h
  · exact ⟨e', h, rfl⟩

theorem lingerIf_rest (conn now : Nat) (e : Entry) : (e.lingerIf conn now).rest = e.rest := by
  unfold Entry.lingerIf; split <;> rfl

theorem lt_nextId {st : State} {ev : List Event} (h : Inv st ev) {id : Nat} {e : Entry} (hg : st.table.get id = some e) :
    id < st.nextId :=
  Nat.lt_of_not_le fun hle => nomatch hg.symm.trans (h.fresh id hle).1

theorem inv_step (cfg : Settings) (st : State) (ev : List Event) (op : Op) (h : Inv st ev) :
    Inv (step cfg st op).1 (ev ++ [(op, (step cfg st op).2)]) := by
  have keep : ∀ id e', st.table.get id = some e' → ∃ e, st.table.get id = some e ∧ e.rest = e'.rest :=
    fun _ e' he' => ⟨e', he', rfl⟩
  cases op with
  | tick dt => exact inv_shrink h h.nodup rfl keep (fun _ => rfl) (fun _ => rfl)
  | housekeeping =>
    show Inv (doHousekeeping cfg st) _
    rw [doHousekeeping_eq]
    exact inv_shrink h (nodup_filter _ _ h.nodup) rfl
      (fun id e' he' => ⟨e', (get_filterVal_sub _ (fun e => !expired cfg st.now e) h.nodup id e' he').1, rfl⟩)
      (fun _ => rfl) (fun _ => rfl)
  | disconnect conn =>
    show Inv (doDisconnect cfg st conn) _
    unfold doDisconnect
    split
    · refine inv_shrink h ((keys_mapVal _ _).symm ▸ h.nodup) rfl (fun id e' he' => ?_) (fun _ => rfl) (fun _ => rfl)
      obtain ⟨e, he, rfl⟩ := Option.map_eq_some_iff.mp ((get_mapVal _ _ id).symm.trans he')
      exact ⟨e, he, (lingerIf_rest conn st.now e).symm⟩
    · exact inv_shrink h (nodup_filter _ _ h.nodup) rfl
        (fun id e' he' => ⟨e', (get_filterVal_sub _ (fun e => decide (e.owner ≠ some conn)) h.nodup id e' he').1, rfl⟩)
        (fun _ => rfl) (fun _ => rfl)
  | close id =>
    show Inv (doClose st id) _
    rw [doClose_eq]
    exact inv_shrink h (nodup_erase _ _ h.nodup) rfl (get_erase_sub _ _) (fun _ => rfl) (fun _ => rfl)
  | «open» conn d =>
    cases d with
    | plain => exact inv_shrink h h.nodup rfl keep (fun _ => rfl) (fun _ => rfl)
    | iter items =>
      show Inv (doOpen cfg st conn (.iter items)).1 (ev ++ [(_, (doOpen cfg st conn (.iter items)).2)])
      rw [doOpen_iter]
      split
      · obtain ⟨_, hs, hd⟩ := h.fresh st.nextId (Nat.le_refl _)
        refine inv_touch st.nextId items h (nodup_set _ _ _ h.nodup) (Nat.le_succ _) (Nat.lt_succ_self _)
          (hget := fun _ hne => get_set_ne _ _ hne) (hsrc := fun _ hne => if_neg (Ne.symm hne)) (hdel := fun _ _ => rfl) (heq := ?_)
          (hrest := fun e' he' => ?_)
        · rw [hs, hd]
          show items = if st.nextId = st.nextId then items else []
          rw [if_pos rfl]
        · cases (get_set_self _ _ _).symm.trans he'
          rfl
      · exact inv_shrink h h.nodup rfl keep (fun _ => rfl) (fun _ => rfl)
  | next id conn =>
    show Inv (doNext st id conn).1 (ev ++ [(_, (doNext st id conn).2)])
    cases hg : st.table.get id with
    | none =>
      rw [doNext_none conn hg]
      exact inv_shrink h h.nodup rfl keep (fun _ => rfl) (fun _ => rfl)
    | some e =>
      have hlive := h.live id e hg
      cases hr : e.rest with
      | nil =>
        rw [doNext_nil conn hg hr]
        exact inv_shrink h (nodup_erase _ _ h.nodup) rfl (get_erase_sub _ _) (fun _ => rfl) (fun _ => rfl)
      | cons it tl =>
        rw [hr] at hlive
        -- the reply hands out `it`, and `tl` is what the iterator holds afterwards
        have heq : delivered id ev ++ (if id = id then [it] else []) ++ tl = source id ev ++ [] := by
          rw [if_pos rfl, List.append_assoc, List.append_nil]
          exact hlive
        cases it with
        | val v =>
          rw [doNext_val conn hg hr]
          refine inv_touch id tl h (nodup_set _ _ _ h.nodup) (Nat.le_refl _) (lt_nextId h hg)
            (hget := fun _ hne => get_set_ne _ _ hne) (hsrc := fun _ _ => rfl) (hdel := fun _ hne => if_neg (Ne.symm hne)) (heq := heq)
            (hrest := fun e' he' => ?_)
          cases (get_set_self _ _ _).symm.trans he'
          rfl
        | raises x =>
          rw [doNext_raises conn hg hr]
          exact inv_touch id tl h (nodup_erase _ _ h.nodup) (Nat.le_refl _) (lt_nextId h hg)
            (hget := fun _ hne => get_erase_ne _ hne) (hsrc := fun _ _ => rfl) (hdel := fun _ hne => if_neg (Ne.symm hne)) (heq := heq)
            (hrest := fun e' he' => nomatch he'.symm.trans (get_erase_self _ _))

theorem inv_exec (cfg : Settings) (ops : List Op) (st : State) (ev0 : List Event) (h : Inv st ev0) :
    Inv (exec cfg st ops).1 (ev0 ++ (exec cfg st ops).2) := by
  induction ops generalizing st ev0 with
  | nil => simpa [exec] using h
  | cons op ops ih =>
    simp only [exec]
    have := ih (step cfg st op).1 (ev0 ++ [(op, (step cfg st op).2)]) (inv_step cfg st ev0 op h)
    simpa [List.append_assoc] using this

/-- the invariant holds after every history from the empty table -/
theorem inv_reach (cfg : Settings) (t0 : Nat) (ops : List Op) :
    Inv (exec cfg (State.init t0) ops).1 (exec cfg (State.init t0) ops).2 := by
  have := inv_exec cfg ops (State.init t0) [] (inv_init t0)
  simpa using this

/-! ### the reply to `next` -/

theorem doNext_reply {st : State} {id : Nat} {e : Entry} (conn : Nat) (hg : st.table.get id = some e) :
    (doNext st id conn).2 = expectedReply e.rest 0 := by
  cases hr : e.rest with
  | nil => rw [doNext_nil conn hg hr]; rfl
  | cons it tl =>
    cases it with
    | val v => rw [doNext_val conn hg hr]; rfl
    | raises x => rw [doNext_raises conn hg hr]; rfl

theorem expectedReply_append (a b : List Item) : expectedReply (a ++ b) a.length = expectedReply b 0 := by
  unfold expectedReply
  rw [List.drop_left]
  rfl

theorem expectedReply_stop (r : List Item) : expectedReply r 0 = .stop ↔ r = [] := by
  cases r with
  | nil => exact ⟨fun _ => rfl, fun _ => rfl⟩
  | cons it tl => cases it <;> exact ⟨nofun, nofun⟩

theorem expectedReply_raised (r : List Item) (x : Nat) : expectedReply r 0 = .raised x ↔ ∃ tl, r = .raises x :: tl := by
  cases r with
  | nil => exact ⟨nofun, nofun⟩
  | cons it tl =>
    cases it with
    | val v => exact ⟨nofun, nofun⟩
    | raises y => exact ⟨fun h => by cases h; exact ⟨tl, rfl⟩, fun ⟨_, h⟩ => by cases h; rfl⟩

theorem next_reply {st : State} {ev : List Event} (h : Inv st ev) {id : Nat} {e : Entry} (conn : Nat)
    (hg : st.table.get id = some e) :
    (doNext st id conn).2 = expectedReply (source id ev) (delivered id ev).length := by
  rw [doNext_reply conn hg, ← h.live id e hg, expectedReply_append]

/-! ### clock and id counter: what an operation leaves alone, and the counter never decreases -/

theorem doNext_frame (st : State) (id conn : Nat) :
    (doNext st id conn).1.now = st.now ∧ (doNext st id conn).1.nextId = st.nextId := by
  unfold doNext
  split
  · exact ⟨rfl, rfl⟩
  · dsimp only; split <;> exact ⟨rfl, rfl⟩

theorem doDisconnect_frame (cfg : Settings) (st : State) (conn : Nat) :
    (doDisconnect cfg st conn).now = st.now ∧ (doDisconnect cfg st conn).nextId = st.nextId := by
  unfold doDisconnect
  split <;> exact ⟨rfl, rfl⟩

theorem nextId_step (cfg : Settings) (st : State) (op : Op) : st.nextId ≤ (step cfg st op).1.nextId := by
  cases op with
  | «open» conn d =>
    cases d with
    | plain => exact Nat.le_refl _
    | iter items =>
      show _ ≤ (doOpen cfg st conn (.iter items)).1.nextId
      rw [doOpen_iter]
      split
      · exact Nat.le_succ _
      · exact Nat.le_refl _
  | next id conn => exact Nat.le_of_eq (doNext_frame st id conn).2.symm
  | close id => exact Nat.le_of_eq (congrArg State.nextId (doClose_eq st id)).symm
  | disconnect conn => exact Nat.le_of_eq (doDisconnect_frame cfg st conn).2.symm
  | housekeeping => exact Nat.le_of_eq (congrArg State.nextId (doHousekeeping_eq cfg st)).symm
  | tick dt => exact Nat.le_refl _

/-! ### a forgotten stream is never served again -/

theorem get_disconnect_none (cfg : Settings) (st : State) (conn id : Nat) (h : st.table.get id = none) :
    (doDisconnect cfg st conn).table.get id = none := by
  unfold doDisconnect
  split
  · exact (get_mapVal _ _ id).trans (by rw [h]; rfl)
  · exact get_filter_none _ _ _ h

theorem get_close_self (st : State) (id : Nat) : (doClose st id).table.get id = none := by
  rw [doClose_eq]; exact get_erase_self _ _

/-- ids are never reused: an id below the counter that is absent stays absent -/
theorem absent_step (cfg : Settings) (st : State) (op : Op) (id : Nat) (h : st.table.get id = none) (hlt : id < st.nextId) :
    (step cfg st op).1.table.get id = none := by
  cases op with
  | «open» conn d =>
    cases d with
    | plain => exact h
    | iter items =>
      show (doOpen cfg st conn (.iter items)).1.table.get id = none
      rw [doOpen_iter]
      split
      · exact (get_set_ne _ _ (Nat.ne_of_lt hlt)).trans h
      · exact h
  | next id' conn =>
    show (doNext st id' conn).1.table.get id = none
    by_cases hid : id = id'
    · rw [doNext_none conn (hid ▸ h)]; exact h
    · rw [doNext_other conn hid]; exact h
  | close id' => exact (congrArg (·.table.get id) (doClose_eq st id')).trans (get_filter_none _ _ _ h)
  | disconnect conn => exact get_disconnect_none cfg st conn id h
  | housekeeping =>
    exact (congrArg (·.table.get id) (doHousekeeping_eq cfg st)).trans (get_filter_none _ _ _ h)
  | tick dt => exact h

theorem absent_exec (cfg : Settings) (ops : List Op) (st : State) (id : Nat) (h : st.table.get id = none) (hlt : id < st.nextId) :
    (exec cfg st ops).1.table.get id = none := by
  induction ops generalizing st with
  | nil => exact h
  | cons op ops ih =>
    exact ih _ (absent_step cfg st op id h hlt) (Nat.lt_of_lt_of_le hlt (nextId_step cfg st op))

/-! ### exactly when a stream is forgotten -/

/-- the conditions of the property under which operation `op` makes the server forget stream `id`
    (whose table entry is `e`, at clock value `now`) -/
def forgetCond (cfg : Settings) (now id : Nat) (e : Entry) : Op → Prop
  | .next id' _ => id' = id ∧ (e.rest = [] ∨ ∃ x tl, e.rest = .raises x :: tl)       -- exhausted / fails
  | .close id' => id' = id                                                             -- closed
  | .disconnect c => e.owner = some c ∧ cfg.linger ≤ 0                                 -- its connection ends, no linger
  | .housekeeping =>
      (0 < cfg.lifetime ∧ cfg.lifetime < (now : Int) - (e.created : Int)) ∨           -- outlived its lifetime
      (0 < cfg.linger ∧ e.linger ≠ 0 ∧ (now : Int) - (e.linger : Int) > cfg.linger)  -- linger period has passed
  | .open _ _ => False
  | .tick _ => False

theorem expired_iff (cfg : Settings) (now id : Nat) (e : Entry) :
    expired cfg now e = true ↔ forgetCond cfg now id e .housekeeping := by
  unfold expired forgetCond lifeExpired lingerExpired
  rw [Bool.or_eq_true, Bool.and_eq_true, Bool.and_eq_true, decide_eq_true_eq, decide_eq_true_eq, decide_eq_true_eq,
    decide_eq_true_eq]
  exact or_congr ⟨fun h => h.2, fun h => ⟨h.1, h⟩⟩ Iff.rfl

theorem forget_iff (cfg : Settings) (st : State) (op : Op) (id : Nat) (e : Entry) (hnd : st.table.keys.Nodup)
    (hfresh : st.table.get st.nextId = none) (hg : st.table.get id = some e) :
    (step cfg st op).1.table.get id = none ↔ forgetCond cfg st.now id e op := by
  have stays : st.table.get id = none ↔ False := by rw [hg]; exact ⟨nofun, False.elim⟩
  cases op with
  | tick dt => exact stays
  | «open» conn d =>
    cases d with
    | plain => exact stays
    | iter items =>
      show (doOpen cfg st conn (.iter items)).1.table.get id = none ↔ False
      rw [doOpen_iter]
      split
      · have hne : id ≠ st.nextId := fun h2 => nomatch (h2 ▸ hg).symm.trans hfresh
        exact (get_set_ne _ _ hne).symm ▸ stays
      · exact stays
  | close id' =>
    show (doClose st id').table.get id = none ↔ id' = id
    rw [doClose_eq]
    simp [get_erase, hg, eq_comm]
  | disconnect conn =>
    show (doDisconnect cfg st conn).table.get id = none ↔ e.owner = some conn ∧ cfg.linger ≤ 0
    unfold doDisconnect
    split
    · rename_i hl
      rw [show ({ st with table := _ } : State).table.get id = _ from get_mapVal _ _ id, hg]
      exact ⟨nofun, fun h => absurd hl (Int.not_lt.mpr h.2)⟩
    · rename_i hl
      rw [show ({ st with table := _ } : State).table.get id = _ from
        get_filterVal _ (fun e => decide (e.owner ≠ some conn)) id hnd, hg, Option.filter_some_eq_none, decide_eq_true_eq,
        Decidable.not_not]
      exact ⟨fun h => ⟨h, Int.not_lt.mp hl⟩, fun h => h.1⟩
  | housekeeping =>
    show (doHousekeeping cfg st).table.get id = none ↔ _
    rw [doHousekeeping_eq]
    show Table.get (st.table.filter fun p => !expired cfg st.now p.2) id = none ↔ _
    rw [get_filterVal _ (fun e => !expired cfg st.now e) id hnd, hg, Option.filter_some_eq_none, Bool.not_eq_true,
      Bool.not_eq_false', expired_iff cfg st.now id e]
  | next id' conn =>
    show (doNext st id' conn).1.table.get id = none ↔ id' = id ∧ (e.rest = [] ∨ ∃ x tl, e.rest = .raises x :: tl)
    by_cases hid : id' = id
    · subst hid
      cases hr : e.rest with
      | nil =>
        rw [doNext_nil conn hg hr]
        exact ⟨fun _ => ⟨rfl, Or.inl rfl⟩, fun _ => get_erase_self _ _⟩
      | cons it tl =>
        cases it with
        | val v =>
          rw [doNext_val conn hg hr]
          exact ⟨fun h => (nomatch h.symm.trans (get_set_self _ _ _)), fun h => h.2.elim nofun (fun ⟨_, _, h2⟩ => (nomatch h2))⟩
        | raises x =>
          rw [doNext_raises conn hg hr]
          exact ⟨fun _ => ⟨rfl, Or.inr ⟨x, tl, rfl⟩⟩, fun _ => get_erase_self _ _⟩
    · have hne : id ≠ id' := fun h2 => hid h2.symm
      rw [doNext_other conn hne]
      exact ⟨fun h => absurd h stays.mp, fun h => absurd h.1 hid⟩

/-! ### streams that have ended (for `C10_quiescent`): a terminal event forgets the stream, handed-out ids lie
  below the counter, a run splits at any of its events -/

/-- an event after which stream `id` is finished for its client: closed, exhausted or failed -/
def Terminal (id : Nat) : Event → Prop
  | (.close id', _) => id' = id
  | (.next id' _, .stop) => id' = id
  | (.next id' _, .raised _) => id' = id
  | _ => False

theorem terminal_step (cfg : Settings) (st : State) (op : Op) (id : Nat) (h : Terminal id (op, (step cfg st op).2)) :
    (step cfg st op).1.table.get id = none := by
  cases op with
  | close id' => exact (show id' = id from h) ▸ get_close_self st id'
  | next id' conn =>
    change Terminal id (_, (doNext st id' conn).2) at h
    show (doNext st id' conn).1.table.get id = none
    cases hg : st.table.get id' with
    | none => rw [doNext_none conn hg] at h; exact h.elim
    | some e =>
      cases hr : e.rest with
      | nil =>
        rw [doNext_nil conn hg hr] at h ⊢
        cases (show id' = id from h)
        exact get_erase_self _ _
      | cons it tl =>
        cases it with
        | val v => rw [doNext_val conn hg hr] at h; exact h.elim
        | raises x =>
          rw [doNext_raises conn hg hr] at h ⊢
          cases (show id' = id from h)
          exact get_erase_self _ _
  | «open» conn d =>
    cases d with
    | plain => exact h.elim
    | iter items =>
      change Terminal id (_, (doOpen cfg st conn (.iter items)).2) at h
      rw [doOpen_iter] at h
      split at h <;> exact h.elim
  | disconnect conn => exact h.elim
  | housekeeping => exact h.elim
  | tick dt => exact h.elim

theorem stream_step (cfg : Settings) (st : State) (op : Op) (id : Nat) (h : (step cfg st op).2 = .stream id) :
    id < (step cfg st op).1.nextId := by
  cases op with
  | «open» conn d =>
    cases d with
    | plain => cases h
    | iter items =>
      change (doOpen cfg st conn (.iter items)).2 = _ at h
      show id < (doOpen cfg st conn (.iter items)).1.nextId
      rw [doOpen_iter] at h ⊢
      split at h
      · cases h
        rw [if_pos ‹_›]
        exact Nat.lt_succ_self _
      · cases h
  | next id' conn =>
    change (doNext st id' conn).2 = _ at h
    cases hg : st.table.get id' with
    | none => rw [doNext_none conn hg] at h; cases h
    | some e =>
      rw [doNext_reply conn hg] at h
      unfold expectedReply at h
      split at h <;> cases h
  | close id' => cases h
  | disconnect conn =>
    change (if cfg.hookFails = true then Res.hookError else Res.ok) = _ at h
    split at h <;> cases h
  | housekeeping => cases h
  | tick dt => cases h

theorem nextId_exec (cfg : Settings) (ops : List Op) (st : State) : st.nextId ≤ (exec cfg st ops).1.nextId := by
  induction ops generalizing st with
  | nil => exact Nat.le_refl _
  | cons op ops ih => simp only [exec]; exact Nat.le_trans (nextId_step cfg st op) (ih _)

theorem opened_lt (cfg : Settings) (ops : List Op) (st : State) (id : Nat) (y : Event)
    (hy : y ∈ (exec cfg st ops).2) (hs : y.2 = .stream id) : id < (exec cfg st ops).1.nextId := by
  induction ops generalizing st with
  | nil => simp [exec] at hy
  | cons op ops ih =>
    simp only [exec, List.mem_cons] at hy ⊢
    rcases hy with hy | hy
    · subst hy
      exact Nat.lt_of_lt_of_le (stream_step cfg st op id hs) (nextId_exec cfg ops _)
    · exact ih _ hy

theorem exec_split (cfg : Settings) (a : List Event) (x : Event) (b : List Event) (ops : List Op) (st : State)
    (h : (exec cfg st ops).2 = a ++ x :: b) :
    ∃ opsA opsB, ops = opsA ++ x.1 :: opsB ∧ (exec cfg st opsA).2 = a ∧
      x.2 = (step cfg (exec cfg st opsA).1 x.1).2 := by
  induction ops generalizing st a with
  | nil => cases a <;> nomatch h
  | cons op ops ih =>
    cases a with
    | nil => cases h; exact ⟨[], ops, rfl, rfl, rfl⟩
    | cons y a' =>
      obtain ⟨rfl, h2⟩ := List.cons.inj h
      obtain ⟨opsA, opsB, rfl, rfl, h3⟩ := ih _ _ h2
      exact ⟨op :: opsA, opsB, rfl, rfl, h3⟩

/-! ### the client side refines the server model -/

/-- the log of server operations is an execution of the server model ending in the current table -/
def Ref (cfg : Settings) (t0 : Nat) (s : Sys) : Prop :=
  exec cfg (State.init t0) (s.log.map (·.1)) = (s.srv, s.log)

theorem ref_server {cfg : Settings} {t0 : Nat} {s : Sys} (h : Ref cfg t0 s) (op : Op) : Ref cfg t0 (s.server cfg op).1 := by
  unfold Ref at *
  simp only [Sys.server, List.map_append, List.map_cons, List.map_nil]
  rw [exec_append, h]
  simp [exec]

theorem ref_invoke {cfg : Settings} {t0 : Nat} {s : Sys} (h : Ref cfg t0 s) (mask p : Nat) (px : Proxy) :
    Ref cfg t0 (s.invoke mask p px).1 := by
  unfold Sys.invoke; split <;> exact h

theorem cstep_ref (cfg : Settings) (mask t0 : Nat) (s : Sys) (op : COp) (h : Ref cfg t0 s) :
    Ref cfg t0 (cstep cfg mask s op).1 := by
  cases op with
  | srv o => exact ref_server h o
  | pcall p =>
    simp only [cstep]
    split
    · exact h
    · exact ref_invoke h _ _ _
  | prelease p =>
    simp only [cstep]
    split
    · exact h
    · split
      · exact h
      · exact ref_server h _
  | call p d =>
    simp only [cstep]
    split
    · exact h
    · rename_i px _
      have h2 := ref_server (ref_invoke h mask p px) (.open (s.invoke mask p px).2 d)
      split <;> exact h2
  | inext i | inextLost i =>
    simp only [cstep]
    split
    · exact h
    · split
      · exact h
      · split
        · exact h
        · split
          · exact h
          · exact ref_server h _
  | iclose i =>
    simp only [cstep]
    split
    · exact h
    · split
      · exact h
      · split
        · exact h
        · split
          · exact h
          · split
            · exact ref_server h _
            · exact ref_server (ref_server h _) _

theorem crun_ref (cfg : Settings) (mask t0 : Nat) (ops : List COp) (s : Sys) (h : Ref cfg t0 s) :
    Ref cfg t0 (crun cfg mask s ops).1 := by
  induction ops generalizing s with
  | nil => exact h
  | cons op ops ih => simp only [crun]; exact ih _ (cstep_ref cfg mask t0 s op h)

theorem ref_init (cfg : Settings) (t0 np s0 : Nat) : Ref cfg t0 (Sys.init t0 np s0) := by
  simp [Ref, Sys.init, exec]

theorem inv_of_ref {cfg : Settings} {t0 : Nat} {s : Sys} (h : Ref cfg t0 s) : Inv s.srv s.log := by
  have := inv_reach cfg t0 (s.log.map (·.1))
  unfold Ref at h
  rw [h] at this
  exact this

/-! ### expiry empties the table -/

/-- clock and timestamps: the clock is positive, nothing was created or started lingering in the
    future, and a stream without owner lingers (which only happens when lingering is configured) -/
structure TInv (cfg : Settings) (st : State) : Prop where
  pos : 0 < st.now
  ent : ∀ p ∈ st.table, p.2.created ≤ st.now ∧ (p.2.owner = none → 0 < cfg.linger ∧ 0 < p.2.linger ∧ p.2.linger ≤ st.now)

theorem tinv_step (cfg : Settings) (st : State) (op : Op) (h : TInv cfg st) : TInv cfg (step cfg st op).1 := by
  have filtered : ∀ q : Nat × Entry → Bool, TInv cfg { st with table := st.table.filter q } := fun q =>
    ⟨h.pos, fun p hp => h.ent p (List.mem_filter.mp hp).1⟩
  cases op with
  | tick dt =>
    refine ⟨Nat.lt_of_lt_of_le h.pos (Nat.le_add_right _ _), fun p hp => ?_⟩
    obtain ⟨h1, h2⟩ := h.ent p hp
    exact ⟨Nat.le_trans h1 (Nat.le_add_right _ _), fun ho => (h2 ho).imp id (.imp id (Nat.le_trans · (Nat.le_add_right _ _)))⟩
  | housekeeping =>
    show TInv cfg (doHousekeeping cfg st)
    rw [doHousekeeping_eq]
    exact filtered _
  | close id =>
    show TInv cfg (doClose st id)
    rw [doClose_eq]
    exact filtered _
  | disconnect conn =>
    show TInv cfg (doDisconnect cfg st conn)
    unfold doDisconnect
    split
    · rename_i hl
      refine ⟨h.pos, fun p hp => ?_⟩
      obtain ⟨q, hq, rfl⟩ := List.mem_map.mp hp
      obtain ⟨h1, h2⟩ := h.ent q hq
      unfold Entry.lingerIf
      dsimp only
      split
      · exact ⟨h1, fun _ => ⟨hl, h.pos, Nat.le_refl _⟩⟩
      · exact ⟨h1, h2⟩
    · exact filtered _
  | «open» conn d =>
    cases d with
    | plain => exact h
    | iter items =>
      show TInv cfg (doOpen cfg st conn (.iter items)).1
      rw [doOpen_iter]
      split
      · refine ⟨h.pos, fun p hp => ?_⟩
        rcases mem_set_sub hp with hp | hp
        · exact h.ent p hp
        · rw [hp]; exact ⟨Nat.le_refl _, nofun⟩
      · exact h
  | next id conn =>
    show TInv cfg (doNext st id conn).1
    cases hg : st.table.get id with
    | none => rw [doNext_none conn hg]; exact h
    | some e =>
      cases hr : e.rest with
      | nil => rw [doNext_nil conn hg hr]; exact filtered _
      | cons it tl =>
        cases it with
        | raises x => rw [doNext_raises conn hg hr]; exact filtered _
        | val v =>
          rw [doNext_val conn hg hr]
          have he := h.ent (id, e) (mem_of_get hg)
          refine ⟨h.pos, fun p hp => ?_⟩
          rcases mem_set_sub hp with hp | hp
          · exact h.ent p hp
          · rw [hp]
            unfold Entry.claim
            dsimp only
            split
            · exact ⟨he.1, nofun⟩
            · exact he

theorem tinv_exec (cfg : Settings) (ops : List Op) (st : State) (h : TInv cfg st) : TInv cfg (exec cfg st ops).1 := by
  induction ops generalizing st with
  | nil => exact h
  | cons op ops ih => simp only [exec]; exact ih _ (tinv_step cfg st op h)

theorem tinv_init (cfg : Settings) (t0 : Nat) (h : 0 < t0) : TInv cfg (State.init t0) :=
  ⟨h, fun p hp => by simp [State.init] at hp⟩

/-- after a disconnect of `c0` no remaining stream is owned by `c0`, and no new owners appear -/
theorem disconnect_owner (cfg : Settings) (st : State) (c0 : Nat) :
    ∀ p ∈ (doDisconnect cfg st c0).table, ∀ c, p.2.owner = some c → c ≠ c0 ∧ ∃ q ∈ st.table, q.2.owner = some c := by
  intro p hp c hc
  unfold doDisconnect at hp
  split at hp
  · simp only [List.mem_map] at hp
    obtain ⟨q, hq, rfl⟩ := hp
    simp only [Entry.lingerIf] at hc
    split at hc
    · cases hc
    · rename_i hne
      exact ⟨fun h2 => hne (by rw [hc, h2]), q, hq, hc⟩
  · simp only [List.mem_filter, decide_eq_true_eq] at hp
    exact ⟨fun h2 => hp.2 (by rw [hc, h2]), p, hp.1, hc⟩

theorem disconnect_all (cfg : Settings) (conns : List Nat) (st : State) (h : TInv cfg st) :
    TInv cfg (exec cfg st (conns.map .disconnect)).1 ∧
    ∀ p ∈ (exec cfg st (conns.map .disconnect)).1.table, ∀ c, p.2.owner = some c →
      c ∉ conns ∧ ∃ q ∈ st.table, q.2.owner = some c := by
  induction conns generalizing st with
  | nil => exact ⟨h, fun p hp c hc => ⟨by simp, p, hp, hc⟩⟩
  | cons c0 cs ih =>
    simp only [List.map_cons, exec]
    have h1 : TInv cfg (step cfg st (.disconnect c0)).1 := tinv_step cfg st _ h
    obtain ⟨htinv, howner⟩ := ih (step cfg st (.disconnect c0)).1 h1
    refine ⟨htinv, fun p hp c hc => ?_⟩
    obtain ⟨hcs, q, hq, hqc⟩ := howner p hp c hc
    obtain ⟨hc0, q', hq', hqc'⟩ := disconnect_owner cfg st c0 q hq c hqc
    exact ⟨by simp only [List.mem_cons, not_or]; exact ⟨hc0, hcs⟩, q', hq', hqc'⟩

theorem expiry_empties (cfg : Settings) (st : State) (h : TInv cfg st) (conns : List Nat) (dt : Nat)
    (hown : ∀ p ∈ st.table, ∀ c, p.2.owner = some c → c ∈ conns) (hlg : cfg.linger < dt) :
    (exec cfg st (conns.map .disconnect ++ [.tick dt, .housekeeping])).1.table = [] := by
  rw [exec_append]
  obtain ⟨htinv, howner⟩ := disconnect_all cfg conns st h
  generalize (exec cfg st (conns.map .disconnect)).1 = st1 at htinv howner
  show (doHousekeeping cfg { st1 with now := st1.now + dt }).table = []
  rw [doHousekeeping_eq]
  refine List.filter_eq_nil_iff.mpr fun p hp => ?_
  -- every remaining stream has lost its owner, so it lingers, since at most `st1.now`
  have ho : p.2.owner = none := by
    cases ho : p.2.owner with
    | none => rfl
    | some c =>
      obtain ⟨hnot, q, hq, hqc⟩ := howner p hp c ho
      exact absurd (hown q hq c hqc) hnot
  obtain ⟨hl, hpos, hle⟩ := (htinv.ent p hp).2 ho
  have hx : lingerExpired cfg (st1.now + dt) p.2 = true :=
    decide_eq_true ⟨Nat.ne_of_gt hpos, by omega⟩
  show (!expired cfg (st1.now + dt) p.2) ≠ true
  unfold expired
  rw [hx, decide_eq_true hl, Bool.and_self, Bool.or_true]
  exact Bool.false_ne_true

end Pyro.Streams
