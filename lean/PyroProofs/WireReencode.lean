/-
  Helper lemmas for C06_reencode: what the decoder accepts can be encoded again.
-/
import PyroModel.Wire
import PyroProofs.Wire
import PyroProofs.WireStages

namespace Pyro.Wire

open Pyro

theorem mem_dictSet (d : List Ann) (k : List Nat) (v : Bytes) (a : Ann) (h : a ∈ dictSet d k v) :
    a ∈ d ∨ a = (k, v) := by
  induction d with
  | nil => simp [dictSet] at h; exact Or.inr h
  | cons e d ih =>
    obtain ⟨k', v'⟩ := e
    simp only [dictSet] at h
    split at h
    · rcases List.mem_cons.mp h with h | h
      · exact Or.inr h
      · exact Or.inl (List.mem_cons_of_mem _ h)
    · rcases List.mem_cons.mp h with h | h
      · exact Or.inl (h ▸ List.mem_cons_self)
      · exact (ih h).imp_left (List.mem_cons_of_mem _)

theorem annSize_dictSet (d : List Ann) (k : List Nat) (v : Bytes) :
    annSize (dictSet d k v) ≤ annSize d + 8 + v.length := by
  induction d with
  | nil => simp [dictSet, annSize]
  | cons e d ih =>
    obtain ⟨k', v'⟩ := e
    simp only [dictSet]
    by_cases hk : k' = k
    · rw [if_pos hk]
      simp only [annSize, List.map_cons, List.sum_cons]
      omega
    · rw [if_neg hk]
      simp only [annSize, List.map_cons, List.sum_cons] at ih ⊢
      omega

/-- an annotation the encoder accepts -/
def AnnOK (a : Ann) : Prop := KeyOK a.1 ∧ a.2.length < 2 ^ 32

theorem encodeAnns_ok (anns : List Ann) (h : ∀ a ∈ anns, AnnOK a) : ∃ bs, encodeAnns anns = .ok bs := by
  induction anns with
  | nil => exact ⟨[], rfl⟩
  | cons a rest ih =>
    obtain ⟨k, v⟩ := a
    obtain ⟨⟨hk4, hka⟩, hv⟩ := h (k, v) List.mem_cons_self
    obtain ⟨bs, hbs⟩ := ih (fun x hx => h x (List.mem_cons_of_mem _ hx))
    simp only [encodeAnns]
    rw [if_neg (by simpa using hk4)]
    have hany : k.any (· ≥ 128) = false := by
      rw [List.any_eq_false]
      intro c hc
      have := hka c hc
      simp only [ge_iff_le, decide_eq_true_eq]; omega
    rw [hany]
    simp only [Bool.false_eq_true, if_false]
    rw [if_neg (by simp only [ge_iff_le] at *; omega), hbs]
    exact ⟨_, rfl⟩

/-- the annotations the decoder stores from well-formed chunks (`walk_tiles`) could be encoded again, their keys
    stay distinct, and they need no more room than the chunks took on the wire -/
theorem chunks_reencodable (chunks : List (Bytes × Bytes)) :
    ∀ acc anns : List Ann, chunks.foldl (fun d c => dictSet d (c.1.map UInt8.toNat) c.2) acc = anns →
      (∀ c ∈ chunks, c.1.length = 4 ∧ c.1.any (· ≥ 128) = false ∧ c.2.length < 2 ^ 32) →
      (keysOf acc).Nodup → (∀ a ∈ acc, AnnOK a) →
      (keysOf anns).Nodup ∧ (∀ a ∈ anns, AnnOK a) ∧ annSize anns ≤ annSize acc + (rawChunks chunks).length := by
  induction chunks with
  | nil =>
    rintro acc _ rfl _ hnd hok
    exact ⟨hnd, hok, Nat.le_refl _⟩
  | cons c chunks ih =>
    obtain ⟨i, v⟩ := c
    rintro acc _ rfl hc hnd hok
    obtain ⟨hi4, hi, hv⟩ := hc (i, v) List.mem_cons_self
    have hnew : AnnOK (i.map UInt8.toNat, v) := by
      refine ⟨⟨by rw [List.length_map, hi4], ?_⟩, hv⟩
      intro n hn
      obtain ⟨b, hb, rfl⟩ := List.mem_map.mp hn
      simp only [List.any_eq_false, ge_iff_le, decide_eq_true_eq] at hi
      have := hi b hb
      simp only [UInt8.le_iff_toNat_le, Nat.not_le] at this
      simpa using this
    obtain ⟨h1, h2, h3⟩ := ih (dictSet acc (i.map UInt8.toNat) v) _ rfl
      (fun c h => hc c (List.mem_cons_of_mem _ h)) (dictSet_nodup _ _ _ hnd) (by
        intro a ha
        rcases mem_dictSet _ _ _ _ ha with h' | h'
        · exact hok a h'
        · rw [h']; exact hnew)
    refine ⟨h1, h2, ?_⟩
    have := annSize_dictSet acc (i.map UInt8.toNat) v
    simp only [List.foldl_cons, rawChunks, List.length_append, toBE_length, hi4]
    omega

theorem setBit64_lt (f : Nat) (h : f < 65536) : setBit f 64 < 65536 := by
  unfold setBit; split <;> omega

theorem clearBit_le (f b : Nat) : clearBit f b ≤ f := by
  unfold clearBit; split <;> omega

end Pyro.Wire
