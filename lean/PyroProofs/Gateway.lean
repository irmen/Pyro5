/-
  Lemmas about PyroModel.Gateway (for PyroProps/C20.lean and C20Src.lean): which requests `app` hands to
  `process` and what `process` does with them, the action logs of the forwarding block and of the index page,
  the path split.
-/
import PyroModel.Gateway

namespace Pyro.Gateway

/-! ### routing -/

/-- What pyro_app hands to process_pyro_request: the rest of the path after "pyro/", for a GET or
    POST under /pyro/ (any number of leading slashes); `none` for every other request. -/
def routed (req : Req) : Option Str :=
  if sPyro.isPrefixOf (lstripSlash req.path) = true ∧ (req.method = sGET ∨ req.method = sPOST)
  then some ((lstripSlash req.path).drop 5) else none

/-- how the gateway answers what it does not pass on (plus its redirect and the CORS preflight answer) -/
def Refusal (req : Req) (r : Response) : Prop :=
  r.status = 403 ∨ r.status = 404 ∨ r.status = 405 ∨ (r.status = 302 ∧ lstripSlash req.path = []) ∨
    (r = respOptions ∧ req.method = sOPTIONS)

theorem app_of_routed (cfg : Cfg) (be : Backend) {req : Req} {rest : Str} (h : routed req = some rest) :
    app cfg be req = process cfg be req rest (singlyfy req.query) := by
  unfold routed at h
  split at h
  · rename_i hc
    obtain ⟨hpre, hm⟩ := hc
    have hp : lstripSlash req.path ≠ [] := fun e => by rw [e] at hpre; exact absurd hpre (by decide)
    have hno : req.method ≠ sOPTIONS := by rcases hm with e | e <;> rw [e] <;> decide
    have hm' : req.method = sGET ∨ req.method = sPOST ∨ req.method = sOPTIONS :=
      hm.elim Or.inl fun e => Or.inr (Or.inl e)
    injection h with h
    unfold app
    dsimp only
    rw [if_neg hp, if_pos hpre, if_pos hm', if_neg hno, h]
  · contradiction

theorem app_of_not_routed (cfg : Cfg) (be : Backend) {req : Req} (h : routed req = none) :
    ∃ r, app cfg be req = (.http r, []) ∧ Refusal req r := by
  unfold routed at h
  unfold app
  dsimp only
  by_cases hp : lstripSlash req.path = []
  · rw [if_pos hp]; exact ⟨_, rfl, Or.inr (Or.inr (Or.inr (Or.inl ⟨rfl, hp⟩)))⟩
  · rw [if_neg hp]
    by_cases hpre : sPyro.isPrefixOf (lstripSlash req.path) = true
    · rw [if_pos hpre]
      by_cases ho : req.method = sOPTIONS
      · rw [if_pos (Or.inr (Or.inr ho)), if_pos ho]
        exact ⟨_, rfl, Or.inr (Or.inr (Or.inr (Or.inr ⟨rfl, ho⟩)))⟩
      · have hm : ¬ (req.method = sGET ∨ req.method = sPOST ∨ req.method = sOPTIONS) := by
          rintro (hm | hm | hm)
          · rw [if_pos ⟨hpre, Or.inl hm⟩] at h; contradiction
          · rw [if_pos ⟨hpre, Or.inr hm⟩] at h; contradiction
          · exact ho hm
        rw [if_neg hm]; exact ⟨_, rfl, Or.inr (Or.inr (Or.inl rfl))⟩
    · rw [if_neg hpre]; exact ⟨_, rfl, Or.inr (Or.inl rfl)⟩

theorem process_nil (cfg : Cfg) (be : Backend) (req : Req) (ps : Params) :
    process cfg be req [] ps = homepage cfg be := if_pos rfl

theorem process_forward {cfg : Cfg} {be : Backend} {req : Req} {rest obj member : Str} {ps : Params}
    (hne : rest ≠ []) (hs : splitPath rest = some (obj, member))
    (hk : keyOK cfg req ps = true) (hp : patternOK cfg be obj = true) :
    process cfg be req rest ps =
      (.http (forward be req obj member (forwardParams cfg ps)).1,
       (forward be req obj member (forwardParams cfg ps)).2) := by
  unfold process
  rw [if_neg hne, hs]
  dsimp only
  rw [hk, hp]
  rfl

theorem process_refuses (cfg : Cfg) (be : Backend) (req : Req) {rest : Str} (ps : Params) (hne : rest ≠ [])
    (h : ¬ ∃ obj member, splitPath rest = some (obj, member) ∧ keyOK cfg req ps = true ∧
          patternOK cfg be obj = true) :
    ∃ r, process cfg be req rest ps = (.http r, []) ∧ Refusal req r := by
  unfold process
  rw [if_neg hne]
  cases hs : splitPath rest with
  | none => exact ⟨_, rfl, Or.inr (Or.inl rfl)⟩
  | some om =>
    obtain ⟨obj, member⟩ := om
    dsimp only
    cases hk : keyOK cfg req ps with
    | false => exact ⟨_, rfl, Or.inl rfl⟩
    | true =>
      cases hp : patternOK cfg be obj with
      | false => exact ⟨_, rfl, Or.inl rfl⟩
      | true => exact absurd ⟨obj, member, hs, hk, hp⟩ h

/-! ### the action logs -/

/-- the actions that run something on a remote object -/
def isInvoke : Action → Bool
  | .call _ _ _ _ => true
  | .getattr _ _ => true
  | _ => false

theorem withProxy_invalid {req : Req} (be : Backend) (uri member : Str) (ps : Params)
    (hc : req.corr = .invalid) : withProxy be req uri member ps = (resp500 .value, []) := by
  unfold withProxy; rw [hc]

theorem withProxy_metaErr {be : Backend} {req : Req} {uri : Str} {c : ErrCls} (member : Str) (ps : Params)
    (hc : req.corr ≠ .invalid) (hm : be.getMeta uri = .error c) :
    withProxy be req uri member ps = (resp500 c, [.getMetadata uri]) := by
  unfold withProxy
  cases hcr : req.corr with
  | invalid => exact absurd hcr hc
  | absent => rw [hm]
  | valid => rw [hm]

theorem withProxy_reached {be : Backend} {req : Req} {uri : Str} {m : Meta} (member : Str) (ps : Params)
    (hc : req.corr ≠ .invalid) (hm : be.getMeta uri = .ok m) :
    withProxy be req uri member ps =
      if member = sMeta then (⟨200, .json, true, .metaInfo m.methods m.attrs⟩, [.getMetadata uri])
      else if m.attrs.contains member then
        if ps ≠ [] then (resp500 .assertion, [.getMetadata uri])
        else (replyOfResult (onewayOpt req) (be.getattr uri member), [.getMetadata uri, .getattr uri member])
      else if m.methods.contains member then
        if (lookupP sSelf ps).isSome then (resp500 .type, [.getMetadata uri])
        else (replyOfResult (onewayOpt req) (be.call uri member ps (onewayOpt req || m.oneway.contains member)),
              [.getMetadata uri, .call uri member ps (onewayOpt req || m.oneway.contains member)])
      else (resp500 .attribute, [.getMetadata uri]) := by
  unfold withProxy
  cases hcr : req.corr with
  | invalid => exact absurd hcr hc
  | absent => rw [hm]
  | valid => rw [hm]

theorem withProxy_log (be : Backend) (req : Req) (uri member : Str) (ps : Params) :
    (withProxy be req uri member ps).2 = [] ∨
    ∃ inv, (withProxy be req uri member ps).2 = .getMetadata uri :: inv ∧
      (inv = [] ∨ (∃ ow, inv = [.call uri member ps ow]) ∨ (inv = [.getattr uri member] ∧ ps = [])) := by
  by_cases hc : req.corr = .invalid
  · exact Or.inl (by rw [withProxy_invalid be uri member ps hc])
  · right
    cases hm : be.getMeta uri with
    | error c => exact ⟨[], by rw [withProxy_metaErr member ps hc hm], Or.inl rfl⟩
    | ok m =>
      rw [withProxy_reached member ps hc hm]
      by_cases h1 : member = sMeta
      · rw [if_pos h1]; exact ⟨[], rfl, Or.inl rfl⟩
      · rw [if_neg h1]
        by_cases h2 : m.attrs.contains member = true
        · rw [if_pos h2]
          by_cases h3 : ps = []
          · rw [if_neg (not_not_intro h3)]; exact ⟨_, rfl, Or.inr (Or.inr ⟨rfl, h3⟩)⟩
          · rw [if_pos h3]; exact ⟨[], rfl, Or.inl rfl⟩
        · rw [if_neg h2]
          by_cases h4 : m.methods.contains member = true
          · rw [if_pos h4]
            by_cases h5 : (lookupP sSelf ps).isSome = true
            · rw [if_pos h5]; exact ⟨[], rfl, Or.inl rfl⟩
            · rw [if_neg h5]; exact ⟨_, rfl, Or.inr (Or.inl ⟨_, rfl⟩)⟩
          · rw [if_neg h4]; exact ⟨[], rfl, Or.inl rfl⟩

theorem withProxy_invoke_le (be : Backend) (req : Req) (uri member : Str) (ps : Params) :
    ((withProxy be req uri member ps).2.filter isInvoke).length ≤ 1 := by
  rcases withProxy_log be req uri member ps with h | ⟨inv, h, rfl | ⟨ow, rfl⟩ | ⟨rfl, _⟩⟩ <;>
    rw [h] <;>
    simp [List.filter, isInvoke]

theorem forward_log (be : Backend) (req : Req) (obj member : Str) (ps : Params) :
    (be.nsGet ≠ none ∧ (forward be req obj member ps).2 = [.getNameServer]) ∨
    (be.nsGet = none ∧
      ((forward be req obj member ps).2 = [.getNameServer, .lookup obj] ∨
       ∃ uri, be.lookup obj = .ok uri ∧
        ((forward be req obj member ps).2 = [.getNameServer, .lookup obj, .connect uri] ∨
         (forward be req obj member ps).2 =
           [.getNameServer, .lookup obj, .connect uri] ++ (withProxy be req uri member ps).2 ++
             [.release uri]))) := by
  unfold forward
  cases be.nsGet with
  | some c => exact Or.inl ⟨nofun, rfl⟩
  | none =>
    refine Or.inr ⟨rfl, ?_⟩
    cases be.lookup obj with
    | error c => exact Or.inl rfl
    | ok uri =>
      refine Or.inr ⟨uri, rfl, ?_⟩
      dsimp only
      cases be.connect uri with
      | some c => exact Or.inl rfl
      | none => exact Or.inr rfl

theorem forward_invoke_le (be : Backend) (req : Req) (obj member : Str) (ps : Params) :
    ((forward be req obj member ps).2.filter isInvoke).length ≤ 1 := by
  rcases forward_log be req obj member ps with ⟨_, h⟩ | ⟨_, h | ⟨uri, _, h | h⟩⟩ <;> rw [h]
  · exact Nat.zero_le 1
  · exact Nat.zero_le 1
  · exact Nat.zero_le 1
  · simpa [List.filter, isInvoke] using withProxy_invoke_le be req uri member ps

/-- name-server, listing and per-row proxy actions (`homepage_listing`: the index page performs no others) -/
def isListing : Action → Bool
  | .getNameServer => true
  | .nsList _ => true
  | .batchLookup _ => true
  | .connect _ => true
  | .bind _ => true
  | .release _ => true
  | _ => false

/-- the actions of one table row of the index page -/
def isRowAction : Action → Bool
  | .connect _ => true
  | .bind _ => true
  | .release _ => true
  | _ => false

theorem rowAction_listing (a : Action) (h : isRowAction a = true) :
    isListing a = true ∧ isInvoke a = false := by
  cases a <;> simp_all [isListing, isInvoke, isRowAction]

theorem homeRow_rowActions (be : Backend) (uri : Str) : (homeRow be uri).2.all isRowAction = true := by
  unfold homeRow
  cases be.connect uri with
  | some c => rfl
  | none => cases be.bind uri <;> rfl

theorem homeRows_rowActions (be : Backend) (names : List Str) :
    (homeRows be names).2.all isRowAction = true := by
  induction names with
  | nil => rfl
  | cons name rest ih =>
    unfold homeRows
    cases be.lookup name with
    | error c => rfl
    | ok uri =>
      dsimp only
      have hrow := homeRow_rowActions be uri
      generalize homeRow be uri = row at hrow ⊢
      generalize homeRows be rest = rows at ih ⊢
      rcases row with ⟨_ | b, acts⟩
      · exact hrow
      · rcases rows with ⟨_ | rows, acts'⟩ <;>
          exact List.all_append.trans (Bool.and_eq_true_iff.2 ⟨hrow, ih⟩)

theorem homepage_actions (cfg : Cfg) (be : Backend) :
    ∀ a ∈ (homepage cfg be).2,
      a = .getNameServer ∨ a = .nsList cfg.pattern ∨
      (∃ keys, be.nsList cfg.pattern = .ok keys ∧ a = .batchLookup (sortS (keys.take 10))) ∨
      isRowAction a = true := by
  intro a ha
  unfold homepage at ha
  generalize be.nsGet = ns at ha
  cases ns with
  | some c =>
    generalize be.nsGetIsNaming = n at ha
    cases n <;> exact Or.inl (List.mem_singleton.1 ha)
  | none =>
    generalize hl : be.nsList cfg.pattern = l at ha
    cases l with
    | error c =>
      rcases List.mem_cons.1 ha with e | ha
      · exact Or.inl e
      · exact Or.inr (Or.inl (List.mem_singleton.1 ha))
    | ok keys =>
      have hrows := homeRows_rowActions be (sortS (keys.take 10))
      dsimp only at ha
      generalize homeRows be (sortS (keys.take 10)) = rows at hrows ha
      have : a ∈ Action.getNameServer :: .nsList cfg.pattern :: .batchLookup (sortS (keys.take 10)) :: rows.2 := by
        rcases rows with ⟨_ | _, acts⟩ <;> exact ha
      simp only [List.mem_cons] at this
      rcases this with e | e | e | ha
      · exact Or.inl e
      · exact Or.inr (Or.inl e)
      · exact Or.inr (Or.inr (Or.inl ⟨keys, rfl, e⟩))
      · exact Or.inr (Or.inr (Or.inr (List.all_eq_true.1 hrows a ha)))

theorem homepage_listing (cfg : Cfg) (be : Backend) (a : Action) (ha : a ∈ (homepage cfg be).2) :
    isListing a = true ∧ isInvoke a = false := by
  rcases homepage_actions cfg be a ha with rfl | rfl | ⟨_, _, rfl⟩ | h
  · exact ⟨rfl, rfl⟩
  · exact ⟨rfl, rfl⟩
  · exact ⟨rfl, rfl⟩
  · exact rowAction_listing a h

/-! ### the path split -/

theorem firstLine_prefix (p : Str) : ∃ t, p = firstLine p ++ t ∧ (t = [] ∨ ∃ t', t = cNewline :: t') := by
  induction p with
  | nil => exact ⟨[], rfl, Or.inl rfl⟩
  | cons c rest ih =>
    unfold firstLine
    split
    · exact ⟨c :: rest, rfl, Or.inr ⟨rest, by simp [*]⟩⟩
    · obtain ⟨t, ht, hc⟩ := ih
      exact ⟨t, congrArg (c :: ·) ht, hc⟩

theorem firstLine_no_newline (p : Str) : cNewline ∉ firstLine p := by
  induction p with
  | nil => simp [firstLine]
  | cons c rest ih =>
    unfold firstLine
    split <;> simp [*, Ne.symm]

/-- a split of a line into object name and member name the regex `(.+)/(.+)` admits -/
def ValidSplit (line o m : Str) : Prop := line = o ++ cSlash :: m ∧ o ≠ [] ∧ m ≠ []

/-- the invariant of `splitGo`: `r` is the best admissible split among those with an object name shorter than `n` -/
def BestSplit (line : Str) (n : Nat) (r : Option (Str × Str)) : Prop :=
  (∀ o m, r = some (o, m) → ValidSplit line o m) ∧
  ∀ o' m', ValidSplit line o' m' → o'.length < n → ∃ o m, r = some (o, m) ∧ o'.length ≤ o.length

theorem splitGo_best (l : Str) : ∀ (acc : Str) (best : Option (Str × Str)),
    BestSplit (acc ++ l) acc.length best → BestSplit (acc ++ l) (acc ++ l).length (splitGo acc best l) := by
  induction l with
  | nil =>
    intro acc best h
    rw [List.append_nil] at h ⊢
    exact h
  | cons c rest ih =>
    intro acc best ⟨hs, hb⟩
    have hassoc : (acc ++ [c]) ++ rest = acc ++ c :: rest := List.append_assoc acc [c] rest
    rw [← hassoc]
    apply ih (acc ++ [c])
    rw [hassoc, List.length_append, List.length_singleton]
    by_cases hc : c = cSlash ∧ acc ≠ [] ∧ rest ≠ []
    · rw [if_pos hc]
      refine ⟨fun o m h => ?_, fun o' m' _ hlen => ⟨acc, rest, rfl, Nat.le_of_lt_succ hlen⟩⟩
      injection h with h
      injection h with ho hm
      exact ho ▸ hm ▸ ⟨by rw [hc.1], hc.2.1, hc.2.2⟩
    · rw [if_neg hc]
      refine ⟨hs, fun o' m' hv hlen => ?_⟩
      by_cases hlt : o'.length < acc.length
      · exact hb o' m' hv hlt
      · -- a split exactly at `acc` would make the current character an admissible '/'
        have heq : acc.length = o'.length := Nat.le_antisymm (Nat.le_of_not_lt hlt) (Nat.le_of_lt_succ hlen)
        obtain ⟨h1, h2⟩ := List.append_inj hv.1 heq
        injection h2 with h2 h3
        exact absurd ⟨h2, h1 ▸ hv.2.1, h3 ▸ hv.2.2⟩ hc

theorem splitPath_best (p : Str) : BestSplit (firstLine p) (firstLine p).length (splitPath p) :=
  splitGo_best (firstLine p) [] none ⟨nofun, fun _ _ _ h => nomatch h⟩

theorem splitPath_max {p o' m' : Str} (hv : ValidSplit (firstLine p) o' m') :
    ∃ o m, splitPath p = some (o, m) ∧ o'.length ≤ o.length := by
  refine (splitPath_best p).2 o' m' hv ?_
  rw [hv.1, List.length_append, List.length_cons]
  exact Nat.lt_add_of_pos_right (Nat.succ_pos _)

/-! ### parameters -/

theorem lookupP_eraseP (k k' : Str) (ps : Params) :
    lookupP k' (eraseP k ps) = if k' = k then none else lookupP k' ps := by
  induction ps with
  | nil => exact (ite_self _).symm
  | cons kv rest ih =>
    unfold eraseP at ih ⊢
    by_cases hk : kv.1 = k
    · rw [List.filter_cons_of_neg (by simpa using hk), ih]
      by_cases h' : k' = k
      · rw [if_pos h', if_pos h']
      · rw [if_neg h', if_neg h', lookupP, if_neg (fun e => h' (e.symm.trans hk))]
    · rw [List.filter_cons_of_pos (by simpa using hk), lookupP, lookupP, ih]
      by_cases h' : k' = k
      · rw [if_pos h', if_pos h', if_neg (fun e => hk (e.trans h'))]
      · rw [if_neg h', if_neg h']

/-! ### sorting keeps the names -/

theorem mem_insertS (x y : Str) (l : List Str) : y ∈ insertS x l ↔ y = x ∨ y ∈ l := by
  induction l with
  | nil => simp [insertS]
  | cons z zs ih =>
    unfold insertS
    split <;> simp [ih, or_left_comm]

theorem mem_sortS (y : Str) (l : List Str) : y ∈ sortS l ↔ y ∈ l := by
  induction l with
  | nil => simp [sortS]
  | cons z zs ih => simp [sortS, mem_insertS, ← ih]

end Pyro.Gateway
