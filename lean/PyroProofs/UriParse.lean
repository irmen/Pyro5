/-
  PyroProofs/UriParse.lean — the invariant `Valid` that `URI.__init__` establishes, and the two halves of
  the round trip for the URI model (C19):
    parse_valid  : parse Guards.on p s = .ok u → Valid u
    parse_render : Valid u → OrderOK u π → parse Guards.on p (render u π) = .ok u
  Both rest on: the object is the shortest non-empty white-space-free prefix behind which the tail of the pattern
  matches (`splitObj_some` / `splitObj_first`); `_parseLocation` goes by the form of the location
  (`parseLocation_sock` / `_bracket` / `_hostPort`).
-/
import PyroModel.Uri
import PyroProofs.UriLemmas

namespace Pyro.Uri

/-! ### the invariant -/

/-- no character that `\s` matches -/
def NoSpace (t : Text) : Prop := ∀ c ∈ t, isSpace c = false

/-- an object name that the regular expression splits off again: non-empty, no white space, and an `@`
    after the first character only where the pattern cannot take it for the location separator
    (nowhere if a location follows; else only as the very last character) -/
def ObjOK (hasLoc : Bool) (o : Text) : Prop :=
  o ≠ [] ∧ NoSpace o ∧ (if hasLoc = true then 64 ∉ o.tail else 64 ∉ o.tail.dropLast)

/-- a location that `location` prints and `_parseLocation` reads back: LF-free; a socket name without `:`; a host with `:`
    made of bracketable characters with a non-negative port; a host without `:` neither `./u` nor starting with `[` -/
def LocOK : Loc → Prop
  | .none => True
  | .sock n => n ≠ [] ∧ 58 ∉ n ∧ 10 ∉ n
  | .tcp h p => h ≠ [] ∧ 10 ∉ h ∧
      (58 ∈ h → (∀ c ∈ h, isV6Char c = true) ∧ 0 ≤ p) ∧
      (58 ∉ h → h ≠ sDotSlashU ∧ h.head? ≠ some 91)

/-- a tag set as its ascending list (`Sorted`, PyroProofs/UriLemmas.lean), not empty, not `{""}`, its tags free of white
    space, `,` and `@` -/
def TagsOK (ts : List Text) : Prop :=
  Sorted ts ∧ ts ≠ [] ∧ ts ≠ [[]] ∧ ∀ t ∈ ts, ∀ c ∈ t, isSpace c = false ∧ c ≠ 44 ∧ c ≠ 64

def Loc.isSome : Loc → Bool
  | .none => false
  | _ => true

/-- what `URI(s)` guarantees about the state it builds (with both guards of fixes/C19-reparse.patch) -/
def Valid (u : Uri) : Prop :=
  LocOK u.loc ∧
  match u.kind with
  | .pyro o => ObjOK true o ∧ u.loc.isSome = true
  | .pyroname o => ObjOK u.loc.isSome o
  | .pyrometa ts => TagsOK ts

/-! ### generic list facts -/

theorem takeWhile_append_stop (p : Nat → Bool) (a : Text) (c : Nat) (r : Text)
    (ha : ∀ x ∈ a, p x = true) (hc : p c = false) : (a ++ c :: r).takeWhile p = a := by
  rw [List.takeWhile_append_of_pos ha, List.takeWhile_cons_of_neg (by simp [hc]), List.append_nil]

theorem dropWhile_append_stop (p : Nat → Bool) (a : Text) (c : Nat) (r : Text)
    (ha : ∀ x ∈ a, p x = true) (hc : p c = false) : (a ++ c :: r).dropWhile p = c :: r := by
  rw [List.dropWhile_append_of_pos ha, List.dropWhile_cons_of_neg (by simp [hc])]

theorem takeWhile_all (p : Nat → Bool) (a : Text) (ha : ∀ x ∈ a, p x = true) : a.takeWhile p = a := by
  simpa using List.takeWhile_append_of_pos (l₂ := []) ha

theorem dropWhile_all (p : Nat → Bool) (a : Text) (ha : ∀ x ∈ a, p x = true) : a.dropWhile p = [] := by
  simpa using List.dropWhile_append_of_pos (l₂ := []) ha

theorem mem_takeWhile_sat (p : Nat → Bool) (l : Text) (x : Nat) (hx : x ∈ l.takeWhile p) : p x = true ∧ x ∈ l :=
  ⟨List.all_eq_true.1 List.all_takeWhile x hx, List.takeWhile_subset p hx⟩

theorem nospace_ne_nl (c : Nat) (h : isSpace c = false) : c ≠ 10 := by
  rintro rfl
  exact absurd h (by decide)

theorem NoSpace.no_nl {t : Text} (h : NoSpace t) : 10 ∉ t := fun hm => nospace_ne_nl 10 (h 10 hm) rfl

/-! ### `.+$` and the tail of the pattern -/

theorem stripNL_clean (L : Text) (h : 10 ∉ L) : stripNL L = L := by
  unfold stripNL
  by_cases hl : L.getLast? = some 10
  · exact absurd (List.mem_of_getLast? hl) h
  · rw [if_neg hl]

theorem stripNL_concat (L : Text) : stripNL (L ++ [10]) = L := by
  unfold stripNL
  rw [if_pos List.getLast?_concat, List.dropLast_concat]

theorem locBody_clean (L : Text) (hne : L ≠ []) (h : 10 ∉ L) : locBody L = some L := by
  unfold locBody
  rw [stripNL_clean L h, if_pos ⟨hne, h⟩]

theorem locBody_concat_nl (L : Text) (hne : L ≠ []) (h : 10 ∉ L) : locBody (L ++ [10]) = some L := by
  unfold locBody
  rw [stripNL_concat, if_pos ⟨hne, h⟩]

theorem locBody_some (l L : Text) (h : locBody l = some L) :
    L ≠ [] ∧ 10 ∉ L ∧ (l = L ∨ l = L ++ [10]) := by
  unfold locBody at h
  split at h
  · next hc =>
    cases h
    refine ⟨hc.1, hc.2, ?_⟩
    unfold stripNL
    split
    · next hl =>
      obtain ⟨ys, rfl⟩ := List.getLast?_eq_some_iff.1 hl
      exact Or.inr (by rw [List.dropLast_concat])
    · exact Or.inl rfl
  · cases h

/-- a location still matches when LF-free text is put in front of it -/
theorem locBody_prepend (a l L : Text) (ha : 10 ∉ a) (h : locBody l = some L) :
    locBody (a ++ l) = some (a ++ L) := by
  obtain ⟨h1, h2, h3⟩ := locBody_some l L h
  have hne : a ++ L ≠ [] := by simp [h1]
  have hcl : 10 ∉ a ++ L := by simp [ha, h2]
  cases h3 with
  | inl e => rw [e]; exact locBody_clean _ hne hcl
  | inr e => rw [e, ← List.append_assoc]; exact locBody_concat_nl _ hne hcl

theorem tailMatch_some_some (r L : Text) (h : tailMatch r = some (some L)) :
    ∃ l, r = 64 :: l ∧ locBody l = some L := by
  cases r with
  | nil => cases h
  | cons c l =>
    rw [tailMatch] at h
    split at h
    · next hc =>
      obtain ⟨L', hb, e⟩ := Option.map_eq_some_iff.1 h
      cases e
      exact ⟨l, by rw [hc], hb⟩
    · split at h <;> cases h

theorem tailMatch_some_none (r : Text) (h : tailMatch r = some none) : r = [] ∨ r = [10] := by
  cases r with
  | nil => exact Or.inl rfl
  | cons c l =>
    rw [tailMatch] at h
    split at h
    · obtain ⟨L', _, e⟩ := Option.map_eq_some_iff.1 h
      cases e
    · split at h
      · next hn => exact Or.inr (by rw [hn.1, hn.2])
      · cases h

/-- after an `@`, white-space-free text followed by an accepted tail is itself an accepted location -/
theorem locBody_before_tail (q rest : Text) (loc : Option Text) (hq : NoSpace q)
    (ht : tailMatch rest = some loc) (hne : q ≠ [] ∨ loc ≠ none) : (locBody (q ++ rest)).isSome = true := by
  cases loc with
  | some L =>
    obtain ⟨l, hr, hb⟩ := tailMatch_some_some rest L ht
    have : q ++ rest = (q ++ [64]) ++ l := by rw [hr]; simp
    rw [this, locBody_prepend (q ++ [64]) l L (by simp [hq.no_nl]) hb]; rfl
  | none =>
    have hq' : q ≠ [] := hne.resolve_right (fun h => h rfl)
    cases tailMatch_some_none rest ht with
    | inl e => rw [e, List.append_nil, locBody_clean q hq' hq.no_nl]; rfl
    | inr e => rw [e, locBody_concat_nl q hq' hq.no_nl]; rfl

/-! ### the object: what the split establishes -/

theorem splitObj_cons (c : Nat) (r : Text) : splitObj (c :: r) =
    if isSpace c then none
    else match tailMatch r with
      | some loc => some ([c], loc)
      | none => (splitObj r).map (fun x => (c :: x.1, x.2)) := rfl

theorem splitObj_some : ∀ (s o : Text) (loc : Option Text), splitObj s = some (o, loc) →
    ∃ c t rest, o = c :: t ∧ s = c :: t ++ rest ∧ tailMatch rest = some loc ∧ isSpace c = false ∧ NoSpace t ∧
      ∀ d b, (d :: b) <:+ t → tailMatch (d :: b ++ rest) = none := by
  intro s
  induction s with
  | nil => intro o loc h; cases h
  | cons c r ih =>
    intro o loc h
    rw [splitObj_cons] at h
    cases hc : isSpace c with
    | true => rw [hc, if_pos rfl] at h; cases h
    | false =>
      rw [hc, if_neg Bool.false_ne_true] at h
      cases htm : tailMatch r with
      | some loc' =>
        rw [htm] at h
        cases h
        exact ⟨c, [], r, rfl, rfl, htm, hc, fun _ hx => absurd hx List.not_mem_nil,
          fun d b hb => absurd (List.suffix_nil.1 hb) (List.cons_ne_nil _ _)⟩
      | none =>
        rw [htm] at h
        obtain ⟨⟨o', loc'⟩, hs, e⟩ := Option.map_eq_some_iff.1 h
        cases e
        obtain ⟨c', t, rest, rfl, rfl, ht, hc', hnt, hmin⟩ := ih o' loc' hs
        refine ⟨c, c' :: t, rest, rfl, rfl, ht, hc, List.forall_mem_cons.2 ⟨hc', hnt⟩, fun d b hb => ?_⟩
        rcases List.suffix_cons_iff.1 hb with e | hb
        · cases e; exact htm
        · exact hmin d b hb

/-- an `@` inside the object would have ended it earlier -/
theorem at_of_first (t rest : Text) (loc : Option Text) (hnt : NoSpace t)
    (ht : tailMatch rest = some loc) (hmin : ∀ d b, (d :: b) <:+ t → tailMatch (d :: b ++ rest) = none) :
    if loc.isSome = true then 64 ∉ t else 64 ∉ t.dropLast := by
  have key : ∀ a b, t = a ++ 64 :: b → (b ≠ [] ∨ loc ≠ none) → False := by
    rintro a b rfl hh
    have hb : NoSpace b := fun x hx => hnt x (List.mem_append_right a (List.mem_cons_of_mem _ hx))
    have h1 := locBody_before_tail b rest loc hb ht hh
    have h2 := hmin 64 b (List.suffix_append a _)
    rw [List.cons_append, tailMatch, if_pos rfl] at h2
    cases hl : locBody (b ++ rest) with
    | none => rw [hl] at h1; cases h1
    | some L => rw [hl] at h2; cases h2
  cases loc with
  | some L =>
    show 64 ∉ t
    intro hm
    obtain ⟨a, b, e⟩ := List.append_of_mem hm
    exact key a b e (Or.inr (fun e => nomatch e))
  | none =>
    show 64 ∉ t.dropLast
    intro hm
    obtain ⟨a, b, e⟩ := List.append_of_mem hm
    have hne : t ≠ [] := fun e' => by rw [e'] at hm; cases hm
    have h := List.dropLast_concat_getLast hne
    rw [e, List.append_assoc] at h
    exact key a (b ++ [t.getLast hne]) h.symm (Or.inl (by simp))

theorem splitObj_spec (s o : Text) (loc : Option Text) (h : splitObj s = some (o, loc)) :
    ∃ rest, s = o ++ rest ∧ tailMatch rest = some loc ∧ ObjOK loc.isSome o := by
  obtain ⟨c, t, rest, rfl, rfl, ht, hc, hnt, hmin⟩ := splitObj_some s o loc h
  exact ⟨rest, rfl, ht, List.cons_ne_nil _ _, List.forall_mem_cons.2 ⟨hc, hnt⟩, at_of_first t rest loc hnt ht hmin⟩

/-! ### the object: what makes the split come back -/

theorem tailMatch_cons_none (c : Nat) (l : Text) (h64 : c ≠ 64) (h10 : c ≠ 10) : tailMatch (c :: l) = none := by
  simp only [tailMatch, if_neg h64]
  rw [if_neg (fun h => h10 h.1)]

theorem splitObj_first (rest : Text) (loc : Option Text) (ht : tailMatch rest = some loc) :
    ∀ (t : Text) (c : Nat), isSpace c = false → NoSpace t →
      (∀ d b, (d :: b) <:+ t → tailMatch (d :: b ++ rest) = none) →
      splitObj (c :: t ++ rest) = some (c :: t, loc) := by
  intro t
  induction t with
  | nil =>
    intro c hc _ _
    rw [List.cons_append, List.nil_append, splitObj_cons, hc, if_neg Bool.false_ne_true, ht]
  | cons d t ih =>
    intro c hc hns hsuf
    have ih' := ih d (hns d List.mem_cons_self) (fun x hx => hns x (List.mem_cons_of_mem _ hx))
      (fun d' b hb => hsuf d' b (hb.trans (List.suffix_cons d t)))
    rw [List.cons_append, splitObj_cons, hc, if_neg Bool.false_ne_true, hsuf d t (List.suffix_refl _), ih']
    rfl

theorem splitObj_with_loc (L : Text) (hL : L ≠ []) (hnl : 10 ∉ L) (t : Text) (c : Nat)
    (hc : isSpace c = false) (hns : NoSpace t) (h64 : 64 ∉ t) :
    splitObj (c :: t ++ 64 :: L) = some (c :: t, some L) := by
  have ht : tailMatch (64 :: L) = some (some L) := by
    rw [tailMatch, if_pos rfl, locBody_clean L hL hnl]; rfl
  refine splitObj_first _ _ ht t c hc hns (fun d b hb => ?_)
  have hd : d ∈ t := hb.subset List.mem_cons_self
  exact tailMatch_cons_none d _ (fun e => h64 (e ▸ hd)) (nospace_ne_nl d (hns d hd))

theorem splitObj_no_loc (t : Text) (c : Nat) (hc : isSpace c = false) (hns : NoSpace t)
    (h64 : 64 ∉ t.dropLast) : splitObj (c :: t) = some (c :: t, none) := by
  have h := splitObj_first [] none rfl t c hc hns (fun d b hb => ?_)
  · rwa [List.append_nil] at h
  · by_cases e : d = 64
    · -- an `@` that is not in `t.dropLast` is the last character of `t`
      obtain ⟨a, rfl⟩ := hb
      cases b with
      | nil => rw [e]; rfl
      | cons x b =>
        rw [List.dropLast_append_of_ne_nil (List.cons_ne_nil _ _),
          List.dropLast_cons_of_ne_nil (List.cons_ne_nil _ _)] at h64
        exact absurd (List.mem_append_right a (e ▸ List.mem_cons_self)) h64
    · exact tailMatch_cons_none d _ e (nospace_ne_nl d (hns d (hb.subset List.mem_cons_self)))

/-! ### `_parseLocation` -/

theorem startsWith_iff (p l : Text) : startsWith p l = true ↔ ∃ r, l = p ++ r := by
  unfold startsWith
  rw [List.isPrefixOf_iff_prefix]
  exact ⟨fun ⟨r, h⟩ => ⟨r, h.symm⟩, fun ⟨r, h⟩ => ⟨r, h.symm⟩⟩

theorem ipv6Match_some (l h : Text) (p : Option Text) (hm : ipv6Match l = some (h, p)) :
    h ≠ [] ∧ (∀ c ∈ h, isV6Char c = true) ∧ (∀ d, p = some d → d ≠ [] ∧ ∀ c ∈ d, isDigit c = true) := by
  unfold ipv6Match at hm
  split at hm
  · next r =>
    dsimp only at hm
    split at hm
    · cases hm
    · next hh =>
      have hv : ∀ c ∈ List.takeWhile isV6Char r, isV6Char c = true := fun c hc => (mem_takeWhile_sat _ _ c hc).1
      split at hm
      · split at hm
        · split at hm
          · -- `]:` without digits: matched, no port group
            cases hm
            exact ⟨hh, hv, fun d hd => by cases hd⟩
          · -- `]:` and digits: matched with the port group
            next hd =>
            cases hm
            exact ⟨hh, hv, fun d hd' => by cases hd'; exact ⟨hd, fun c hc => (mem_takeWhile_sat _ _ c hc).1⟩⟩
        · -- `]` and no `:`: matched, no port group
          cases hm
          exact ⟨hh, hv, fun d hd => by cases hd⟩
      · cases hm
  · cases hm

theorem ipv6Match_render (h d : Text) (hne : h ≠ []) (hv : ∀ c ∈ h, isV6Char c = true)
    (hd : d ≠ []) (hdd : ∀ c ∈ d, isDigit c = true) :
    ipv6Match (91 :: h ++ 93 :: 58 :: d) = some (h, some d) := by
  have h93 : isV6Char 93 = false := by decide
  simp only [List.cons_append, ipv6Match]
  rw [takeWhile_append_stop isV6Char h 93 _ hv h93, dropWhile_append_stop isV6Char h 93 _ hv h93]
  simp only [hne, if_false]
  rw [takeWhile_all isDigit d hdd]
  simp only [hd, if_false]

theorem partition_host (l : Text) : 58 ∉ (partitionColon l).1 ∧ (partitionColon l).1 <+: l :=
  ⟨fun hm => absurd (mem_takeWhile_sat (· != 58) l 58 hm).1 (by decide), List.takeWhile_prefix _⟩

theorem partition_render (h r : Text) (hh : 58 ∉ h) : partitionColon (h ++ 58 :: r) = (h, r) := by
  have hp : ∀ x ∈ h, (fun x => x != 58) x = true := fun x hx => bne_iff_ne.2 (fun e => hh (e ▸ hx))
  have h58 : (fun x => x != 58) 58 = false := by decide
  unfold partitionColon
  rw [takeWhile_append_stop (fun x => x != 58) h 58 r hp h58, dropWhile_append_stop (fun x => x != 58) h 58 r hp h58]
  rfl

theorem portValue_digits_nonneg (ds : Option Text) (d : Option Nat) (n : Int)
    (hds : ∀ x, ds = some x → x ≠ [] ∧ ∀ c ∈ x, isDigit c = true)
    (h : portValue ds d = some n) : 0 ≤ n := by
  cases ds with
  | none =>
    obtain ⟨k, _, rfl⟩ := Option.map_eq_some_iff.1 h
    exact Int.natCast_nonneg k
  | some x =>
    obtain ⟨h1, h2⟩ := hds x rfl
    rw [portValue, if_neg h1, pyInt_digits x h1 h2] at h
    cases h
    exact Int.natCast_nonneg _

theorem portValue_renderInt (p : Int) (d : Option Nat) : portValue (some (renderInt p)) d = some p := by
  rw [portValue, if_neg (renderInt_ne_nil p), pyInt_renderInt]

theorem parseLocation_none (g : Guards) (d : Option Nat) : parseLocation g none d = .ok .none := rfl

theorem parseLocation_sock (g : Guards) (d : Option Nat) (n : Text) :
    parseLocation g (some (sSockPrefix ++ n)) d =
      if n = [] ∨ 58 ∈ n then .error .location else .ok (.sock n) := by
  unfold parseLocation
  rfl

theorem parseLocation_bracket (g : Guards) (d : Option Nat) (r : Text) :
    parseLocation g (some (91 :: r)) d =
      if startsWith [91, 91] (91 :: r) = true then .error .brackets
      else match ipv6Match (91 :: r) with
        | none => .error .ipv6
        | some (h, p) =>
          match portValue p d with
          | none => .error .port
          | some n => .ok (.tcp h n) := by
  unfold parseLocation
  rfl

theorem parseLocation_hostPort (g : Guards) (d : Option Nat) (l : Text) (hne : l ≠ [])
    (hs : startsWith sSockPrefix l = false) (hb : l.head? ≠ some 91) :
    parseLocation g (some l) d =
      if g.host = true ∧ ((partitionColon l).1 = [] ∨ (partitionColon l).1 = sDotSlashU) then .error .location
      else match portValue (some (partitionColon l).2) d with
        | none => .error .port
        | some n => .ok (.tcp (partitionColon l).1 n) := by
  unfold parseLocation
  dsimp only
  rw [if_neg hne, hs, if_neg Bool.false_ne_true, if_neg hb]
  rfl

/-- what `_parseLocation` establishes for a location the pattern delivered -/
theorem parseLocation_valid (L : Text) (d : Option Nat) (loc : Loc) (hne : L ≠ []) (hnl : 10 ∉ L)
    (h : parseLocation Guards.on (some L) d = .ok loc) : LocOK loc ∧ loc.isSome = true := by
  cases hs : startsWith sSockPrefix L with
  | true =>
    obtain ⟨n, rfl⟩ := (startsWith_iff _ _).1 hs
    rw [parseLocation_sock] at h
    split at h
    · cases h
    · next hbad =>
      cases h
      exact ⟨⟨fun e => hbad (Or.inl e), fun e => hbad (Or.inr e), fun hm => hnl (List.mem_append_right _ hm)⟩, rfl⟩
  | false =>
    by_cases hb : L.head? = some 91
    · obtain ⟨r, rfl⟩ := List.head?_eq_some_iff.1 hb
      rw [parseLocation_bracket] at h
      split at h
      · cases h
      · split at h
        · cases h
        · next host p hm =>
          split at h
          · cases h
          · next n hp =>
            cases h
            obtain ⟨h1, h2, h3⟩ := ipv6Match_some _ host p hm
            refine ⟨⟨h1, fun hm => absurd (h2 10 hm) (by decide),
              fun _ => ⟨h2, portValue_digits_nonneg p d n h3 hp⟩, fun _ => ⟨?_, ?_⟩⟩, rfl⟩
            · intro e
              exact absurd (h2 46 (by rw [e]; decide)) (by decide)
            · obtain ⟨c, t, rfl⟩ := List.exists_cons_of_ne_nil h1
              exact fun e => absurd (Option.some.inj e ▸ h2 c List.mem_cons_self) (by decide)
    · rw [parseLocation_hostPort _ _ _ hne hs hb] at h
      obtain ⟨q1, t, q2⟩ := partition_host L
      split at h
      · cases h
      · next hg =>
        have hg' : (partitionColon L).1 ≠ [] ∧ (partitionColon L).1 ≠ sDotSlashU :=
          ⟨fun e => hg ⟨rfl, Or.inl e⟩, fun e => hg ⟨rfl, Or.inr e⟩⟩
        split at h
        · cases h
        · cases h
          refine ⟨⟨hg'.1, fun hm => hnl (q2 ▸ List.mem_append_left t hm), fun hm => absurd hm q1,
            fun _ => ⟨hg'.2, ?_⟩⟩, rfl⟩
          obtain ⟨c, h', e⟩ := List.exists_cons_of_ne_nil hg'.1
          rw [← q2, e] at hb
          rw [e]
          exact hb

/-- `_parseLocation` maps the `location` property of a valid location back to that location, whatever the default
    port and the guards -/
theorem parseLocation_render (g : Guards) (d : Option Nat) (loc : Loc) (h : LocOK loc) :
    parseLocation g (renderLoc loc) d = .ok loc ∧
    (renderLoc loc = none ∧ loc.isSome = false ∨
      ∃ L, renderLoc loc = some L ∧ L ≠ [] ∧ 10 ∉ L ∧ loc.isSome = true) := by
  cases loc with
  | none => exact ⟨rfl, Or.inl ⟨rfl, rfl⟩⟩
  | sock n =>
    obtain ⟨h1, h2, h3⟩ := h
    have hr : renderLoc (.sock n) = some (sSockPrefix ++ n) := if_neg h1
    rw [hr]
    refine ⟨?_, Or.inr ⟨_, rfl, by simp [sSockPrefix], fun hm => (List.mem_append.1 hm).elim (by decide) h3, rfl⟩⟩
    rw [parseLocation_sock, if_neg (fun e => e.elim h1 h2)]
  | tcp host p =>
    obtain ⟨h1, h2, h3, h4⟩ := h
    have hrnl : 10 ∉ renderInt p := fun hm =>
      (renderInt_chars p 10 hm).elim (fun h => absurd h (by decide)) (fun h => absurd h (by decide))
    by_cases hc : 58 ∈ host
    · obtain ⟨hv, hp⟩ := h3 hc
      have hr : renderLoc (.tcp host p) = some (91 :: host ++ 93 :: 58 :: renderInt p) := by
        rw [renderLoc, if_neg h1, if_pos hc]
      rw [hr]
      refine ⟨?_, Or.inr ⟨_, rfl, List.cons_ne_nil _ _, ?_, rfl⟩⟩
      · have hbb : ¬ startsWith [91, 91] (91 :: (host ++ 93 :: 58 :: renderInt p)) = true := by
          obtain ⟨c, t, rfl⟩ := List.exists_cons_of_ne_nil h1
          have : c ≠ 91 := fun e => absurd (e ▸ hv c List.mem_cons_self) (by decide)
          simp [startsWith, List.isPrefixOf, Ne.symm this]
        rw [List.cons_append, parseLocation_bracket, if_neg hbb, ← List.cons_append,
          ipv6Match_render host (renderInt p) h1 hv (renderInt_ne_nil p) (renderInt_nonneg_digits p hp)]
        dsimp only
        rw [portValue_renderInt]
      · simp only [List.cons_append, List.mem_cons, List.mem_append, not_or]
        exact ⟨by decide, h2, by decide, by decide, hrnl⟩
    · obtain ⟨hnu, hhd⟩ := h4 hc
      have hr : renderLoc (.tcp host p) = some (host ++ 58 :: renderInt p) := by
        rw [renderLoc, if_neg h1, if_neg hc]
      rw [hr]
      refine ⟨?_, Or.inr ⟨_, rfl, by simp, ?_, rfl⟩⟩
      · have hs : startsWith sSockPrefix (host ++ 58 :: renderInt p) = false := by
          cases hst : startsWith sSockPrefix (host ++ 58 :: renderInt p) with
          | false => rfl
          | true =>
            -- the text in front of the first ':' would be both `host` and "./u"
            obtain ⟨r, hr⟩ := (startsWith_iff _ _).1 hst
            have e := congrArg partitionColon hr
            rw [partition_render host _ hc, show sSockPrefix ++ r = sDotSlashU ++ 58 :: r from rfl,
              partition_render _ _ (by decide)] at e
            exact absurd (congrArg Prod.fst e) hnu
        have hhd' : (host ++ 58 :: renderInt p).head? ≠ some 91 := by
          obtain ⟨c, t, rfl⟩ := List.exists_cons_of_ne_nil h1
          exact hhd
        rw [parseLocation_hostPort g d _ (by simp) hs hhd', partition_render host (renderInt p) hc,
          if_neg (fun e => e.2.elim h1 hnu)]
        dsimp only
        rw [portValue_renderInt]
      · simp only [List.mem_cons, List.mem_append, not_or]
        exact ⟨h2, by decide, hrnl⟩

/-! ### `URI.__init__` establishes `Valid` -/

theorem map_parseLocation_ok (location : Option Text) (d : Option Nat) (f : Loc → Uri) (u : Uri)
    (hloc : ∀ L, location = some L → L ≠ [] ∧ 10 ∉ L)
    (h : (parseLocation Guards.on location d).map f = .ok u) :
    ∃ l, u = f l ∧ LocOK l ∧ l.isSome = location.isSome := by
  cases hp : parseLocation Guards.on location d with
  | error e => rw [hp] at h; cases h
  | ok l =>
    rw [hp] at h
    cases h
    refine ⟨l, rfl, ?_⟩
    cases location with
    | none =>
      rw [parseLocation_none] at hp
      cases hp
      exact ⟨trivial, rfl⟩
    | some L => exact parseLocation_valid L d l (hloc L rfl).1 (hloc L rfl).2 hp

theorem tags_valid (o : Text) (hns : NoSpace o)
    (hg : ¬ (((mkSet ((splitOn 44 o).map (strip isSpace))).all (·.isEmpty)) = true ∨
             ((mkSet ((splitOn 44 o).map (strip isSpace))).any (·.contains 64)) = true)) :
    TagsOK (mkSet ((splitOn 44 o).map (strip isSpace))) := by
  have hpieces : ∀ t ∈ splitOn 44 o, ∀ c ∈ t, isSpace c = false ∧ c ≠ 44 := fun t ht c hc =>
    have ⟨a, b⟩ := mem_splitAux 44 o [] t ht c hc
    ⟨hns c (a.resolve_left List.not_mem_nil), fun e => List.not_mem_nil (b e)⟩
  rw [map_strip_id _ _ (fun t ht c hc => (hpieces t ht c hc).1)] at hg ⊢
  obtain ⟨hg1, hg2⟩ := not_or.1 hg
  refine ⟨sorted_mkSet _, fun e => ?_, fun e => hg1 (by rw [e]; rfl), fun t ht c hc => ?_⟩
  · exact splitAux_ne_nil 44 o [] (List.eq_nil_iff_forall_not_mem.2 fun t ht =>
      List.not_mem_nil (e ▸ (mem_mkSet _ t).2 ht))
  · have hp := hpieces t ((mem_mkSet _ t).1 ht) c hc
    exact ⟨hp.1, hp.2, fun e => hg2 (List.any_eq_true.2 ⟨t, ht, List.contains_iff_mem.2 (e ▸ hc)⟩)⟩

theorem parse_valid (p : Nat) (s : Text) (u : Uri) (h : parse Guards.on p s = .ok u) : Valid u := by
  unfold parse at h
  cases hm : matchProtocol s with
  | none => rw [hm] at h; cases h
  | some x =>
    obtain ⟨ptxt, rest⟩ := x
    rw [hm] at h
    simp only at h
    cases hs : splitObj rest with
    | none => rw [hs] at h; cases h
    | some y =>
      obtain ⟨o, location⟩ := y
      rw [hs] at h
      simp only at h
      obtain ⟨rest', _, ht, hobj⟩ := splitObj_spec rest o location hs
      have hloc : ∀ L, location = some L → L ≠ [] ∧ 10 ∉ L := by
        rintro L rfl
        obtain ⟨l, _, hb⟩ := tailMatch_some_some rest' L ht
        exact ⟨(locBody_some l L hb).1, (locBody_some l L hb).2.1⟩
      by_cases h1 : ptxt.map upper = sPYRONAME
      · rw [if_pos h1] at h
        obtain ⟨l, rfl, a, b⟩ := map_parseLocation_ok _ _ _ u hloc h
        exact ⟨a, b ▸ hobj⟩
      · rw [if_neg h1] at h
        by_cases h2 : ptxt.map upper = sPYRO
        · rw [if_pos h2] at h
          by_cases hf : falsy location = true
          · rw [if_pos hf] at h; cases h
          · rw [if_neg hf] at h
            obtain ⟨l, rfl, a, b⟩ := map_parseLocation_ok _ _ _ u hloc h
            have hsome : location.isSome = true := by
              cases location with
              | none => exact absurd rfl hf
              | some L => rfl
            exact ⟨a, hsome ▸ hobj, b.trans hsome⟩
        · rw [if_neg h2] at h
          by_cases h3 : ptxt.map upper = sPYROMETA
          · rw [if_pos h3] at h
            by_cases hg : Guards.on.tags = true ∧
                (((mkSet ((splitOn 44 o).map (strip isSpace))).all (·.isEmpty)) = true ∨
                 ((mkSet ((splitOn 44 o).map (strip isSpace))).any (·.contains 64)) = true)
            · rw [if_pos hg] at h; cases h
            · rw [if_neg hg] at h
              obtain ⟨l, rfl, a, _⟩ := map_parseLocation_ok _ _ _ u hloc h
              exact ⟨a, tags_valid o hobj.2.1 (fun hh => hg ⟨rfl, hh⟩)⟩
          · rw [if_neg h3] at h; cases h

/-! ### the text form of a valid URI parses back -/

/-- what `__str__` appends for the location -/
def locSuffix (loc : Loc) : Text :=
  match renderLoc loc with
  | some l => if l = [] then [] else 64 :: l
  | none => []

def objText (u : Uri) (order : List Text) : Text :=
  match u.kind with
  | .pyro o => o
  | .pyroname o => o
  | .pyrometa _ => joinWith 44 order

theorem render_eq (u : Uri) (order : List Text) :
    render u order = u.kind.protoText ++ 58 :: (objText u order ++ locSuffix u.loc) := by
  obtain ⟨k, loc⟩ := u
  have hhead : ∀ t : Text, k.protoText ++ 58 :: (objText ⟨k, loc⟩ order ++ t) =
      (k.protoText ++ 58 :: objText ⟨k, loc⟩ order) ++ t := fun t => by simp
  rw [hhead]
  unfold render locSuffix
  cases renderLoc loc with
  | none => cases k <;> exact (List.append_nil _).symm
  | some l =>
    cases k <;>
    · rw [apply_ite (_ ++ ·), List.append_nil]
      rfl

theorem matchProtocol_protoText (k : Kind) (rest : Text) :
    matchProtocol (k.protoText ++ 58 :: rest) = some (k.protoText, rest) := by
  cases k <;> rfl

theorem splitObj_render (o : Text) (loc : Loc) (hl : LocOK loc) (ho : ObjOK loc.isSome o) :
    splitObj (o ++ locSuffix loc) = some (o, renderLoc loc) := by
  obtain ⟨hne, hns, hat⟩ := ho
  obtain ⟨c, t, rfl⟩ := List.exists_cons_of_ne_nil hne
  obtain ⟨hc, hnt⟩ := List.forall_mem_cons.1 hns
  unfold locSuffix
  rcases (parseLocation_render Guards.on none loc hl).2 with ⟨hr, hs⟩ | ⟨L, hr, hL1, hL2, hs⟩
  · rw [hs] at hat
    rw [hr, List.append_nil]
    exact splitObj_no_loc t c hc hnt hat
  · rw [hs] at hat
    rw [hr]
    dsimp only
    rw [if_neg hL1]
    exact splitObj_with_loc L hL1 hL2 t c hc hnt hat

theorem objOK_of_no_at (b : Bool) (o : Text) (hne : o ≠ []) (hns : NoSpace o) (h64 : 64 ∉ o) : ObjOK b o := by
  refine ⟨hne, hns, ?_⟩
  cases b
  · simp only [Bool.false_eq_true, if_false]
    exact fun hm => h64 (List.mem_of_mem_tail (List.dropLast_subset _ hm))
  · simp only [if_true]
    exact fun hm => h64 (List.mem_of_mem_tail hm)

theorem falsy_render (loc : Loc) (hl : LocOK loc) (hs : loc.isSome = true) : falsy (renderLoc loc) = false := by
  rcases (parseLocation_render Guards.on none loc hl).2 with ⟨_, h⟩ | ⟨L, hr, hne, _⟩
  · rw [hs] at h; cases h
  · obtain ⟨a, b, rfl⟩ := List.exists_cons_of_ne_nil hne
    rw [hr]; rfl

theorem tags_of_perm (tags order : List Text) (ht : TagsOK tags) (hp : order.Perm tags) :
    order ≠ [] ∧ order ≠ [[]] ∧ ∀ t ∈ order, ∀ c ∈ t, isSpace c = false ∧ c ≠ 44 ∧ c ≠ 64 := by
  obtain ⟨_, hne, hne1, hch⟩ := ht
  refine ⟨?_, ?_, fun t h => hch t (hp.mem_iff.1 h)⟩
  · rintro rfl; exact hne (List.Perm.nil_eq hp).symm
  · rintro rfl; exact hne1 (List.Perm.singleton_eq hp).symm

theorem tags_render (tags order : List Text) (ht : TagsOK tags) (hp : order.Perm tags) :
    mkSet ((splitOn 44 (joinWith 44 order)).map (strip isSpace)) = tags := by
  obtain ⟨hne, _, hch⟩ := tags_of_perm tags order ht hp
  rw [splitOn_join 44 order hne (fun x hx hm => (hch x hx 44 hm).2.1 rfl),
    map_strip_id _ _ (fun t ht c hc => (hch t ht c hc).1)]
  exact mkSet_of_mem_iff order tags ht.1 (fun x => hp.mem_iff)

theorem tags_guard (tags : List Text) (ht : TagsOK tags) :
    ¬ (tags.all (·.isEmpty) = true ∨ tags.any (·.contains 64) = true) := by
  obtain ⟨hs, hne, hne1, hch⟩ := ht
  rintro (hh | hh)
  · have : ∀ x ∈ tags, x = [] := fun x hx => List.isEmpty_iff.1 (List.all_eq_true.1 hh x hx)
    exact (sorted_all_nil tags hs this).elim hne hne1
  · obtain ⟨t, ht, hc⟩ := List.any_eq_true.1 hh
    exact (hch t ht 64 (List.contains_iff_mem.1 hc)).2.2 rfl

theorem objText_ok (u : Uri) (order : List Text) (hv : Valid u) (ho : OrderOK u order) :
    ObjOK u.loc.isSome (objText u order) := by
  obtain ⟨kind, loc⟩ := u
  cases kind with
  | pyro o =>
    obtain ⟨_, hobj, hsome⟩ := hv
    exact hsome ▸ hobj
  | pyroname o => exact hv.2
  | pyrometa tags =>
    obtain ⟨hne, hne1, hch⟩ := tags_of_perm tags order hv.2 ho
    have hchars : ∀ c ∈ joinWith 44 order, isSpace c = false ∧ c ≠ 64 := by
      intro c hc
      rcases mem_joinWith 44 order c hc with rfl | ⟨t, ht, hct⟩
      · exact ⟨by decide, by decide⟩
      · exact ⟨(hch t ht c hct).1, (hch t ht c hct).2.2⟩
    exact objOK_of_no_at _ _ (joinWith_ne_nil 44 order hne hne1) (fun c hc => (hchars c hc).1)
      (fun hm => (hchars 64 hm).2 rfl)

theorem parse_render (p : Nat) (u : Uri) (order : List Text) (hv : Valid u) (ho : OrderOK u order) :
    parse Guards.on p (render u order) = .ok u := by
  have hsplit := splitObj_render _ u.loc hv.1 (objText_ok u order hv ho)
  have hloc := fun d => (parseLocation_render Guards.on d u.loc hv.1).1
  rw [render_eq]
  unfold parse
  rw [matchProtocol_protoText]
  dsimp only
  rw [hsplit]
  dsimp only
  obtain ⟨kind, loc⟩ := u
  cases kind with
  | pyro o =>
    obtain ⟨hl, _, hsome⟩ := hv
    rw [if_neg (of_decide_eq_false rfl), if_pos (of_decide_eq_true rfl), falsy_render loc hl hsome,
      if_neg Bool.false_ne_true, hloc]
    rfl
  | pyroname o =>
    rw [if_pos (of_decide_eq_true rfl), hloc]
    rfl
  | pyrometa tags =>
    rw [if_neg (of_decide_eq_false rfl), if_neg (of_decide_eq_false rfl), if_pos (of_decide_eq_true rfl)]
    simp only [objText, tags_render tags order hv.2 ho]
    rw [if_neg (fun e => tags_guard tags hv.2 e.2), hloc]
    rfl

end Pyro.Uri
