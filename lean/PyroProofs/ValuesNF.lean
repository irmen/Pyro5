/-
  Normal forms of the four type mappings (PyroModel/Values.lean):
    * (A) `fix_val`   — a normal form goes through dumps / loads / recreate unchanged (all four serializers),
    * (B) `range_val` — whatever comes out of dumps / loads / recreate is a normal form.
  `xh`, `oh`, `r` throughout: is `ext_hook` / `object_hook` given to loads, does `recreate_classes` run afterwards;
  `phOK s xh oh r` ("phases OK") says the three are placed the way serializer `s` needs.
  Property theorems (lossless round trip, idempotence) are derived in PyroProps/C01.lean.
-/
import PyroProofs.Values

namespace Pyro.Values

open Pyro

@[simp] theorem bind_ok' {ε α β : Type} (a : α) (f : α → Except ε β) : (Except.ok a >>= f) = f a := rfl
@[simp] theorem bind_err' {ε α β : Type} (e : ε) (f : α → Except ε β) :
    ((Except.error e : Except ε α) >>= f) = Except.error e := rfl

theorem bind_eq_ok {ε α β : Type} (x : Except ε α) (f : α → Except ε β) (b : β) :
    (x >>= f) = .ok b ↔ ∃ a, x = .ok a ∧ f a = .ok b := by
  cases x with
  | error e => simp
  | ok a => simp

theorem bind_ok_right {ε α : Type} (x : Except ε α) : (x >>= fun a => Except.ok a) = x := by
  cases x <;> rfl

/-- the post-processing after the library's loads: `recreate_classes` when `r`, nothing otherwise -/
def post (r : Bool) (s : Ser) (d : Val) : Except Err Val := if r then recreate s d else .ok d
def postList (r : Bool) (s : Ser) (d : Vals) : Except Err Vals := if r then recList s d else .ok d
def postVals (r : Bool) (s : Ser) (d : Pairs) : Except Err Pairs := if r then recVals s d else .ok d

/-- which hooks run where: serpent / marshal / json = plain loads then `recreate_classes`;
    msgpack = `ext_hook` inside loads, and class dicts either by `object_hook` inside loads or by
    `recreate_classes` afterwards. -/
def phOK (s : Ser) (xh oh r : Bool) : Prop :=
  match s with
  | .msgpack => xh = true ∧ ((oh = true ∧ r = false) ∨ (oh = false ∧ r = true))
  | _ => xh = false ∧ oh = false ∧ r = true

theorem post_leaf (r : Bool) (s : Ser) (w : Val) (h : recreate s w = .ok w) : post r s w = .ok w := by
  cases r <;> simp [post, h]

theorem serpentFloat_of_not_nan (b : Nat) (h : isNan b = false) : serpentFloat b = .float b := by
  simp [serpentFloat, h]

/-! ### serpent: values that survive as set elements / dict keys are untouched by every phase (`hs_` = hashable, serpent) -/
mutual
theorem hs_val : ∀ k, hashOK k = true →
    enc .serpent true k = .ok k ∧ dec .serpent false false k = .ok k ∧ unhashable k = false ∧
    recreate .serpent k = .ok k ∧ nf .serpent k = true
  | .none, _ | .bool _, _ | .int _, _ | .str _, _ => by
    simp [enc, dec, unhashable, recreate, nf]
  | .float b, h => by
    have hb : isNan b = false := by simpa [hashOK] using h
    simp [enc, dec, unhashable, recreate, nf, serpentFloat_of_not_nan b hb, floatOk, hb]
  | .complex re im, h => by
    simp only [hashOK, Bool.and_eq_true, Bool.not_eq_true', bne_iff_ne, ne_eq] at h
    obtain ⟨⟨⟨h1, h2⟩, h3⟩, h4⟩ := h
    simp [enc, dec, unhashable, recreate, nf, h1, h2, h3, h4]
  | .tuple xs, h => by
    have ih := hs_list xs (by simpa [hashOK] using h)
    obtain ⟨i1, i2, i3, i4, i5⟩ := ih
    simp [enc, dec, unhashable, recreate, nf, i1, i2, i3, i4, i5]
  | .bytes _, h | .bytearray _, h | .list _, h | .set _, h | .frozenset _, h | .dict _, h | .uuid _, h
  | .decimal _, h | .date _, h | .ext _ _, h | .inst _ _, h => by
    simp [hashOK] at h
theorem hs_list : ∀ xs, hashOK.hashOKList xs = true →
    encList .serpent true xs = .ok xs ∧ decList .serpent false false xs = .ok xs ∧
    unhashable.unhashableList xs = false ∧ recList .serpent xs = .ok xs ∧ nfList .serpent xs = true
  | .nil, _ => by simp [encList, decList, unhashable.unhashableList, recList, nfList]
  | .cons x xs, h => by
    simp only [hashOK.hashOKList, Bool.and_eq_true] at h
    obtain ⟨a1, a2, a3, a4, a5⟩ := hs_val x h.1
    obtain ⟨b1, b2, b3, b4, b5⟩ := hs_list xs h.2
    simp [encList, decList, unhashable.unhashableList, recList, nfList, a1, a2, a3, a4, a5, b1, b2, b3, b4, b5]
end

theorem encElts_of_encList : ∀ (xs ys : Vals), xs.all serpentHashType = true →
    encList .serpent true xs = .ok ys → encElts true xs = .ok ys
  | .nil, ys, _, h => by simpa [encList, encElts] using h
  | .cons x xs, ys, ht, h => by
    simp only [Vals.all, Bool.and_eq_true] at ht
    simp only [encList, bind_eq_ok] at h
    obtain ⟨y, hy, ys', hys, e⟩ := h
    simp only [encElts, ht.1, if_true, hy, bind_ok', encElts_of_encList xs ys' ht.2 hys]
    exact e

/-! ### marshal: a normal form is untouched by dumps and loads (`mi_` = marshal, identity) -/
mutual
theorem mi_val : ∀ k, nf .marshal k = true →
    enc .marshal true k = .ok k ∧ dec .marshal false false k = .ok k
  | .none, _ | .bool _, _ | .int _, _ | .str _, _ | .float _, _ | .complex _ _, _ | .bytes _, _ => by
    simp [enc, dec]
  | .tuple xs, h | .list xs, h | .set xs, h | .frozenset xs, h => by
    obtain ⟨i1, i2⟩ := mi_list xs (by simpa [nf] using h)
    simp [enc, dec, i1, i2]
  | .dict kvs, h => by
    simp only [nf, Bool.and_eq_true] at h
    obtain ⟨i1, i2⟩ := mi_pairs kvs h.2 h.1.2
    simp [enc, dec, i1, i2]
  | .bytearray _, h | .uuid _, h | .decimal _, h | .date _, h | .ext _ _, h | .inst _ _, h => by
    simp [nf] at h
theorem mi_list : ∀ xs, nfList .marshal xs = true →
    encList .marshal true xs = .ok xs ∧ decList .marshal false false xs = .ok xs
  | .nil, _ => by simp [encList, decList]
  | .cons x xs, h => by
    simp only [nfList, Bool.and_eq_true] at h
    obtain ⟨a1, a2⟩ := mi_val x h.1
    obtain ⟨b1, b2⟩ := mi_list xs h.2
    simp [encList, decList, a1, a2, b1, b2]
theorem mi_pairs : ∀ kvs, nfPairs .marshal kvs = true → kvs.nodupKeys = true →
    encPairs .marshal true kvs = .ok kvs ∧ decPairs .marshal false false kvs = .ok kvs
  | .nil, _, _ => by simp [encPairs, decPairs]
  | .cons k v r, h, hn => by
    simp only [nfPairs, Bool.and_eq_true] at h
    simp only [Pairs.nodupKeys, Bool.and_eq_true, Bool.not_eq_true'] at hn
    obtain ⟨a1, a2⟩ := mi_val k h.1.1.2
    obtain ⟨b1, b2⟩ := mi_val v h.1.2
    obtain ⟨c1, c2⟩ := mi_pairs r h.2 hn.2
    simp [encPairs, decPairs, a1, a2, b1, b2, c1, c2, Pairs.pushFront_fresh k v r hn.1]
end

theorem nan_dict_dec : dec .serpent false false (serpentFloat nanBits) = .ok (serpentFloat nanBits) := by decide
theorem nan_dict_rec : recreate .serpent (serpentFloat nanBits) = .ok (.float nanBits) := by decide
/-- serpent has no literal for NaN: what it writes is not the float -/
theorem nan_dict_enc : serpentFloat nanBits ≠ .float nanBits := by decide

/-- the key part of `nfPairs` -/
def keyOK (s : Ser) (k : Val) : Bool :=
  match s with
  | .serpent => serpentHashType k && hashOK k && nf s k
  | .marshal => hashable k && nf s k
  | .json => isStr k
  | .msgpack => isStrOrBytes k

theorem nfPairs_cons (s : Ser) (k v : Val) (r : Pairs) :
    nfPairs s (.cons k v r) = (keyOK s k && nf s v && nfPairs s r) := by
  cases s <;> rfl

theorem postList_nil (r : Bool) (s : Ser) : postList r s .nil = .ok .nil := by cases r <;> rfl

theorem postList_cons (r : Bool) (s : Ser) (d : Val) (ds : Vals) : postList r s (.cons d ds) =
    (post r s d >>= fun w => postList r s ds >>= fun ws => .ok (.cons w ws)) := by cases r <;> rfl

theorem postVals_nil (r : Bool) (s : Ser) : postVals r s .nil = .ok .nil := by cases r <;> rfl

theorem postVals_cons (r : Bool) (s : Ser) (k d : Val) (ds : Pairs) : postVals r s (.cons k d ds) =
    (post r s d >>= fun w => postVals r s ds >>= fun ws => .ok (.cons k w ws)) := by cases r <;> rfl

theorem post_list (r : Bool) (s : Ser) (ds : Vals) :
    post r s (.list ds) = (postList r s ds >>= fun ws => .ok (.list ws)) := by cases r <;> rfl

theorem post_tuple (r : Bool) (s : Ser) (ds : Vals) :
    post r s (.tuple ds) = (postList r s ds >>= fun ws => .ok (.tuple ws)) := by cases r <;> rfl

theorem post_set (r : Bool) (s : Ser) (ds : Vals) :
    post r s (.set ds) = (postList r s ds >>= fun ws => .ok (.set ws)) := by cases r <;> rfl

theorem post_dict_plain (r : Bool) (s : Ser) (ds : Pairs) (h : ds.hasKey classKey = false) :
    post r s (.dict ds) = (postVals r s ds >>= fun ws => .ok (.dict ws)) := by
  cases r
  · rfl
  · simp only [post, postVals, recreate, h, if_true, if_false, Bool.false_eq_true]

/-- dumps and loads leave a key acceptable to `s` alone and do not reject it -/
theorem pair_key (s : Ser) (xh oh r : Bool) (hp : phOK s xh oh r) (k : Val) (hk : keyOK s k = true) :
    (∀ v rest, encPairs s true (.cons k v rest) =
      (enc s true v >>= fun a => encPairs s true rest >>= fun ps => .ok (.cons k a ps))) ∧
    (∀ a ps, decPairs s xh oh (.cons k a ps) =
      (dec s xh oh a >>= fun d => decPairs s xh oh ps >>= fun ds => .ok (ds.pushFront k d))) := by
  cases s with
  | serpent =>
    obtain ⟨hx, ho, _⟩ := hp
    subst hx; subst ho
    simp only [keyOK, Bool.and_eq_true] at hk
    obtain ⟨i1, i2, i3, _, _⟩ := hs_val k hk.1.2
    constructor
    · intro v rest
      simp only [encPairs, hk.1.1, if_true, i1, bind_ok']
    · intro a ps
      simp only [decPairs, i2, i3, bind_ok', reduceCtorEq, false_and, and_false, if_false, Bool.false_eq_true]
  | marshal =>
    obtain ⟨hx, ho, _⟩ := hp
    subst hx; subst ho
    simp only [keyOK, Bool.and_eq_true] at hk
    obtain ⟨i1, i2⟩ := mi_val k hk.2
    constructor
    · intro v rest
      simp only [encPairs, i1, bind_ok']
    · intro a ps
      simp only [decPairs, i2, bind_ok', reduceCtorEq, false_and, if_false]
  | json =>
    cases k with
    | str t =>
      constructor
      · intro v rest
        simp only [encPairs, jsonKey, bind_ok']
      · intro a ps
        simp only [decPairs, dec, bind_ok', reduceCtorEq, false_and, if_false]
    | _ => simp only [keyOK, isStr, Bool.false_eq_true] at hk
  | msgpack =>
    cases k with
    | str t | bytes t =>
      constructor
      · intro v rest
        simp only [encPairs, enc, bind_ok']
      · intro a ps
        simp only [decPairs, dec, isStrOrBytes, bind_ok', reduceCtorEq, false_and, and_false, if_false,
          Bool.not_true, Bool.false_eq_true]
    | _ => simp only [keyOK, isStrOrBytes, Bool.false_eq_true] at hk

/-! ### (A) a normal form is a fixed point of dumps ; loads ; post-processing -/
theorem fix_self {s : Ser} {xh oh r : Bool} {w : Val} (h1 : enc s true w = .ok w) (h2 : dec s xh oh w = .ok w)
    (h3 : recreate s w = .ok w) : ∃ a d, enc s true w = .ok a ∧ dec s xh oh a = .ok d ∧ post r s d = .ok w :=
  ⟨w, w, h1, h2, post_leaf _ _ _ h3⟩

mutual
theorem fix_val (s : Ser) (xh oh r : Bool) (hp : phOK s xh oh r) : ∀ w, nf s w = true →
    ∃ a d, enc s true w = .ok a ∧ dec s xh oh a = .ok d ∧ post r s d = .ok w
  | .none, _ | .bool _, _ | .str _, _ => fix_self (by simp [enc]) (by simp [dec]) (by simp [recreate])
  | .int z, _ => by
    cases s with
    | serpent | marshal | json => exact fix_self (by simp [enc]) (by simp [dec]) (by simp [recreate])
    | msgpack =>
      obtain ⟨hx, _⟩ := hp
      subst hx
      by_cases hr : i64Min ≤ z ∧ z < u64Bound
      · exact fix_self (by simp [enc, hr]) (by simp [dec]) (by simp [recreate])
      · exact ⟨.ext extLong (intToAscii z), .int z, by simp [enc, hr], by simp [dec, extHook_long],
          post_leaf _ _ _ (by simp [recreate])⟩
  | .float b, h => by
    cases s with
    | marshal | json | msgpack => exact fix_self (by simp [enc]) (by simp [dec]) (by simp [recreate])
    | serpent =>
      obtain ⟨hx, ho, hr⟩ := hp
      subst hx; subst ho; subst hr
      by_cases hn : isNan b = true
      · have hb : b = nanBits := by simpa [nf, floatOk, hn] using h
        subst hb
        exact ⟨serpentFloat nanBits, serpentFloat nanBits, by simp [enc], nan_dict_dec, by simp [post, nan_dict_rec]⟩
      · have hn' : isNan b = false := by simpa using hn
        exact fix_self (by simp [enc, serpentFloat_of_not_nan b hn']) (by simp [dec]) (by simp [recreate])
  | .bytes b, h => by
    cases s with
    | serpent | json => simp [nf] at h
    | marshal | msgpack => exact fix_self (by simp [enc]) (by simp [dec]) (by simp [recreate])
  | .list xs, h => by
    obtain ⟨as, ds, h1, h2, h3⟩ := fix_list s xh oh r hp xs (by simpa [nf] using h)
    exact ⟨.list as, .list ds, by simp only [enc, h1, bind_ok'], by simp only [dec, h2, bind_ok'],
      by simp only [post_list, h3, bind_ok']⟩
  | .tuple xs, h => by
    cases s with
    | json | msgpack => simp [nf] at h
    | serpent | marshal =>
      obtain ⟨as, ds, h1, h2, h3⟩ := fix_list _ xh oh r hp xs (by simpa [nf] using h)
      exact ⟨.tuple as, .tuple ds, by simp only [enc, h1, bind_ok'], by simp only [dec, h2, bind_ok'],
        by simp only [post_tuple, h3, bind_ok']⟩
  | .set xs, h => by
    cases s with
    | json | msgpack => simp [nf] at h
    | marshal =>
      obtain ⟨as, ds, h1, h2, h3⟩ := fix_list .marshal xh oh r hp xs (by simpa [nf] using h)
      exact ⟨.set as, .set ds, by simp only [enc, h1, bind_ok'],
        by simp only [dec, h2, bind_ok', reduceCtorEq, false_and, if_false], by simp only [post_set, h3, bind_ok']⟩
    | serpent =>
      obtain ⟨hx, ho, hr⟩ := hp
      subst hx; subst ho; subst hr
      simp only [nf, Bool.and_eq_true] at h
      obtain ⟨⟨⟨hne, ht⟩, hh⟩, _⟩ := h
      obtain ⟨i1, i2, i3, i4, _⟩ := hs_list xs hh
      have he := encElts_of_encList xs xs ht i1
      refine ⟨.set xs, .set xs, ?_, by simp [dec, i2, i3], by simp [post, recreate, i4]⟩
      cases xs with
      | nil => simp at hne
      | cons x xs' => simp [enc, he]
  | .frozenset xs, h => by
    cases s with
    | json | msgpack | serpent => simp [nf] at h
    | marshal =>
      -- recreate_classes does not look inside a frozenset (`t is set` only): dumps / loads are the identity here
      obtain ⟨hx, ho, hr⟩ := hp
      subst hx; subst ho; subst hr
      obtain ⟨i1, i2⟩ := mi_list xs (by simpa [nf] using h)
      exact fix_self (by simp [enc, i1]) (by simp [dec, i2]) (by simp [recreate])
  | .dict kvs, h => by
    simp only [nf, Bool.and_eq_true, Bool.not_eq_true'] at h
    obtain ⟨⟨hc, hn⟩, hv⟩ := h
    obtain ⟨ps, ds, h1, h2, h3, hk⟩ := fix_pairs s xh oh r hp kvs hv hn
    have hck : ds.hasKey classKey = false := by rw [hk]; exact hc
    exact ⟨.dict ps, .dict ds, by simp only [enc, h1, bind_ok'],
      by simp only [dec, h2, hck, bind_ok', and_false, if_false, Bool.false_eq_true],
      by simp only [post_dict_plain r s ds hck, h3, bind_ok']⟩
  | .complex re im, h => by
    cases s with
    | json => simp [nf] at h
    | marshal => exact fix_self (by simp [enc]) (by simp [dec]) (by simp [recreate])
    | serpent =>
      simp only [nf, Bool.and_eq_true, Bool.not_eq_true', bne_iff_ne, ne_eq] at h
      obtain ⟨⟨⟨h1, h2⟩, h3⟩, h4⟩ := h
      exact fix_self (by simp [enc, h1, h2, h3, h4]) (by simp [dec]) (by simp [recreate])
    | msgpack =>
      obtain ⟨hx, _⟩ := hp
      subst hx
      simp only [nf, Bool.and_eq_true, decide_eq_true_eq] at h
      exact ⟨.ext extComplex (toLE 8 re ++ toLE 8 im), .complex re im, by simp [enc],
        by simp [dec, extHook_complex re im h.1 h.2], post_leaf _ _ _ (by simp [recreate])⟩
  | .date ord, h => by
    cases s with
    | json | marshal | serpent => simp [nf] at h
    | msgpack =>
      obtain ⟨hx, _⟩ := hp
      subst hx
      simp only [nf, Bool.and_eq_true, decide_eq_true_eq] at h
      exact ⟨.ext extDate (toLE 8 ord), .date ord, by simp [enc],
        by simp [dec, extHook_date ord h.1 h.2], post_leaf _ _ _ (by simp [recreate])⟩
  | .bytearray _, h | .uuid _, h | .decimal _, h | .ext _ _, h | .inst _ _, h => by
    simp [nf] at h
theorem fix_list (s : Ser) (xh oh r : Bool) (hp : phOK s xh oh r) : ∀ ws, nfList s ws = true →
    ∃ as ds, encList s true ws = .ok as ∧ decList s xh oh as = .ok ds ∧ postList r s ds = .ok ws
  | .nil, _ => ⟨.nil, .nil, rfl, rfl, postList_nil r s⟩
  | .cons x xs, h => by
    simp only [nfList, Bool.and_eq_true] at h
    obtain ⟨a, d, a1, a2, a3⟩ := fix_val s xh oh r hp x h.1
    obtain ⟨as, ds, b1, b2, b3⟩ := fix_list s xh oh r hp xs h.2
    exact ⟨.cons a as, .cons d ds, by simp only [encList, a1, b1, bind_ok'], by simp only [decList, a2, b2, bind_ok'],
      by simp only [postList_cons, a3, b3, bind_ok']⟩
theorem fix_pairs (s : Ser) (xh oh r : Bool) (hp : phOK s xh oh r) : ∀ kvs, nfPairs s kvs = true →
    kvs.nodupKeys = true →
    ∃ ps ds, encPairs s true kvs = .ok ps ∧ decPairs s xh oh ps = .ok ds ∧ postVals r s ds = .ok kvs ∧
      (∀ k, ds.hasKey k = kvs.hasKey k)
  | .nil, _, _ => ⟨.nil, .nil, rfl, rfl, postVals_nil r s, fun _ => rfl⟩
  | .cons k v rest, h, hn => by
    simp only [nfPairs_cons, Bool.and_eq_true] at h
    simp only [Pairs.nodupKeys, Bool.and_eq_true, Bool.not_eq_true'] at hn
    obtain ⟨⟨hkey, hv⟩, hrest⟩ := h
    obtain ⟨a, d, a1, a2, a3⟩ := fix_val s xh oh r hp v hv
    obtain ⟨ps, ds, b1, b2, b3, hk⟩ := fix_pairs s xh oh r hp rest hrest hn.2
    obtain ⟨ek, dk⟩ := pair_key s xh oh r hp k hkey
    -- the key is new to the dict built so far, so it is put in front
    have hpush := Pairs.pushFront_fresh k d ds (by rw [hk]; exact hn.1)
    refine ⟨.cons k a ps, .cons k d ds, by simp only [ek, a1, b1, bind_ok'], by simp only [dk, a2, b2, bind_ok', hpush],
      by simp only [postVals_cons, a3, b3, bind_ok'], ?_⟩
    intro k'
    simp only [Pairs.hasKey, hk]
end

/-! ### (B) whatever comes out of dumps ; loads ; post-processing is a normal form -/

theorem dictToClass_ok (s : Ser) (d : Pairs) (w : Val) (h : dictToClass s d = .ok w) :
    s = .serpent ∧ w = .float nanBits := by
  unfold dictToClass at h
  split at h
  · rename_i name hl
    split at h
    · rename_i hc
      split at h
      · split at h
        · cases h; exact ⟨hc.1, rfl⟩
        · cases h
      · cases h
    · split at h
      · cases h
      · split at h <;> cases h
  · cases h

/-- A dict on the wire that `loads` accepts comes back as a dict: msgpack's `object_hook` accepts no class dict. -/
theorem dec_dict_shape (s : Ser) (xh oh : Bool) (kvs : Pairs) (d : Val)
    (h : dec s xh oh (.dict kvs) = .ok d) :
    ∃ ds, decPairs s xh oh kvs = .ok ds ∧ ¬(s = .msgpack ∧ oh = true ∧ ds.hasKey classKey = true) ∧
      d = .dict ds := by
  simp only [dec, bind_eq_ok] at h
  obtain ⟨ds, h1, h2⟩ := h
  refine ⟨ds, h1, ?_⟩
  by_cases c : s = .msgpack ∧ oh = true ∧ ds.hasKey classKey = true
  · rw [if_pos c] at h2
    cases (dictToClass_ok _ _ _ h2).1
  · rw [if_neg c] at h2
    cases h2
    exact ⟨c, rfl⟩

theorem decPairs_hasKey_str (s : Ser) (xh oh : Bool) (t : Str) : ∀ (ps ds : Pairs),
    decPairs s xh oh ps = .ok ds → ps.hasKey (.str t) = true → ds.hasKey (.str t) = true
  | .nil, _, _, h => by simp [Pairs.hasKey] at h
  | .cons k v rest, ds, hd, hk => by
    simp only [decPairs, bind_eq_ok] at hd
    obtain ⟨k', h1, v', h2, h3⟩ := hd
    split at h3
    · cases h3
    · split at h3
      · cases h3
      · simp only [bind_eq_ok] at h3
        obtain ⟨r, h4, h5⟩ := h3
        cases h5
        rw [Pairs.hasKey_pushFront]
        simp only [Pairs.hasKey] at hk
        by_cases e : k = .str t
        · subst e
          simp only [dec] at h1
          cases h1
          simp
        · rw [if_neg e] at hk
          have := decPairs_hasKey_str s xh oh t rest r h4 hk
          rw [this]; simp

theorem hasKey_set_self (k v : Val) : ∀ (d : Pairs), (d.set k v).hasKey k = true
  | .nil => by simp [Pairs.set, Pairs.hasKey]
  | .cons k' v' r => by
    simp only [Pairs.set]
    by_cases e : k' = k
    · rw [if_pos e]; simp [Pairs.hasKey]
    · rw [if_neg e]; simp [Pairs.hasKey, e, hasKey_set_self k v r]

theorem dec_serpent_dict_unhashable {kvs : Pairs} {d : Val} (h : dec .serpent false false (.dict kvs) = .ok d)
    (hu : unhashable d = false) : False := by
  obtain ⟨ds, _, _, e⟩ := dec_dict_shape _ _ _ _ _ h
  subst e
  simp [unhashable] at hu

/-! ### serpent: whatever survives as a set element / dict key after dumps ; loads is one of the values `hs_val` speaks of (`hsr_` = its range) -/
mutual
theorem hsr_val : ∀ x a d, enc .serpent true x = .ok a → dec .serpent false false a = .ok d →
    unhashable d = false →
    hashOK d = true ∧ (serpentHashType x = true → serpentHashType d = true)
  | .none, a, d, h1, h2, _ | .bool _, a, d, h1, h2, _ | .int _, a, d, h1, h2, _ | .str _, a, d, h1, h2, _
  | .uuid _, a, d, h1, h2, _ | .decimal _, a, d, h1, h2, _ | .date _, a, d, h1, h2, _ => by
    simp [enc] at h1
    subst h1
    simp [dec] at h2
    subst h2
    simp [hashOK, serpentHashType]
  | .float b, a, d, h1, h2, hu => by
    simp [enc] at h1; subst h1
    cases hn : isNan b with
    | true =>
      simp only [serpentFloat, hn, if_true] at h2
      exact (dec_serpent_dict_unhashable h2 hu).elim
    | false =>
      rw [serpentFloat_of_not_nan b hn] at h2
      simp [dec] at h2
      subst h2
      simp [hashOK, serpentHashType, hn]
  | .bytes b, a, d, h1, h2, hu | .bytearray b, a, d, h1, h2, hu => by
    simp [enc, serpentBytes] at h1; subst h1
    exact (dec_serpent_dict_unhashable h2 hu).elim
  | .list xs, a, d, h1, h2, hu => by
    simp only [enc, bind_eq_ok] at h1
    obtain ⟨ys, _, e⟩ := h1; cases e
    simp only [dec, bind_eq_ok] at h2
    obtain ⟨ds, _, e⟩ := h2; cases e
    simp [unhashable] at hu
  | .tuple xs, a, d, h1, h2, hu => by
    simp only [enc, bind_eq_ok] at h1
    obtain ⟨ys, g1, e⟩ := h1; cases e
    simp only [dec, bind_eq_ok] at h2
    obtain ⟨ds, g2, e⟩ := h2; cases e
    simp only [unhashable] at hu
    simp [hashOK, serpentHashType, hsr_list xs ys ds g1 g2 hu]
  | .set xs, a, d, h1, h2, hu | .frozenset xs, a, d, h1, h2, hu => by
    cases xs with
    | nil =>
      simp [enc] at h1; subst h1; simp [dec, decList] at h2; subst h2
      simp [hashOK, hashOK.hashOKList, serpentHashType]
    | cons x xs =>
      simp only [enc, bind_eq_ok] at h1
      obtain ⟨ys, _, e⟩ := h1; cases e
      simp only [dec, bind_eq_ok] at h2
      obtain ⟨ds, _, e⟩ := h2
      split at e
      · cases e
      · cases e; simp [unhashable] at hu
  | .complex re im, a, d, h1, h2, hu => by
    simp only [enc] at h1
    split at h1
    · cases h1
      exact (dec_serpent_dict_unhashable h2 hu).elim
    · rename_i hn
      split at h1
      · cases h1
      · rename_i hz
        cases h1
        simp [dec] at h2; subst h2
        simp only [Bool.or_eq_true, not_or, Bool.not_eq_true] at hn
        simp only [not_or] at hz
        simp [hashOK, serpentHashType, hn.1, hn.2, hz.1, hz.2]
  | .ext _ _, a, d, h1, _, _ => by simp [enc] at h1
  | .dict _, a, d, h1, h2, hu | .inst _ _, a, d, h1, h2, hu => by
    simp only [enc, bind_eq_ok] at h1
    obtain ⟨ys, _, e⟩ := h1; cases e
    exact (dec_serpent_dict_unhashable h2 hu).elim
theorem hsr_list : ∀ xs as ds, encList .serpent true xs = .ok as → decList .serpent false false as = .ok ds →
    unhashable.unhashableList ds = false → hashOK.hashOKList ds = true
  | .nil, as, ds, h1, h2, _ => by
    simp [encList] at h1
    subst h1
    simp [decList] at h2
    subst h2
    rfl
  | .cons x xs, as, ds, h1, h2, hu => by
    simp only [encList, bind_eq_ok] at h1
    obtain ⟨a, g1, as', g2, e⟩ := h1; cases e
    simp only [decList, bind_eq_ok] at h2
    obtain ⟨d, g3, ds', g4, e⟩ := h2; cases e
    simp only [unhashable.unhashableList, Bool.or_eq_false_iff] at hu
    simp [hashOK.hashOKList, (hsr_val x a d g1 g3 hu.1).1, hsr_list xs as' ds' g2 g4 hu.2]
end

theorem hsr_elts : ∀ xs ys ds, encElts true xs = .ok ys → decList .serpent false false ys = .ok ds →
    unhashable.unhashableList ds = false → ds.all serpentHashType = true ∧ hashOK.hashOKList ds = true
  | .nil, ys, ds, h1, h2, _ => by
    simp [encElts] at h1
    subst h1
    simp [decList] at h2
    subst h2
    exact ⟨rfl, rfl⟩
  | .cons x xs, ys, ds, h1, h2, hu => by
    simp only [encElts] at h1
    split at h1
    · rename_i ht
      simp only [bind_eq_ok] at h1
      obtain ⟨a, g1, ys', g2, e⟩ := h1; cases e
      simp only [decList, bind_eq_ok] at h2
      obtain ⟨d, g3, ds', g4, e⟩ := h2; cases e
      simp only [unhashable.unhashableList, Bool.or_eq_false_iff] at hu
      obtain ⟨i1, i2⟩ := hsr_val x a d g1 g3 hu.1
      obtain ⟨j1, j2⟩ := hsr_elts xs ys' ds' g2 g4 hu.2
      simp [Vals.all, hashOK.hashOKList, i1, i2 ht, j1, j2]
    · cases h1

/-! ### marshal: a hashable value that can be dumped is a normal form, so (`mi_val`) dumps and loads leave it alone (`hmr_`) -/
mutual
theorem hmr_val : ∀ k a, hashable k = true → enc .marshal true k = .ok a → nf .marshal k = true
  | .none, _, _, _ | .bool _, _, _, _ | .int _, _, _, _ | .float _, _, _, _ | .str _, _, _, _ | .bytes _, _, _, _
  | .complex _ _, _, _, _ => by
    simp [nf]
  | .uuid _, _, _, h1 | .decimal _, _, _, h1 | .date _, _, _, h1 => by
    simp [enc] at h1
  | .tuple xs, _, hh, h1 | .frozenset xs, _, hh, h1 => by
    simp only [enc, bind_eq_ok] at h1
    obtain ⟨ys, g1, _⟩ := h1
    simpa [nf] using hmr_list xs ys (by simpa [hashable] using hh) g1
  | .bytearray _, _, hh, _ | .list _, _, hh, _ | .set _, _, hh, _ | .dict _, _, hh, _ | .ext _ _, _, hh, _
  | .inst _ _, _, hh, _ => by
    simp [hashable] at hh
theorem hmr_list : ∀ xs as, hashable.hashableList xs = true → encList .marshal true xs = .ok as →
    nfList .marshal xs = true
  | .nil, _, _, _ => by simp [nfList]
  | .cons x xs, _, hh, h1 => by
    simp only [hashable.hashableList, Bool.and_eq_true] at hh
    simp only [encList, bind_eq_ok] at h1
    obtain ⟨a, g1, as', g2, _⟩ := h1
    simp [nfList, hmr_val x a hh.1 g1, hmr_list xs as' hh.2 g2]
end

/-! ### (B) for dicts: what loads built, before and after the post-processing -/

/-- decoded dict whose keys are acceptable and whose values post-process only into normal forms -/
def GoodPairs (s : Ser) (r : Bool) : Pairs → Prop
  | .nil => True
  | .cons k d rest => keyOK s k = true ∧ (∀ w, post r s d = .ok w → nf s w = true) ∧ GoodPairs s r rest

theorem good_lookup (s : Ser) (r : Bool) (k : Val) : ∀ (ds : Pairs) (d : Val), GoodPairs s r ds →
    ds.lookup k = some d → ∀ w, post r s d = .ok w → nf s w = true
  | .nil, _, _, h => by simp [Pairs.lookup] at h
  | .cons k' d' rest, d, hg, h => by
    simp only [Pairs.lookup] at h
    by_cases e : k' = k
    · rw [if_pos e] at h; cases h; exact hg.2.1
    · rw [if_neg e] at h; exact good_lookup s r k rest d hg.2.2 h

theorem good_erase (s : Ser) (r : Bool) (k : Val) : ∀ (ds : Pairs), GoodPairs s r ds → GoodPairs s r (ds.erase k)
  | .nil, _ => trivial
  | .cons k' d' rest, hg => by
    simp only [Pairs.erase]
    by_cases e : k' = k
    · rw [if_pos e]; exact good_erase s r k rest hg.2.2
    · rw [if_neg e]; exact ⟨hg.1, hg.2.1, good_erase s r k rest hg.2.2⟩

theorem good_pushFront (s : Ser) (r : Bool) (k d : Val) (ds : Pairs) (hk : keyOK s k = true)
    (hd : ∀ w, post r s d = .ok w → nf s w = true) (hg : GoodPairs s r ds) : GoodPairs s r (ds.pushFront k d) := by
  unfold Pairs.pushFront
  cases hl : ds.lookup k with
  | none => exact ⟨hk, hd, hg⟩
  | some d' => exact ⟨hk, good_lookup s r k ds d' hg hl, good_erase s r k ds hg⟩

theorem good_postVals (s : Ser) (r : Bool) : ∀ (ds ws : Pairs), GoodPairs s r ds → postVals r s ds = .ok ws →
    nfPairs s ws = true ∧ ws.nodupKeys = ds.nodupKeys ∧ ∀ k, ws.hasKey k = ds.hasKey k
  | .nil, ws, _, h => by
    simp only [postVals_nil, Except.ok.injEq] at h; subst h
    exact ⟨rfl, rfl, fun _ => rfl⟩
  | .cons k d rest, ws, hg, h => by
    obtain ⟨hk, hd, hr⟩ := hg
    simp only [postVals_cons, bind_eq_ok] at h
    obtain ⟨w, g1, ws', g2, e⟩ := h; cases e
    obtain ⟨i1, i2, i3⟩ := good_postVals s r rest ws' hr g2
    exact ⟨by simp only [nfPairs_cons, hk, hd w g1, i1, Bool.and_self], by simp only [Pairs.nodupKeys, i2, i3],
      fun k' => by simp only [Pairs.hasKey, i3]⟩

/-! ### (B) for the values without members, and for serpent's sets -/

theorem jsonKey_isStr (k ka : Val) (h : jsonKey k = .ok ka) : ∃ t, ka = .str t := by
  cases k with
  | str _ | none | int _ => exact ⟨_, (Except.ok.inj h).symm⟩
  | bool b => cases b <;> exact ⟨_, (Except.ok.inj h).symm⟩
  | float bits =>
    simp only [jsonKey] at h
    split at h
    · exact ⟨_, (Except.ok.inj h).symm⟩
    · split at h
      · exact ⟨_, (Except.ok.inj h).symm⟩
      · split at h
        · exact ⟨_, (Except.ok.inj h).symm⟩
        · cases h
  | _ => cases h

theorem fromLE_lt (bs : Bytes) : fromLE bs < 256 ^ bs.length := by
  unfold fromLE
  have := fromBE_lt bs.reverse
  simpa using this

theorem serpentBytes_rt (b : Bytes) :
    dec .serpent false false (serpentBytes b) = .ok (serpentBytes b) ∧
    recreate .serpent (serpentBytes b) = .ok (serpentBytes b) ∧ nf .serpent (serpentBytes b) = true := by
  have e1 : (Val.str sEncoding = Val.str sData) = False := by decide
  have e2 : (Val.str sData = Val.str sEncoding) = False := by decide
  have e3 : (Val.str sData = classKey) = False := by decide
  have e4 : (Val.str sEncoding = classKey) = False := by decide
  refine ⟨?_, ?_, ?_⟩
  · simp [serpentBytes, dec, decPairs, unhashable, Pairs.pushFront, Pairs.lookup, e1]
  · simp [serpentBytes, recreate, recVals, Pairs.hasKey, e3, e4]
  · simp [serpentBytes, nf, nfPairs, Pairs.hasKey, Pairs.nodupKeys, serpentHashType, hashOK, e1, e3, e4]


theorem post_ok_leaf (r : Bool) (s : Ser) (d w : Val) (hrec : recreate s d = .ok d) (h : post r s d = .ok w) : w = d := by
  rw [post_leaf r s d hrec] at h
  cases h
  rfl

theorem nf_nan (s : Ser) : nf s (.float nanBits) = true := by
  cases s <;> decide

/-- the only class dict `recreate_classes` accepts is serpent's NaN -/
theorem post_class_dict (s : Ser) (ds : Pairs) (w : Val) (hk : ds.hasKey classKey = true)
    (h : post true s (.dict ds) = .ok w) : nf s w = true := by
  simp only [post, if_true, recreate, hk] at h
  obtain ⟨_, e⟩ := dictToClass_ok s ds w h
  subst e
  exact nf_nan s

/-- post-processing a decoded dict: either a class dict (only serpent's NaN is ever re-created) or value-wise -/
theorem post_dict (s : Ser) (r : Bool) (ds : Pairs) (w : Val) (hn : ds.nodupKeys = true)
    (hg : GoodPairs s r ds) (hoh : r = false → ds.hasKey classKey = false)
    (h : post r s (.dict ds) = .ok w) : nf s w = true := by
  cases hc : ds.hasKey classKey with
  | false =>
    simp only [post_dict_plain r s ds hc, bind_eq_ok] at h
    obtain ⟨ws, g, e⟩ := h; cases e
    obtain ⟨i1, i2, i3⟩ := good_postVals s r ds ws hg g
    simp only [nf, i1, i2, i3, hn, hc, Bool.not_false, Bool.and_self]
  | true =>
    cases r with
    | false => rw [hoh rfl] at hc; cases hc
    | true => exact post_class_dict s ds w hc h

/-- `rleaf h1 h2 h3`: the case of (B) in which `enc` (`h1`), `dec` (`h2`) and the post-processing (`h3`) all leave
    the value alone; substitutes the three equations and evaluates `nf`. -/
macro "rleaf" h1:ident h2:ident h3:ident : tactic => `(tactic| (
  simp [enc] at $h1:ident; subst $h1:ident; simp [dec] at $h2:ident; subst $h2:ident
  have := post_ok_leaf _ _ _ _ (by simp [recreate]) $h3:ident; subst this; simp [nf]))

theorem phOK_r_true (s : Ser) (xh oh r : Bool) (hp : phOK s xh oh r) (hs : s ≠ .msgpack) : xh = false ∧ oh = false ∧ r = true := by
  cases s <;> simp_all [phOK]

theorem extHook_date_ok (data : Bytes) (d : Val) (h : extHook extDate data = .ok d) :
    ∃ n, d = .date n ∧ 1 ≤ n ∧ n ≤ maxOrdinal := by
  unfold extHook at h
  rw [if_neg (by decide), if_neg (by decide), if_neg (by decide), if_pos rfl] at h
  split at h
  · simp only at h
    split at h
    · rename_i hc; cases h; exact ⟨_, rfl, hc.1, hc.2⟩
    · cases h
  · cases h

theorem extHook_complex_ok (data : Bytes) (d : Val) (h : extHook extComplex data = .ok d) :
    data.length = 16 ∧ d = .complex (fromLE (data.take 8)) (fromLE (data.drop 8)) := by
  unfold extHook at h
  rw [if_pos rfl] at h
  split at h
  · rename_i hc; cases h; exact ⟨hc, rfl⟩
  · cases h

/-- (B) for a serpent set; a frozenset is written exactly like the set of the same elements -/
theorem range_serpent_set (xs : Vals) (a d w : Val) (h1 : enc .serpent true (.set xs) = .ok a)
    (h2 : dec .serpent false false a = .ok d) (h3 : post true .serpent d = .ok w) : nf .serpent w = true := by
  cases xs with
  | nil =>
    simp [enc] at h1; subst h1; simp [dec, decList] at h2; subst h2
    simp [post, recreate, recList] at h3; subst h3; simp [nf, nfList]
  | cons x xs =>
    simp only [enc, bind_eq_ok] at h1
    obtain ⟨ys, g1, e⟩ := h1; cases e
    simp only [dec, bind_eq_ok] at h2
    obtain ⟨ds, g2, e⟩ := h2
    split at e
    · cases e
    · rename_i c
      cases e
      have hu : unhashable.unhashableList ds = false := by
        cases hh : unhashable.unhashableList ds with
        | false => rfl
        | true => simp [hh] at c
      obtain ⟨i1, i2⟩ := hsr_elts (.cons x xs) ys ds g1 g2 hu
      obtain ⟨_, _, _, i3, i4⟩ := hs_list ds i2
      simp [post, recreate, i3] at h3; subst h3
      -- ds is non-empty because the input was
      simp only [encElts] at g1
      split at g1
      · simp only [bind_eq_ok] at g1
        obtain ⟨y, _, ys', _, e⟩ := g1; cases e
        simp only [decList, bind_eq_ok] at g2
        obtain ⟨d0, _, ds', _, e⟩ := g2; cases e
        simp [nf, i1, i2, i4]
      · cases g1

/-- With no `recreate_classes` afterwards (`r = false`) the serializer is msgpack with `object_hook`, which has
    met every class dict inside `loads`: a dict that came out of it has no class key. -/
theorem plain_no_classKey (s : Ser) (xh oh : Bool) (hp : phOK s xh oh false) (ds : Pairs)
    (hc : ¬(s = .msgpack ∧ oh = true ∧ ds.hasKey classKey = true)) : ds.hasKey classKey = false := by
  cases s with
  | msgpack =>
    obtain ⟨_, ⟨ho, _⟩ | ⟨_, c⟩⟩ := hp
    · cases hk : ds.hasKey classKey with
      | false => rfl
      | true => exact absurd ⟨rfl, ho, hk⟩ hc
    · cases c
  | serpent | marshal | json =>
    obtain ⟨_, _, c⟩ := hp
    cases c

/-- (B) for `mk xs`, given (B) for the elements (`ih`): `mk` is a sequence container (list, tuple, set), which
    `dec` (`hdec`) and the post-processing (`hpost`) map element by element and `nf` (`hnf`) judges element by element. -/
theorem range_seq (s : Ser) (xh oh r : Bool) (xs : Vals) (mk : Vals → Val)
    (ih : ∀ as ds ws, encList s true xs = .ok as → decList s xh oh as = .ok ds → postList r s ds = .ok ws →
      nfList s ws = true)
    (hdec : ∀ zs, dec s xh oh (mk zs) = (decList s xh oh zs >>= fun ys => .ok (mk ys)))
    (hpost : ∀ zs, post r s (mk zs) = (postList r s zs >>= fun ys => .ok (mk ys)))
    (hnf : ∀ zs, nf s (mk zs) = nfList s zs) (a d w : Val)
    (h1 : (encList s true xs >>= fun ys => .ok (mk ys)) = .ok a) (h2 : dec s xh oh a = .ok d)
    (h3 : post r s d = .ok w) : nf s w = true := by
  simp only [bind_eq_ok] at h1
  obtain ⟨ys, g1, e⟩ := h1; cases e
  simp only [hdec, bind_eq_ok] at h2
  obtain ⟨ds, g2, e⟩ := h2; cases e
  simp only [hpost, bind_eq_ok] at h3
  obtain ⟨ws, g3, e⟩ := h3; cases e
  rw [hnf]
  exact ih ys ds ws g1 g2 g3

mutual
theorem range_val (s : Ser) (xh oh r : Bool) (hp : phOK s xh oh r) : ∀ v, pyval v = true → ∀ a d w,
    enc s true v = .ok a → dec s xh oh a = .ok d → post r s d = .ok w → nf s w = true
  | .none, _, a, d, w, h1, h2, h3 | .bool _, _, a, d, w, h1, h2, h3 | .str _, _, a, d, w, h1, h2, h3 => by
    rleaf h1 h2 h3
  | .int z, _, a, d, w, h1, h2, h3 => by
    cases s with
    | serpent | marshal | json => rleaf h1 h2 h3
    | msgpack =>
      obtain ⟨hx, _⟩ := hp; subst hx
      simp only [enc] at h1
      split at h1
      · cases h1; simp [dec] at h2; subst h2
        have := post_ok_leaf r _ _ w (by simp [recreate]) h3; subst this; simp [nf]
      · simp at h1; subst h1
        simp [dec, extHook_long] at h2; subst h2
        have := post_ok_leaf r _ _ w (by simp [recreate]) h3; subst this; simp [nf]
  | .float b, _, a, d, w, h1, h2, h3 => by
    cases s with
    | marshal | json | msgpack => rleaf h1 h2 h3
    | serpent =>
      obtain ⟨hx, ho, hr⟩ := hp; subst hx; subst ho; subst hr
      simp [enc] at h1; subst h1
      by_cases hn : isNan b = true
      · have e : serpentFloat b = serpentFloat nanBits := by simp [serpentFloat, hn]; decide
        rw [e, nan_dict_dec] at h2; cases h2
        simp [post, nan_dict_rec] at h3; subst h3; decide
      · have hn' : isNan b = false := by simpa using hn
        rw [serpentFloat_of_not_nan b hn'] at h2
        simp [dec] at h2; subst h2
        simp [post, recreate] at h3; subst h3; simp [nf, floatOk, hn']
  | .bytes b, _, a, d, w, h1, h2, h3 | .bytearray b, _, a, d, w, h1, h2, h3 => by
    cases s with
    | marshal | msgpack => rleaf h1 h2 h3
    | json => simp [enc, unsupported] at h1
    | serpent =>
      obtain ⟨hx, ho, hr⟩ := hp; subst hx; subst ho; subst hr
      obtain ⟨i1, i2, i3⟩ := serpentBytes_rt b
      simp [enc] at h1; subst h1
      rw [i1] at h2; cases h2
      simp [post, i2] at h3; subst h3; exact i3
  | .uuid t, _, a, d, w, h1, h2, h3 | .decimal t, _, a, d, w, h1, h2, h3 => by
    cases s with
    | marshal => simp [enc] at h1
    | serpent | json | msgpack => rleaf h1 h2 h3
  | .ext _ _, _, a, d, w, h1, h2, h3 => by simp [enc] at h1
  | .date ord, _, a, d, w, h1, h2, h3 => by
    cases s with
    | marshal => simp [enc] at h1
    | serpent | json => rleaf h1 h2 h3
    | msgpack =>
      obtain ⟨hx, _⟩ := hp; subst hx
      simp [enc] at h1; subst h1
      simp only [dec, true_and, if_true] at h2
      obtain ⟨n, e, hn1, hn2⟩ := extHook_date_ok _ _ h2
      subst e
      have := post_ok_leaf r _ _ w (by simp [recreate]) h3; subst this
      simp [nf, hn1, hn2]
  | .complex re im, _, a, d, w, h1, h2, h3 => by
    cases s with
    | marshal => rleaf h1 h2 h3
    | json => simp [enc, unsupported] at h1
    | msgpack =>
      obtain ⟨hx, _⟩ := hp; subst hx
      simp [enc] at h1; subst h1
      simp only [dec, true_and, if_true] at h2
      obtain ⟨_, e⟩ := extHook_complex_ok _ _ h2
      subst e
      have := post_ok_leaf r _ _ w (by simp [recreate]) h3; subst this
      have l1 := fromLE_lt (List.take 8 (toLE 8 re ++ toLE 8 im))
      have l2 := fromLE_lt (List.drop 8 (toLE 8 re ++ toLE 8 im))
      simp only [take_toLE_append, drop_toLE_append, toLE_length] at l1 l2
      simp only [take_toLE_append, drop_toLE_append]
      simp only [nf, Bool.and_eq_true, decide_eq_true_eq]
      exact ⟨by simpa using l1, by simpa using l2⟩
    | serpent =>
      obtain ⟨hx, ho, hr⟩ := hp; subst hx; subst ho; subst hr
      simp only [enc] at h1
      split at h1
      · cases h1
        obtain ⟨ds, g1, _, e⟩ := dec_dict_shape _ _ _ _ _ h2
        subst e
        have hk : ds.hasKey classKey = true :=
          decPairs_hasKey_str _ _ _ sClass _ ds g1 (by simp [Pairs.hasKey, classKey])
        exact post_class_dict _ ds w hk h3
      · rename_i hn
        split at h1
        · cases h1
        · rename_i hz
          cases h1
          simp [dec] at h2; subst h2
          simp [post, recreate] at h3; subst h3
          simp only [Bool.or_eq_true, not_or, Bool.not_eq_true] at hn
          simp only [not_or] at hz
          simp [nf, hn.1, hn.2, hz.1, hz.2]
  | .list xs, hv, a, d, w, h1, h2, h3 =>
    range_seq s xh oh r xs .list (range_list s xh oh r hp xs (by simpa only [pyval] using hv))
      (fun _ => by simp only [dec]) (post_list r s) (fun _ => by simp only [nf]) a d w (by simpa only [enc] using h1) h2 h3
  | .tuple xs, hv, a, d, w, h1, h2, h3 => by
    have ih := range_list s xh oh r hp xs (by simpa only [pyval] using hv)
    cases s with
    | serpent | marshal =>
      exact range_seq _ xh oh r xs .tuple ih (fun _ => by simp only [dec]) (post_tuple r _) (fun _ => by simp only [nf])
        a d w (by simpa only [enc] using h1) h2 h3
    | json | msgpack =>
      exact range_seq _ xh oh r xs .list ih (fun _ => by simp only [dec]) (post_list r _) (fun _ => by simp only [nf])
        a d w (by simpa only [enc] using h1) h2 h3
  | .set xs, hv, a, d, w, h1, h2, h3 => by
    simp only [pyval, Bool.and_eq_true] at hv
    have ih := range_list s xh oh r hp xs hv.2
    cases s with
    | marshal =>
      exact range_seq _ xh oh r xs .set ih (fun _ => by simp only [dec, reduceCtorEq, false_and, if_false])
        (post_set r _) (fun _ => by simp only [nf]) a d w (by simpa only [enc] using h1) h2 h3
    | json | msgpack =>
      exact range_seq _ xh oh r xs .list ih (fun _ => by simp only [dec]) (post_list r _) (fun _ => by simp only [nf])
        a d w (by simpa only [enc, if_true] using h1) h2 h3
    | serpent =>
      obtain ⟨hx, ho, hr⟩ := hp; subst hx; subst ho; subst hr
      exact range_serpent_set xs a d w h1 h2 h3
  | .frozenset xs, hv, a, d, w, h1, h2, h3 => by
    simp only [pyval, Bool.and_eq_true] at hv
    cases s with
    | json | msgpack => simp [enc, unsupported] at h1
    | serpent =>
      obtain ⟨hx, ho, hr⟩ := hp; subst hx; subst ho; subst hr
      exact range_serpent_set xs a d w (by cases xs <;> exact h1) h2 h3
    | marshal =>
      obtain ⟨hx, ho, hr⟩ := hp; subst hx; subst ho; subst hr
      have hn := hmr_val (.frozenset xs) a (by simpa [hashable] using hv.1) h1
      obtain ⟨e1, e2⟩ := mi_val _ hn
      rw [e1] at h1; cases h1
      rw [e2] at h2; cases h2
      simp [post, recreate] at h3; subst h3
      exact hn
  | .dict kvs, hv, a, d, w, h1, h2, h3 => by
    simp only [pyval, Bool.and_eq_true] at hv
    simp only [enc, bind_eq_ok] at h1
    obtain ⟨ps, g1, e⟩ := h1; cases e
    obtain ⟨ds, g2, hc, e⟩ := dec_dict_shape _ _ _ _ _ h2
    subst e
    obtain ⟨hn, hg⟩ := range_pairs s xh oh r hp kvs hv.1 hv.2 ps ds g1 g2
    refine post_dict s r ds w hn hg ?_ h3
    intro hr
    subst hr
    exact plain_no_classKey s xh oh hp ds hc
  | .inst cls fields, hv, a, d, w, h1, h2, h3 => by
    have key : ∀ fs : Pairs, a = .dict (fs.set classKey (.str cls)) → nf s w = true := by
      intro fs e
      subst e
      obtain ⟨ds, g2, hc, e⟩ := dec_dict_shape _ _ _ _ _ h2
      subst e
      have hk : ds.hasKey classKey = true :=
        decPairs_hasKey_str _ _ _ sClass _ ds g2 (hasKey_set_self _ _ fs)
      cases r with
      | true => exact post_class_dict s ds w hk h3
      | false =>
        have := plain_no_classKey s xh oh hp ds hc
        rw [hk] at this
        cases this
    cases s with
    | marshal => simp [enc] at h1
    | serpent | json | msgpack =>
      simp only [enc, if_true, bind_eq_ok] at h1
      obtain ⟨fs, _, e⟩ := h1
      exact key fs (by cases e; rfl)
termination_by structural v => v
theorem range_list (s : Ser) (xh oh r : Bool) (hp : phOK s xh oh r) : ∀ xs, pyvalList xs = true → ∀ as ds ws,
    encList s true xs = .ok as → decList s xh oh as = .ok ds → postList r s ds = .ok ws → nfList s ws = true
  | .nil, _, as, ds, ws, h1, h2, h3 => by
    simp only [encList, Except.ok.injEq] at h1; subst h1
    simp only [decList, Except.ok.injEq] at h2; subst h2
    simp only [postList_nil, Except.ok.injEq] at h3; subst h3
    rfl
  | .cons x xs, hv, as, ds, ws, h1, h2, h3 => by
    simp only [pyvalList, Bool.and_eq_true] at hv
    simp only [encList, bind_eq_ok] at h1
    obtain ⟨a, g1, as', g2, e⟩ := h1; cases e
    simp only [decList, bind_eq_ok] at h2
    obtain ⟨d, g3, ds', g4, e⟩ := h2; cases e
    simp only [postList_cons, bind_eq_ok] at h3
    obtain ⟨w, g5, ws', g6, e⟩ := h3; cases e
    simp only [nfList, range_val s xh oh r hp x hv.1 a d w g1 g3 g5,
      range_list s xh oh r hp xs hv.2 as' ds' ws' g2 g4 g6, Bool.and_self]
termination_by structural xs => xs
theorem range_pairs (s : Ser) (xh oh r : Bool) (hp : phOK s xh oh r) : ∀ kvs, kvs.allKeys hashable = true →
    pyvalPairs kvs = true → ∀ ps ds, encPairs s true kvs = .ok ps → decPairs s xh oh ps = .ok ds →
    ds.nodupKeys = true ∧ GoodPairs s r ds
  | .nil, _, _, ps, ds, h1, h2 => by
    simp [encPairs] at h1; subst h1; simp [decPairs] at h2; subst h2
    exact ⟨rfl, trivial⟩
  | .cons k v rest, hh, hv, ps, ds, h1, h2 => by
    simp only [Pairs.allKeys, Bool.and_eq_true] at hh
    simp only [pyvalPairs, Bool.and_eq_true] at hv
    -- shape of the encoded pairs, per serializer
    have shape : ∃ ka a ps', ps = .cons ka a ps' ∧ enc s true v = .ok a ∧ encPairs s true rest = .ok ps' ∧
        (∀ kd, dec s xh oh ka = .ok kd → ¬(s = .serpent ∧ unhashable kd = true) →
          ¬(s = .msgpack ∧ (!isStrOrBytes kd) = true) → keyOK s kd = true) := by
      cases s with
      | serpent =>
        obtain ⟨hx, ho, hr⟩ := hp; subst hx; subst ho; subst hr
        simp only [encPairs] at h1
        split at h1
        · rename_i ht
          simp only [bind_eq_ok] at h1
          obtain ⟨ka, g1, a, g2, ps', g3, e⟩ := h1; cases e
          refine ⟨ka, a, ps', rfl, g2, g3, ?_⟩
          intro kd hkd c1 _
          obtain ⟨i1, i2⟩ := hsr_val k ka kd g1 hkd (by simpa using c1)
          simp [keyOK, i1, i2 ht, (hs_val kd i1).2.2.2.2]
        · cases h1
      | marshal =>
        obtain ⟨hx, ho, hr⟩ := hp; subst hx; subst ho; subst hr
        simp only [encPairs, bind_eq_ok] at h1
        obtain ⟨ka, g1, a, g2, ps', g3, e⟩ := h1; cases e
        refine ⟨ka, a, ps', rfl, g2, g3, ?_⟩
        intro kd hkd _ _
        have hn := hmr_val k ka hh.1 g1
        obtain ⟨e1, e2⟩ := mi_val k hn
        rw [e1] at g1; cases g1
        rw [e2] at hkd; cases hkd
        simp [keyOK, hh.1, hn]
      | json =>
        simp only [encPairs, bind_eq_ok] at h1
        obtain ⟨ka, g1, a, g2, ps', g3, e⟩ := h1; cases e
        refine ⟨ka, a, ps', rfl, g2, g3, ?_⟩
        intro kd hkd _ _
        obtain ⟨t, e⟩ := jsonKey_isStr k ka g1
        subst e
        simp [dec] at hkd; subst hkd
        simp [keyOK, isStr]
      | msgpack =>
        simp only [encPairs, bind_eq_ok] at h1
        obtain ⟨ka, g1, a, g2, ps', g3, e⟩ := h1; cases e
        refine ⟨ka, a, ps', rfl, g2, g3, ?_⟩
        intro kd _ _ c2
        simpa [keyOK] using c2
    obtain ⟨ka, a, ps', e, g2, g3, hkey⟩ := shape
    subst e
    simp only [decPairs, bind_eq_ok] at h2
    obtain ⟨kd, d1, d, d2, d3⟩ := h2
    split at d3
    · cases d3
    · rename_i c1
      split at d3
      · cases d3
      · rename_i c2
        simp only [bind_eq_ok] at d3
        obtain ⟨ds', d4, e⟩ := d3; cases e
        obtain ⟨hn, hg⟩ := range_pairs s xh oh r hp rest hh.2 hv.2 ps' ds' g3 d4
        exact ⟨Pairs.nodupKeys_pushFront _ _ _ hn, good_pushFront s r kd d ds' (hkey kd d1 c1 c2)
          (fun w hw => range_val s xh oh r hp v hv.1.2 a d w g2 d2 hw) hg⟩
termination_by structural kvs => kvs
end

end Pyro.Values
