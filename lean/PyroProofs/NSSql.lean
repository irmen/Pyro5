/-
  NSSql.lean — `SqlStorage` meets the storage contract `StoreOK`.
   * `run_eval`, `run_none`: a program under a failure counter either fails, or does what it does without a
     counter; without a counter it does exactly that;
   * the relational effect of every method (`eval`) on the map the tables stand for (`Db.abs`);
   * `sql_storeOK`.
-/
import PyroModel.Sql
import PyroProofs.NSRefine

namespace Pyro.NS.Sql

open Pyro.NS

/-! ### failure counter -/

theorem run_eval {α : Type} (p : Prog α) : ∀ (db : Db) (f : Fuel),
    run p db f = none ∨ ∃ a db' f', run p db f = some (a, db', f') ∧ eval p db = some (a, db') := by
  induction p with
  | ret a => intro db f; exact .inr ⟨a, db, f, rfl, rfl⟩
  | step st k ih =>
    intro db f
    have key : ∀ f', (match st.run db with
        | none => (none : Option (α × Db × Fuel))
        | some (b, db') => run (k b) db' f') = none ∨
        ∃ a db' f'', (match st.run db with
          | none => (none : Option (α × Db × Fuel))
          | some (b, db') => run (k b) db' f') = some (a, db', f'') ∧ eval (.step st k) db = some (a, db') := by
      intro f'
      unfold eval
      cases st.run db with
      | none => exact .inl rfl
      | some r => obtain ⟨b, db'⟩ := r; exact ih b db' f'
    cases f with
    | none => simp only [run]; exact key _
    | some n =>
      cases n with
      | zero => exact .inl rfl
      | succ n => simp only [run]; exact key _

theorem run_none {α : Type} (p : Prog α) : ∀ (db : Db),
    run p db none = (eval p db).map fun r => (r.1, r.2, none) := by
  induction p with
  | ret a => intro db; rfl
  | step st k ih =>
    intro db
    unfold run eval
    cases st.run db with
    | none => rfl
    | some r => obtain ⟨b, db'⟩ := r; exact ih b db'

/-! ### invariant of the tables -/

/-- ids are a key; every metadata row references an existing name row (FOREIGN KEY) -/
def SqlInv (db : Db) : Prop :=
  db.names.Pairwise (fun a b => a.id ≠ b.id) ∧ ∀ m ∈ db.metas, ∃ r ∈ db.names, r.id = m.object

/-- UNIQUE(name) -/
def NodupNames (db : Db) : Prop := db.names.Pairwise (fun a b => a.name ≠ b.name)

theorem nodupNames_of_abs {db : Db} (h : NodupKeys db.abs) : NodupNames db := by
  unfold NodupKeys Db.abs at h
  rw [List.pairwise_map] at h
  exact h

theorem entryOf_name (db : Db) (r : NameRow) : (db.entryOf r).name = r.name := rfl

theorem eq_of_pairwise {α β : Type} {f : α → β} {l : List α} (h : l.Pairwise (fun a b => f a ≠ f b))
    {a b : α} (ha : a ∈ l) (hb : b ∈ l) (hf : f a = f b) : a = b :=
  List.Pairwise.forall_of_forall_of_flip (R := fun a b => f a = f b → a = b) (fun _ _ _ => rfl)
    (h.imp fun hn hf => absurd hf hn) (h.imp fun hn hf => absurd hf.symm hn) ha hb hf

/-! ### evaluation of the building blocks -/

theorem eval_query {α β : Type} (tag : Stmt) (args : List Arg) (f : Db → β) (k : β → Prog α) (db : Db) :
    eval (.step (query tag args f) k) db = eval (k (f db)) db := rfl

theorem eval_withMetaRows {α : Type} : ∀ (rs : List NameRow) (k : List Entry → Prog α) (db : Db),
    eval (withMetaRows rs k) db = eval (k (rs.map db.entryOf)) db
  | [], k, db => rfl
  | r :: rs, k, db => by
    unfold withMetaRows
    rw [selMetaByObj, eval_query, eval_withMetaRows rs]
    rfl

theorem rowsNoMeta_eq (db : Db) (rs : List NameRow) : rowsNoMeta rs = (rs.map db.entryOf).map (Entry.strip false) := by
  unfold rowsNoMeta
  rw [List.map_map]
  rfl

theorem eval_listRows {α : Type} (t1 t2 : Stmt) (a1 a2 : List Arg) (f : Db → List NameRow) (wm : Bool) (k : List Entry → Prog α) (db : Db) :
    eval (listRows (query t1 a1 f) (query t2 a2 f) wm k) db = eval (k (((f db).map db.entryOf).map (Entry.strip wm))) db := by
  unfold listRows
  cases wm with
  | true => simp only [if_true, eval_query, eval_withMetaRows, map_strip_true]
  | false => simp only [Bool.false_eq_true, if_false, eval_query, rowsNoMeta_eq db]

theorem filter_rows_entries (db : Db) (q : Entry → Bool) :
    (db.names.filter (fun r => q (db.entryOf r))).map db.entryOf = db.abs.filter q := by
  unfold Db.abs
  rw [List.filter_map]
  rfl

/-! ### deleting and inserting one entry -/

/-- the tables without the name row of id `i` and its metadata rows -/
def Db.del (db : Db) (i : Nat) : Db := ⟨db.names.filter (·.id != i), db.metas.filter (·.object != i)⟩

/-- the tables without the entry named `n`, if there is one -/
def Db.delName (db : Db) (n : Str) : Db :=
  match db.names.find? (·.name == n) with
  | some r => db.del r.id
  | none => db

/-- the tables with a new name row (next free id) and one metadata row per tag -/
def Db.ins (db : Db) (n u : Str) (t : Tags) : Db :=
  ⟨db.names ++ [⟨db.newId, n, u⟩], db.metas ++ t.map (fun m => ⟨db.newId, m⟩)⟩

theorem eval_deleteIfFound_some {α : Type} (i : Nat) (k : Prog α) (db : Db) :
    eval (deleteIfFound (some i) k) db = eval k (db.del i) := by
  have h : (db.metas.filter (·.object != i)).any (·.object == i) = false := by
    rw [Bool.eq_false_iff]
    intro hc
    obtain ⟨m, hm, he⟩ := List.any_eq_true.mp hc
    have h2 : (m.object != i) = true := (List.mem_filter.mp hm).2
    rw [bne, he] at h2; cases h2
  simp only [deleteIfFound, eval, delMetaByObj, delNameById, h, Bool.false_eq_true, if_false]
  rfl

theorem eval_selDel {α : Type} (n : Str) (k : Prog α) (db : Db) :
    eval (.step (selIdByName n) fun o => deleteIfFound o k) db = eval k (db.delName n) := by
  rw [selIdByName, eval_query]
  unfold Db.delName
  cases db.names.find? (·.name == n) with
  | none => rfl
  | some r => exact eval_deleteIfFound_some r.id k db

theorem tagsOf_del {db : Db} {i j : Nat} (h : j ≠ i) : (db.del i).tagsOf j = db.tagsOf j := by
  unfold Db.tagsOf Db.del
  simp only [List.filter_filter]
  congr 1
  apply List.filter_congr
  intro m _
  by_cases hm : m.object = j
  · subst hm; simp [h]
  · simp [hm]

/-- deleting a present row: the represented map loses that name, both table invariants stay, the name is gone -/
theorem abs_del {db : Db} (hi : SqlInv db) (hn : NodupNames db) {r0 : NameRow} (hr : r0 ∈ db.names) :
    (db.del r0.id).abs = db.abs.filter (fun e => !(e.name == r0.name)) ∧ SqlInv (db.del r0.id) ∧
      NodupNames (db.del r0.id) ∧ (db.del r0.id).names.any (·.name == r0.name) = false := by
  have hfilt : db.names.filter (·.id != r0.id) = db.names.filter (fun r => !((db.entryOf r).name == r0.name)) := by
    apply List.filter_congr
    intro r hrm
    simp only [entryOf_name]
    by_cases h : r = r0
    · subst h; simp
    · have h1 : r.id ≠ r0.id := fun hc => h (eq_of_pairwise hi.1 hrm hr hc)
      have h2 : r.name ≠ r0.name := fun hc => h (eq_of_pairwise hn hrm hr hc)
      rw [bne_iff_ne.mpr h1, beq_eq_false_iff_ne.mpr h2]
      rfl
  refine ⟨?map, ⟨?idsDistinct, ?metasRefer⟩, ?namesDistinct, ?nameGone⟩
  case map =>
    rw [← filter_rows_entries db, ← hfilt]
    unfold Db.abs
    show List.map (db.del r0.id).entryOf (db.names.filter (·.id != r0.id)) = _
    apply List.map_congr_left
    intro r hrm
    have hne : r.id ≠ r0.id := by simpa using (List.mem_filter.mp hrm).2
    unfold Db.entryOf
    rw [tagsOf_del hne]
  case idsDistinct => exact List.Pairwise.filter _ hi.1
  case metasRefer =>
    intro m hm
    obtain ⟨hm1, hm2⟩ := List.mem_filter.mp hm
    obtain ⟨r, hrm, hre⟩ := hi.2 m hm1
    refine ⟨r, List.mem_filter.mpr ⟨hrm, ?_⟩, hre⟩
    rw [hre]; exact hm2
  case namesDistinct => exact List.Pairwise.filter _ hn
  case nameGone =>
    rw [Bool.eq_false_iff]
    intro hc
    obtain ⟨r, hrm, hre⟩ := List.any_eq_true.mp hc
    obtain ⟨h1, h2⟩ := List.mem_filter.mp hrm
    have : r = r0 := eq_of_pairwise hn h1 hr (by simpa using hre)
    subst this
    simp at h2

theorem abs_delName {db : Db} (hi : SqlInv db) (hn : NodupNames db) (n : Str) :
    (db.delName n).abs = db.abs.filter (fun e => !(e.name == n)) ∧ SqlInv (db.delName n) ∧
      NodupNames (db.delName n) ∧ (db.delName n).names.any (·.name == n) = false := by
  unfold Db.delName
  cases hf : db.names.find? (·.name == n) with
  | some r =>
    have hr : r ∈ db.names := List.mem_of_find?_eq_some hf
    have hrn : r.name = n := by simpa using List.find?_some hf
    subst hrn
    exact abs_del hi hn hr
  | none =>
    have hnone : db.names.any (·.name == n) = false := by
      rw [Bool.eq_false_iff]
      intro hc
      obtain ⟨r, hrm, hre⟩ := List.any_eq_true.mp hc
      exact (List.find?_eq_none.mp hf) r hrm hre
    refine ⟨?_, hi, hn, hnone⟩
    have : db.abs.any (·.name == n) = false := by
      unfold Db.abs
      rw [List.any_map]
      exact hnone
    exact (filter_ne_of_not_any this).symm

theorem le_foldr_max : ∀ (l : List Nat) (x : Nat), x ∈ l → x ≤ l.foldr max 0
  | [], _, h => by cases h
  | a :: l, x, h => by
    simp only [List.foldr_cons]
    rcases List.mem_cons.mp h with rfl | h'
    · exact Nat.le_max_left _ _
    · exact Nat.le_trans (le_foldr_max l x h') (Nat.le_max_right _ _)

theorem lt_newId {db : Db} {r : NameRow} (h : r ∈ db.names) : r.id < db.newId := by
  unfold Db.newId
  exact Nat.lt_succ_of_le (le_foldr_max _ _ (List.mem_map_of_mem h))

theorem eval_insMetaAll {α : Type} (oid : Nat) : ∀ (t : Tags) (k : Prog α) (db : Db),
    db.names.any (·.id == oid) = true →
    eval (insMetaAll oid t k) db = eval k ⟨db.names, db.metas ++ t.map (fun m => ⟨oid, m⟩)⟩
  | [], k, db, _ => by simp [insMetaAll]
  | m :: ms, k, db, h => by
    unfold insMetaAll
    simp only [eval, insMeta, h, if_true]
    rw [eval_insMetaAll oid ms k (⟨db.names, db.metas ++ [(⟨oid, m⟩ : MetaRow)]⟩ : Db) h]
    simp

theorem eval_insert {α : Type} (n u : Str) (t : Tags) (k : Prog α) (db : Db) (h : db.names.any (·.name == n) = false) :
    eval (.step (insName n u) fun oid => insMetaAll oid t k) db = eval k (db.ins n u t) := by
  simp only [eval, insName, h, Bool.false_eq_true, if_false]
  rw [eval_insMetaAll]
  · rfl
  · simp

theorem abs_ins {db : Db} (hi : SqlInv db) (n u : Str) (t : Tags) :
    (db.ins n u t).abs = db.abs ++ [⟨n, u, t⟩] ∧ SqlInv (db.ins n u t) := by
  have hold : ∀ r ∈ db.names, (db.ins n u t).tagsOf r.id = db.tagsOf r.id := by
    intro r hr
    have : (db.newId == r.id) = false := beq_eq_false_iff_ne.mpr (Nat.ne_of_gt (lt_newId hr))
    simp [Db.tagsOf, Db.ins, List.filter_map, Function.comp_def, this]
  have hnew : (db.ins n u t).tagsOf db.newId = t := by
    have h1 : db.metas.filter (·.object == db.newId) = [] := by
      rw [List.filter_eq_nil_iff]
      intro m hm
      obtain ⟨r, hr, hre⟩ := hi.2 m hm
      exact fun hc => Nat.ne_of_lt (lt_newId hr) (hre.trans (beq_iff_eq.mp hc))
    simp [Db.tagsOf, Db.ins, List.filter_map, Function.comp_def, h1]
  constructor
  · unfold Db.abs
    show List.map (db.ins n u t).entryOf (db.names ++ [⟨db.newId, n, u⟩]) = _
    rw [List.map_append]
    congr 1
    · apply List.map_congr_left
      intro r hr
      unfold Db.entryOf
      rw [hold r hr]
    · simp only [List.map_cons, List.map_nil, Db.entryOf, hnew]
  · constructor
    · show List.Pairwise _ (db.names ++ [⟨db.newId, n, u⟩])
      rw [List.pairwise_append]
      refine ⟨hi.1, List.pairwise_singleton _ _, ?_⟩
      intro a ha b hb
      rw [List.mem_singleton.mp hb]
      have := lt_newId ha
      simp only [ne_eq]
      omega
    · intro m hm
      rcases List.mem_append.mp hm with h1 | h1
      · obtain ⟨r, hr, hre⟩ := hi.2 m h1
        exact ⟨r, List.mem_append_left _ hr, hre⟩
      · obtain ⟨x, _, rfl⟩ := List.mem_map.mp h1
        exact ⟨⟨db.newId, n, u⟩, List.mem_append_right _ (List.mem_singleton.mpr rfl), rfl⟩

/-! ### the methods -/

theorem eval_pSetItem {db : Db} (hi : SqlInv db) (hn : NodupNames db) (n u : Str) (t : Tags) :
    ∃ db', eval (pSetItem n u t) db = some ((), db') ∧ db'.abs = Spec.put db.abs ⟨n, u, t⟩ ∧ SqlInv db' := by
  obtain ⟨h1, h2, _, h4⟩ := abs_delName hi hn n
  obtain ⟨h5, h6⟩ := abs_ins h2 n u t
  refine ⟨(db.delName n).ins n u t, ?_, ?_, h6⟩
  · unfold pSetItem
    rw [pragmaFk, eval_query, eval_selDel, eval_insert n u t _ _ h4, commit, eval_query]
    rfl
  · rw [h5, h1]; rfl

theorem eval_pDelItem {db : Db} (hi : SqlInv db) (hn : NodupNames db) (n : Str) :
    ∃ db', eval (pDelItem n) db = some (true, db') ∧ db'.abs = db.abs.filter (fun e => !(e.name == n)) ∧ SqlInv db' := by
  obtain ⟨h1, h2, _, _⟩ := abs_delName hi hn n
  refine ⟨db.delName n, ?_, h1, h2⟩
  unfold pDelItem
  rw [pragmaFk, eval_query, eval_selDel, commit, eval_query]
  rfl

/-- `Db.delName` for each listed name in turn -/
def Db.removeAll : List Str → Db → Db
  | [], db => db
  | n :: ns, db => Db.removeAll ns (db.delName n)

theorem eval_removeLoop {α : Type} : ∀ (items : List Str) (k : Prog α) (db : Db),
    eval (removeLoop items k) db = eval k (Db.removeAll items db)
  | [], k, db => rfl
  | n :: ns, k, db => by
    unfold removeLoop
    rw [eval_selDel, eval_removeLoop ns]
    rfl

theorem abs_removeAll : ∀ (items : List Str) {db : Db}, SqlInv db → NodupNames db →
    (Db.removeAll items db).abs = db.abs.filter (fun e => !items.contains e.name) ∧ SqlInv (Db.removeAll items db)
  | [], db, hi, _ => by
    refine ⟨?_, hi⟩
    simp only [Db.removeAll, List.contains_nil, Bool.not_false]
    exact (List.filter_eq_self.mpr fun _ _ => rfl).symm
  | n :: ns, db, hi, hn => by
    obtain ⟨h1, h2, h3, _⟩ := abs_delName hi hn n
    obtain ⟨h5, h6⟩ := abs_removeAll ns h2 h3
    refine ⟨?_, h6⟩
    unfold Db.removeAll
    rw [h5, h1, List.filter_filter]
    apply List.filter_congr
    intro e _
    simp only [List.contains_cons, Bool.not_or, Bool.and_comm]

theorem eval_pRemoveItems {db : Db} (hi : SqlInv db) (hn : NodupNames db) (items : List Str) :
    ∃ db', eval (pRemoveItems items) db = some ((), db') ∧
      db'.abs = db.abs.filter (fun e => !items.contains e.name) ∧ SqlInv db' := by
  obtain ⟨h1, h2⟩ := abs_removeAll items hi hn
  refine ⟨Db.removeAll items db, ?_, h1, h2⟩
  unfold pRemoveItems
  rw [pragmaFk, eval_query, eval_removeLoop, commit, eval_query]
  rfl

theorem eval_pGetItem (db : Db) (n : Str) :
    eval (pGetItem n) db = some (db.abs.find? (·.name == n), db) := by
  unfold pGetItem
  rw [selIdUriByName, eval_query]
  have : db.abs.find? (·.name == n) = (db.names.find? (·.name == n)).map db.entryOf := by
    unfold Db.abs
    rw [List.find?_map]
    rfl
  rw [this]
  cases hf : db.names.find? (·.name == n) with
  | none => rfl
  | some r =>
    have hrn : r.name = n := by simpa using List.find?_some hf
    subst hrn
    rfl

theorem eval_pOptPrefix (db : Db) (p : Str) (wm : Bool) :
    eval (pOptPrefix p wm) db = some (some (Spec.select db.abs (fun e => p.isPrefixOf e.name) wm), db) := by
  unfold pOptPrefix selPrefix
  rw [eval_listRows]
  have : (fun (r : NameRow) => r.name.take p.length == p) = fun r => p.isPrefixOf (db.entryOf r).name := by
    funext r; exact take_beq_eq_isPrefixOf p r.name
  rw [this, filter_rows_entries db (fun e => p.isPrefixOf e.name)]
  rfl

theorem eval_pEverything (db : Db) (wm : Bool) :
    eval (pEverything wm) db = some (db.abs.map (Entry.strip wm), db) := by
  unfold pEverything selAll
  rw [eval_listRows]
  rfl

/-- the `IN (…) GROUP BY object HAVING COUNT(metadata)=?` test on one row is "has all the tags" -/
theorem metaAll_row (db : Db) (r : NameRow) (ts : Tags) (hne : ts ≠ []) (hnd : (db.tagsOf r.id).Nodup) :
    (decide (0 < (db.metas.filter fun m => m.object == r.id && (dedup ts).contains m.tag).length) &&
      (db.metas.filter fun m => m.object == r.id && (dedup ts).contains m.tag).length == (dedup ts).length)
    = hasAll ts (db.entryOf r) := by
  have hlen : (db.metas.filter fun m => m.object == r.id && (dedup ts).contains m.tag).length
      = ((db.tagsOf r.id).filter ((dedup ts).contains ·)).length := by
    unfold Db.tagsOf
    rw [List.filter_map, List.length_map, List.filter_filter]
    congr 1
    apply List.filter_congr
    intro m _
    simp only [Function.comp, Bool.and_comm]
  have hpos : 0 < (dedup ts).length := by
    cases h : dedup ts with
    | nil => exact absurd (dedup_eq_nil.mp h) hne
    | cons _ _ => simp
  have hall : hasAll ts (db.entryOf r) = (dedup ts).all ((db.tagsOf r.id).contains ·) := by
    unfold hasAll Db.entryOf
    rw [Bool.eq_iff_iff, List.all_eq_true, List.all_eq_true]
    exact ⟨fun h x hx => h x (mem_dedup.mp hx), fun h x hx => h x (mem_dedup.mpr hx)⟩
  rw [hlen, hall]
  have key := count_eq_length_iff (nodup_dedup ts) hnd
  rw [Bool.eq_iff_iff, Bool.and_eq_true, decide_eq_true_eq, beq_iff_eq]
  constructor
  · intro h; exact key.mp h.2
  · intro h
    have := key.mpr h
    exact ⟨by omega, this⟩

theorem metaAny_row (db : Db) (r : NameRow) (ts : Tags) :
    (db.metas.any fun m => m.object == r.id && ts.contains m.tag) = hasAny ts (db.entryOf r) := by
  unfold hasAny Db.entryOf Db.tagsOf
  rw [Bool.eq_iff_iff, List.any_eq_true, List.any_eq_true]
  constructor
  · rintro ⟨m, hm, hc⟩
    rw [Bool.and_eq_true] at hc
    refine ⟨m.tag, List.contains_iff_mem.mp hc.2, ?_⟩
    simp only [List.contains_iff_mem, List.mem_map, List.mem_filter]
    exact ⟨m, ⟨hm, hc.1⟩, rfl⟩
  · rintro ⟨x, hx, hc⟩
    simp only [List.contains_iff_mem, List.mem_map, List.mem_filter] at hc
    obtain ⟨m, ⟨hm, ho⟩, rfl⟩ := hc
    exact ⟨m, hm, by rw [Bool.and_eq_true]; exact ⟨ho, List.contains_iff_mem.mpr hx⟩⟩

theorem eval_pOptMeta {db : Db} (hs : SpecInv db.abs) (all : Bool) (ts : Tags) (hne : ts ≠ []) (wm : Bool) :
    eval (pOptMeta all ts wm) db
      = some (some (Spec.select db.abs (if all then hasAll ts else hasAny ts) wm), db) := by
  have htags : ∀ r ∈ db.names, (db.tagsOf r.id).Nodup := by
    intro r hr
    exact hs.2 (db.entryOf r) (List.mem_map_of_mem hr)
  have hrows : ∀ rs : List NameRow,
      eval (if wm = true then withMetaRows rs fun l => Prog.ret (some l) else Prog.ret (some (rowsNoMeta rs))) db
        = some (some ((rs.map db.entryOf).map (Entry.strip wm)), db) := by
    intro rs
    cases wm with
    | true => simp only [if_true, eval_withMetaRows, map_strip_true]; rfl
    | false => simp only [Bool.false_eq_true, if_false, rowsNoMeta_eq db]; rfl
  unfold pOptMeta
  cases all with
  | true =>
    simp only [if_true, selMetaAll, eval_query, hrows]
    have : db.names.filter (fun r =>
        decide (0 < (db.metas.filter fun m => m.object == r.id && (dedup ts).contains m.tag).length) &&
          (db.metas.filter fun m => m.object == r.id && (dedup ts).contains m.tag).length == (dedup ts).length)
        = db.names.filter (fun r => hasAll ts (db.entryOf r)) :=
      List.filter_congr fun r hr => metaAll_row db r ts hne (htags r hr)
    rw [this, filter_rows_entries]
    rfl
  | false =>
    simp only [Bool.false_eq_true, if_false, selMetaAny, eval_query, hrows]
    have : db.names.filter (fun r => db.metas.any fun m => m.object == r.id && ts.contains m.tag)
        = db.names.filter (fun r => hasAny ts (db.entryOf r)) :=
      List.filter_congr fun r _ => metaAny_row db r ts
    rw [this, filter_rows_entries]
    rfl

/-! ### the contract -/

/-- the map a sqlite state (`SqlState`: tables and failure counter) stands for -/
def absS (s : SqlState) : List Entry := s.db.abs

/-- `F` = "storage statements may fail"; when they may not, no failure is scheduled -/
def invS (F : Prop) (s : SqlState) : Prop := SqlInv s.db ∧ (¬F → s.fuel = none)

theorem transaction_nofuel {α : Type} (p : Prog α) (s : SqlState) (h : s.fuel = none) {a : α} {db' : Db}
    (he : eval p s.db = some (a, db')) : transaction p s = (some a, ⟨db', none⟩) := by
  unfold transaction
  rw [h, run_none, he]
  rfl

theorem transaction_eval {α : Type} {p : Prog α} {F : Prop} {s : SqlState} (hi : invS F s) {a : α} {db' : Db}
    (he : eval p s.db = some (a, db')) :
    (F ∧ transaction p s = (none, s)) ∨ ∃ f', transaction p s = (some a, ⟨db', f'⟩) ∧ (¬F → f' = none) := by
  by_cases hF : F
  · unfold transaction
    rcases run_eval p s.db s.fuel with h | ⟨a', db'', f', h, he'⟩
    · rw [h]; exact .inl ⟨hF, rfl⟩
    · rw [he] at he'; cases he'
      rw [h]; exact .inr ⟨f', rfl, fun h => absurd hF h⟩
  · exact .inr ⟨none, transaction_nofuel p s (hi.2 hF) he, fun _ => rfl⟩

theorem ro_of_eval {α : Type} {p : Prog α} {good : α → Prop} (F : Prop) (s : SqlState) (hi : invS F s)
    (h : ∃ a, eval p s.db = some (a, s.db) ∧ good a) :
    RO absS (invS F) F s (transaction p s) good := by
  obtain ⟨a, he, hg⟩ := h
  rcases transaction_eval hi he with ⟨hF, ht⟩ | ⟨f', ht, hf⟩
  · rw [ht]; exact ⟨rfl, hi, fun _ => hF, fun a ha => by cases ha⟩
  · rw [ht]; exact .ret rfl ⟨hi.1, hf⟩ hg

theorem mu_of_eval {α : Type} {p : Prog α} {good : α → List Entry → Prop} (F : Prop) (s : SqlState) (hi : invS F s)
    (h : ∃ a db', eval p s.db = some (a, db') ∧ SqlInv db' ∧ good a db'.abs) :
    MU absS (invS F) F s (transaction p s) good := by
  obtain ⟨a, db', he, h1, h2⟩ := h
  rcases transaction_eval hi he with ⟨hF, ht⟩ | ⟨f', ht, hf⟩
  · rw [ht]; exact ⟨hi, fun _ => ⟨hF, rfl⟩, fun a ha => by cases ha⟩
  · rw [ht]; exact .ret ⟨h1, hf⟩ h2

theorem sql_storeOK (F : Prop) : StoreOK absS (invS F) F sqlStore where
  len s hi _ := ro_of_eval F s hi ⟨_, rfl, by simp [absS, Db.abs]⟩
  contains n s hi _ := ro_of_eval F s hi ⟨_, rfl, by simp only [absS, Db.abs, List.any_map]; rfl⟩
  getItem n s hi _ := ro_of_eval F s hi ⟨_, eval_pGetItem s.db n, rfl⟩
  iter s hi _ := ro_of_eval F s hi ⟨_, rfl, by simp only [absS, Db.abs, List.map_map]; exact .refl _⟩
  optPrefix p wm s hi _ := ro_of_eval F s hi ⟨_, eval_pOptPrefix s.db p wm, fun l hl => by cases hl; exact .refl _⟩
  optRegex r wm s hi _ := .ret rfl hi rfl
  optMeta all ts wm s hi hs hne :=
    ro_of_eval F s hi ⟨_, eval_pOptMeta hs all ts hne wm, fun l hl => by cases hl; exact .refl _⟩
  everything wm s hi _ := ro_of_eval F s hi ⟨_, eval_pEverything s.db wm, .refl _⟩
  setItem n u t s hi hs _ := by
    obtain ⟨db', h1, h2, h3⟩ := eval_pSetItem hi.1 (nodupNames_of_abs hs.1) n u t
    exact mu_of_eval F s hi ⟨(), db', h1, h3, by rw [h2]; exact .refl _⟩
  delItem n s hi hs := by
    obtain ⟨db', h1, h2, h3⟩ := eval_pDelItem hi.1 (nodupNames_of_abs hs.1) n
    exact mu_of_eval F s hi ⟨true, db', h1, h3, fun _ => rfl, by rw [h2]; exact .refl _⟩
  removeItems items s hi hs := by
    obtain ⟨db', h1, h2, h3⟩ := eval_pRemoveItems hi.1 (nodupNames_of_abs hs.1) items
    exact mu_of_eval F s hi ⟨(), db', h1, h3, by rw [h2]; exact .refl _⟩

end Pyro.NS.Sql
