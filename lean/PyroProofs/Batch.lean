/-
  Lemmas about `PyroModel.Batch` (used by PyroProps/C11.lean and PyroProps/C11Src.lean).
  All are for an arbitrary object `o`, state and call list.
-/
import PyroModel.Batch

namespace Pyro.Batch

variable {St Name Arg Val Exc : Type} (o : Obj St Name Arg Val Exc)

/-- What the server loop must produce, given the sequential outcome and the `data` collected before. -/
def loopOf (data : List (Item Val Exc)) : List Val × Option (Fail Exc) → LoopResult Val Exc
  | (vs, none) => .data (data ++ vs.map .val)
  | (vs, some (.raised e)) => .data (data ++ vs.map .val ++ [.wrapped e])
  | (_, some (.gate e)) => .escaped e

theorem loopOf_cons (data : List (Item Val Exc)) (v : Val) (vs : List Val) (f : Option (Fail Exc)) :
    loopOf (data ++ [.val v]) (vs, f) = loopOf data (v :: vs, f) := by
  rcases f with _ | _ | _ <;> simp [loopOf]

/-- The server loop computes exactly the sequential run: same final state, and the `data` list is the
    sequential values (then the wrapper of the method's exception), or the gate's exception escapes. -/
theorem batchLoop_sequential (cs : List (Name × Arg)) (s : St)
    (data : List (Item Val Exc)) :
    batchLoop o s cs data = ((sequential o s cs).1, loopOf data (sequential o s cs).2) := by
  fun_induction batchLoop o s cs data with
  | case1 s data => simp [sequential, loopOf]
  | case2 s data n a rest e hg => simp only [sequential, serverCall, hg, loopOf]
  | case3 s data n a rest hg s' e ha => simp [sequential, serverCall, hg, ha, loopOf]
  | case4 s data n a rest hg s' v ha ih =>
    rw [ih, loopOf_cons]
    simp only [sequential, serverCall, hg, ha]

/-- The results generator yields the leading plain values and then behaves as on the rest. -/
theorem resultsGen_vals (vs : List Val) (rest : List (Item Val Exc)) :
    resultsGen (vs.map Item.val ++ rest) = (vs ++ (resultsGen rest).1, (resultsGen rest).2) := by
  induction vs with
  | nil => simp
  | cons v vs ih => simp [resultsGen, ih]

/-- A sequential run over `pre ++ post` whose `pre` part does not fail continues from the state reached. -/
theorem sequential_append (pre post : List (Name × Arg)) {s s1 : St} {vs : List Val}
    (h : sequential o s pre = (s1, vs, none)) :
    sequential o s (pre ++ post) =
      ((sequential o s1 post).1, vs ++ (sequential o s1 post).2.1, (sequential o s1 post).2.2) := by
  fun_induction sequential o s pre generalizing vs with
  | case1 s =>
    cases h
    rfl
  | case2 s c rest s' e hc => cases h
  | case3 s c rest s' e hc => cases h
  | case4 s c rest s' v hc s'' vs' f hq ih =>
    cases h
    rw [List.cons_append, sequential, hc]
    exact congrArg (fun q => (q.1, v :: q.2.1, q.2.2)) (ih hq)

theorem sequential_length (cs : List (Name × Arg)) (s : St) :
    match (sequential o s cs).2.2 with
    | none => (sequential o s cs).2.1.length = cs.length
    | some _ => (sequential o s cs).2.1.length < cs.length := by
  fun_induction sequential o s cs with
  | case1 s => rfl
  | case2 s c rest s' e hc => exact Nat.succ_pos _
  | case3 s c rest s' e hc => exact Nat.succ_pos _
  | case4 s c rest s' v hc s'' vs f hq ih =>
    rw [hq] at ih
    cases f with
    | none => exact congrArg (· + 1) ih
    | some f => exact Nat.succ_lt_succ ih

/-- Number of calls that reached their method in a sequential run over `total` calls: all of them, or
    the ones that returned plus the one whose method raised, or only the ones that returned when the
    gate refused the next name. -/
def ranCount (total : Nat) : List Val × Option (Fail Exc) → Nat
  | (_, none) => total
  | (vs, some (.raised _)) => vs.length + 1
  | (vs, some (.gate _)) => vs.length

theorem ranCount_cons (n : Nat) (v : Val) (vs : List Val) (f : Option (Fail Exc)) :
    ranCount (n + 1) (v :: vs, f) = ranCount n (vs, f) + 1 := by
  rcases f with _ | _ | _ <;> rfl

@[simp] theorem withLog_gate (o : Obj St Name Arg Val Exc) (s : St) (l : List (Name × Arg)) (n : Name) :
    (withLog o).gate (s, l) n = o.gate s n := rfl

@[simp] theorem withLog_apply (o : Obj St Name Arg Val Exc) (s : St) (l : List (Name × Arg)) (n : Name) (a : Arg) :
    (withLog o).apply (s, l) n a = (((o.apply s n a).1, l ++ [(n, a)]), (o.apply s n a).2) := rfl

/-- Sequential execution on the logging object: the wrapped object runs exactly as before and the log
    grows by a prefix of the calls: all calls that returned, plus the call whose method raised. -/
theorem sequential_withLog (cs : List (Name × Arg)) (s : St) (l : List (Name × Arg)) :
    sequential (withLog o) (s, l) cs =
      (((sequential o s cs).1, l ++ cs.take (ranCount cs.length (sequential o s cs).2)),
       (sequential o s cs).2) := by
  induction cs generalizing s l with
  | nil => simp [sequential, ranCount]
  | cons c rest ih =>
    rw [sequential, sequential]
    unfold serverCall
    rw [withLog_gate, withLog_apply]
    rcases o.gate s c.1 with _ | e
    · rcases o.apply s c.1 c.2 with ⟨s', v | e⟩
      -- the log already holds `c`; the remaining run adds its prefix of `rest`
      · simp only [ih, List.length_cons, ranCount_cons, List.take_succ_cons, List.append_assoc, List.singleton_append]
      · rfl
    · simp [ranCount]

end Pyro.Batch
