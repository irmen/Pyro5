/-
  Helper lemmas for the wire codec proofs (property theorems live in PyroProps/C06.lean).
-/
import PyroModel.Wire

namespace Pyro.Wire

open Pyro

@[simp] theorem take_toBE_append (w n : Nat) (b : Bytes) : (toBE w n ++ b).take w = toBE w n :=
  List.take_left' (toBE_length w n)

@[simp] theorem drop_toBE_append (w n : Nat) (b : Bytes) : (toBE w n ++ b).drop w = b :=
  List.drop_left' (toBE_length w n)

theorem recvN_append (a b : Bytes) (n : Nat) (h : a.length = n) : recvN n (a ++ b) = some (a, b) := by
  unfold recvN
  have : n ≤ (a ++ b).length := by simp [List.length_append]; omega
  rw [if_pos this, List.take_left' h, List.drop_left' h]

theorem headerPrefix_length : headerPrefix.length = 6 := by
  simp [headerPrefix, tagPYRO]

/-! ### flag bits (2 = COMPRESSED, 64 = CORR_ID) -/

theorem le_of_div_mod_two {f b : Nat} (h : f / b % 2 = 1) : b ≤ f :=
  Nat.le_of_not_lt fun hlt => by simp [Nat.div_eq_of_lt hlt] at h

theorem hasBit_add_self (f b : Nat) (hb : 0 < b) : hasBit (f + b) b = !hasBit f b := by
  unfold hasBit
  rw [Nat.add_div_right f hb]
  generalize f / b = x
  rcases Nat.mod_two_eq_zero_or_one x with h | h <;> simp [Nat.add_mod, h]

theorem hasBit_add_mul (f b k : Nat) (hb : 0 < b) : hasBit (f + b * (2 * k)) b = hasBit f b := by
  unfold hasBit
  rw [Nat.add_mul_div_left _ _ hb, Nat.add_mul_mod_self_left]

theorem hasBit_setBit (f b : Nat) (hb : 0 < b) : hasBit (setBit f b) b = true := by
  unfold setBit
  split
  · simpa [hasBit]
  · rename_i h
    rw [hasBit_add_self f b hb]
    simpa [hasBit] using h

theorem hasBit_clearBit (f b : Nat) (hb : 0 < b) : hasBit (clearBit f b) b = false := by
  unfold clearBit
  split
  · rename_i h
    have := hasBit_add_self (f - b) b hb
    rw [Nat.sub_add_cancel (le_of_div_mod_two h)] at this
    simpa [hasBit, h] using this
  · rename_i h
    simpa [hasBit] using h

theorem clearBit_setBit (g b : Nat) (hb : 0 < b) (h : hasBit g b = false) : clearBit (setBit g b) b = g := by
  have hs : setBit g b = g + b := by
    unfold setBit
    rw [if_neg]
    simpa [hasBit] using h
  have := hasBit_setBit g b hb
  rw [hs] at this ⊢
  simp only [hasBit, decide_eq_true_eq] at this
  rw [clearBit, if_pos this, Nat.add_sub_cancel]

theorem hasBit2_setBit64 (f : Nat) : hasBit (setBit f 64) 2 = hasBit f 2 := by
  unfold setBit
  split
  · rfl
  · exact hasBit_add_mul f 2 16 (by decide)

theorem clearBit2_setBit64 (f : Nat) : clearBit (setBit f 64) 2 = setBit (clearBit f 2) 64 := by
  have hA : (f + 64) / 2 % 2 = f / 2 % 2 := by
    rw [show 64 = 2 * (2 * 16) from rfl, Nat.add_mul_div_left _ _ (by decide : 0 < 2), Nat.add_mul_mod_self_left]
  -- clearing bit 2 does not borrow from above
  have hB : f / 2 % 2 = 1 → (f - 2) / 64 = f / 64 := by omega
  by_cases b2 : f / 2 % 2 = 1
  · by_cases b64 : f / 64 % 2 = 1
    · simp only [clearBit, setBit, b2, b64, hB, if_true]
    · -- the one case where both sides move: `f + 64 - 2 = f - 2 + 64`
      simp only [clearBit, setBit, b2, b64, hA, hB, if_true, if_false]
      exact Nat.sub_add_comm (le_of_div_mod_two b2)
  · by_cases b64 : f / 64 % 2 = 1 <;> simp only [clearBit, setBit, b2, b64, hA, if_true, if_false]

theorem clearBit_of_not_hasBit (f b : Nat) (h : hasBit f b = false) : clearBit f b = f := by
  unfold hasBit at h
  simp at h
  unfold clearBit
  rw [if_neg (by omega)]

/-! ### annotations -/

def keysOf (d : List Ann) : List (List Nat) := d.map (·.1)

theorem dictSet_fresh (d : List Ann) (k : List Nat) (v : Bytes) (h : k ∉ keysOf d) :
    dictSet d k v = d ++ [(k, v)] := by
  induction d with
  | nil => rfl
  | cons a d ih =>
    obtain ⟨k', v'⟩ := a
    simp only [keysOf, List.map_cons, List.mem_cons, not_or] at h
    simp [dictSet, Ne.symm h.1, ih h.2]

theorem keysOf_dictSet (d : List Ann) (k : List Nat) (v : Bytes) :
    ∀ x, x ∈ keysOf (dictSet d k v) ↔ x ∈ keysOf d ∨ x = k := by
  induction d with
  | nil => intro x; simp [dictSet, keysOf]
  | cons a d ih =>
    intro x
    simp only [dictSet]
    split
    · simp_all [keysOf]
    · simp only [keysOf, List.map_cons, List.mem_cons] at ih ⊢
      rw [ih, or_assoc]

theorem dictSet_nodup (d : List Ann) (k : List Nat) (v : Bytes) (h : (keysOf d).Nodup) :
    (keysOf (dictSet d k v)).Nodup := by
  induction d with
  | nil => simp [dictSet, keysOf]
  | cons a d ih =>
    simp only [keysOf, List.map_cons, List.nodup_cons] at h
    simp only [dictSet]
    split
    · rename_i hk
      simpa [keysOf, ← hk] using h
    · rename_i hk
      simp only [keysOf, List.map_cons, List.nodup_cons]
      refine ⟨fun hm => ?_, ih h.2⟩
      rcases (keysOf_dictSet d k v _).mp hm with h' | h'
      · exact h.1 h'
      · exact hk h'

/-- A key as the encoder accepts it: 4 code points, all ASCII. -/
def KeyOK (k : List Nat) : Prop := k.length = 4 ∧ ∀ c ∈ k, c < 128

theorem toNat_ofNat_ascii {c : Nat} (h : c < 128) : (UInt8.ofNat c).toNat = c := by
  simp [UInt8.toNat_ofNat']; omega

theorem key_roundtrip (k : List Nat) (h : ∀ c ∈ k, c < 128) :
    (k.map UInt8.ofNat).map UInt8.toNat = k := by
  rw [List.map_map]
  exact (List.map_congr_left fun c hc => toNat_ofNat_ascii (h c hc)).trans (List.map_id k)

theorem key_no_high (k : List Nat) (h : ∀ c ∈ k, c < 128) :
    (k.map UInt8.ofNat).any (· ≥ 128) = false := by
  rw [List.any_eq_false]
  intro b hb
  obtain ⟨c, hc, rfl⟩ := List.mem_map.mp hb
  have := h c hc
  simp only [ge_iff_le, decide_eq_true_eq, UInt8.le_iff_toNat_le, toNat_ofNat_ascii this]
  simp; omega

theorem encodeAnns_ok_inv (k : List Nat) (v : Bytes) (rest : List Ann) (bs : Bytes)
    (h : encodeAnns ((k, v) :: rest) = .ok bs) :
    k.length = 4 ∧ (∀ c ∈ k, c < 128) ∧ v.length < 2 ^ 32 ∧
      ∃ bs', encodeAnns rest = .ok bs' ∧ bs = k.map UInt8.ofNat ++ (toBE 4 v.length ++ (v ++ bs')) := by
  simp only [encodeAnns] at h
  split at h
  · cases h
  rename_i hlen
  split at h
  · cases h
  rename_i hascii
  split at h
  · cases h
  rename_i hfit
  split at h
  · cases h
  rename_i bs' hr
  simp only [Except.ok.injEq] at h
  refine ⟨by omega, fun c hc => ?_, by omega, bs', hr, by rw [← h]; simp⟩
  simp only [Bool.not_eq_true, List.any_eq_false, ge_iff_le, decide_eq_true_eq] at hascii
  have := hascii c hc
  omega

theorem encodeAnns_length (anns : List Ann) (bs : Bytes) (h : encodeAnns anns = .ok bs) :
    bs.length = annSize anns := by
  induction anns generalizing bs with
  | nil => simp [encodeAnns] at h; subst h; rfl
  | cons a rest ih =>
    obtain ⟨k, v⟩ := a
    obtain ⟨hk, _, _, bs', hr, rfl⟩ := encodeAnns_ok_inv k v rest bs h
    have := ih bs' hr
    simp only [annSize, List.map_cons, List.sum_cons] at this ⊢
    simp only [List.length_append, List.length_map, toBE_length, hk, this]
    omega

/-- The decoder's annotation walk inverts the encoder's annotation chunks. -/
theorem walk_encode (anns : List Ann) :
    ∀ (bs tail : Bytes) (acc : List Ann) (fuel : Nat),
      encodeAnns anns = .ok bs → bs.length ≤ fuel →
      (keysOf (acc ++ anns)).Nodup →
      walkAnns fuel (bs ++ tail) bs.length acc = .ok (acc ++ anns) := by
  induction anns with
  | nil =>
    intro bs tail acc fuel h _ _
    simp [encodeAnns] at h; subst h
    cases fuel <;> simp [walkAnns]
  | cons a rest ih =>
    intro bs tail acc fuel h hf hnd
    obtain ⟨k, v⟩ := a
    obtain ⟨hk, hascii, hv, bs', hr, rfl⟩ := encodeAnns_ok_inv k v rest bs h
    have hlen : (k.map UInt8.ofNat ++ (toBE 4 v.length ++ (v ++ bs'))).length = 8 + v.length + bs'.length := by
      simp only [List.length_append, List.length_map, toBE_length, hk]; omega
    rw [hlen] at hf ⊢
    cases fuel with
    | zero => omega
    | succ fuel =>
      have hkb : (k.map UInt8.ofNat).length = 4 := by simp [hk]
      simp only [walkAnns]
      rw [if_neg (by omega)]
      simp only [List.append_assoc]
      rw [List.take_left' hkb, key_no_high k hascii]
      simp only [Bool.false_eq_true, if_false]
      rw [List.drop_left' hkb, take_toBE_append, fromBE_toBE 4 _ (by simpa using hv)]
      have hd8 (X : Bytes) : List.drop 8 (k.map UInt8.ofNat ++ (toBE 4 v.length ++ X)) = X := by
        rw [show (8 : Nat) = 4 + 4 from rfl, ← List.drop_drop, List.drop_left' hkb, drop_toBE_append]
      rw [hd8, List.take_left' (l₁ := v) rfl, if_neg (by omega), ← List.drop_drop, hd8, List.drop_left' (l₁ := v) rfl,
        key_roundtrip k hascii]
      have hfresh : k ∉ keysOf acc := by
        simp only [keysOf, List.map_append, List.map_cons, List.nodup_append, List.nodup_cons] at hnd
        intro hm
        exact hnd.2.2 k hm k (List.mem_cons_self) rfl
      rw [dictSet_fresh acc k v hfresh]
      rw [show 8 + v.length + bs'.length - (8 + v.length) = bs'.length by omega,
        ih bs' tail (acc ++ [(k, v)]) fuel hr (by omega) (by simpa using hnd)]
      simp

end Pyro.Wire
