/-
  The clauses of the PyIR interpreter (`PyroModel.PyIR.exec`) as lemmas about variables, for the statement
  forms met in the runs that use them so far (those of `SocketConnection.close`): a symbolic run rewrites with them and
  never unfolds the interpreter.
-/
import PyroModel.PyIR

namespace Pyro.PyIR

variable {cfg : Cfg} {fuel : Nat} {cur : Option Val} {env env' : Env} {w w' : World}

/-- `w` after the calls `l` were made on objects other than the socket's byte streams -/
def logged (w : World) (l : List Nat) : World := { w with log := w.log ++ l }

theorem logged_logged (a b : List Nat) : logged (logged w a) b = logged w (a ++ b) := by
  simp [logged, List.append_assoc]

theorem exec_skip : exec cfg .skip fuel cur env w = .normal env w := by
  unfold exec
  rfl

theorem exec_seq (a b : Stmt) : exec cfg (.seq a b) fuel cur env w =
    match exec cfg a fuel cur env w with
    | .normal env w => exec cfg b fuel cur env w
    | r => r := by
  conv => lhs; unfold exec
  rfl

theorem exec_ite {c : Expr} {b : Bool} (t e : Stmt) (h : truth cfg env c = some b) :
    exec cfg (.ite c t e) fuel cur env w = exec cfg (if b then t else e) fuel cur env w := by
  conv => lhs; unfold exec
  rw [h]
  cases b <;> rfl

theorem exec_assign {x : String} {e : Expr} {v : Val} (h : eval cfg env e = some v) :
    exec cfg (.assign x e) fuel cur env w = .normal ((x, v) :: env) w := by
  unfold exec
  rw [h]

theorem exec_clearColl {x : String} {l : List Nat} (h : env.lookup x = some (.resources l)) :
    exec cfg (.clearColl x) fuel cur env w = .normal ((x, .resources []) :: env) w := by
  unfold exec
  rw [h]

/-- `with suppress(Exception)` around a statement that reaches the same state whether it raises or not -/
theorem exec_suppress {body : Stmt} {b : Bool} {x : Val}
    (h : exec cfg body fuel cur env w = if b then .raise x env' w' else .normal env' w') :
    exec cfg (.suppress body) fuel cur env w = .normal env' w' := by
  conv => lhs; unfold exec
  rw [h]
  cases b <;> rfl

theorem exec_sockShutdown : exec cfg (.suppress .sockShutdown) fuel cur env w = .normal env (logged w [sockShutdownMark]) :=
  exec_suppress (by unfold exec; rfl)

theorem exec_sockClose : exec cfg (.suppress .sockClose) fuel cur env w = .normal env (logged w [sockCloseMark]) :=
  exec_suppress (by unfold exec; rfl)

theorem exec_closeRes {e : Expr} {r : Nat} (h : eval cfg env e = some (.resource r)) :
    exec cfg (.suppress (.closeRes e)) fuel cur env w = .normal env (logged w [r]) :=
  exec_suppress (by unfold exec; rw [h]; rfl)

theorem exec_forEach_nil {x : String} {e : Expr} {body : Stmt} (h : eval cfg env e = some (.resources [])) :
    exec cfg (.forEach x e body) (fuel + 1) cur env w = .normal env w := by
  unfold exec
  rw [h]

theorem exec_forEach_cons {x : String} {e : Expr} {body : Stmt} {r : Nat} {rest : List Nat}
    (h : eval cfg env e = some (.resources (r :: rest)))
    (hb : exec cfg body (fuel + 1) cur ((x, .resource r) :: env) w = .normal env' w') :
    exec cfg (.forEach x e body) (fuel + 1) cur env w =
      exec cfg (.forEach x (.lit (.resources rest)) body) fuel cur env' w' := by
  conv => lhs; unfold exec
  rw [h]
  dsimp only
  rw [hb]

theorem exec_ret {e : Expr} {v : Val} (h : eval cfg env e = some v) :
    exec cfg (.ret e) fuel cur env w = .ret v w := by
  unfold exec
  rw [h]

theorem lookup_cons_ne {k k' : String} {v : Val} (h : k ≠ k') : List.lookup k ((k', v) :: env) = env.lookup k := by
  rw [List.lookup_cons, beq_false_of_ne h]

theorem truth_var {x : String} {v : Val} (h : env.lookup x = some v) : truth cfg env (.var x) = truthy v := by
  unfold truth
  rw [show eval cfg env (.var x) = _ from h]

end Pyro.PyIR
