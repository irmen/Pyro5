/-
  Invariants of the fine-grained interleaving semantics of the stream table
  (PyroModel/StreamsRace.lean), preserved by every micro-step of every thread, hence by every
  schedule.
-/
import PyroModel.StreamsRace

namespace Pyro.StreamsRace

open Pyro.Streams

/-! ### what the iterators handed out ++ what they still hold is constant -/

/-- the whole item sequence of stream `sid`: everything its `next()` calls produced so far (the model's ghost field
    `handed`), followed by what its iterator still holds -/
def ghost (sh : Shared) (sid : Nat) : List Item := handedOf sid sh.handed ++ sh.heap.getD sid []

theorem handedOf_snoc (sid : Nat) (h : List (Nat × Item)) (k : Nat) (it : Item) :
    handedOf sid (h ++ [(k, it)]) = handedOf sid h ++ (if k = sid then [it] else []) := by
  unfold handedOf
  by_cases hk : k = sid <;> simp [List.filter_append, hk]

theorem startCall_shared (cfg : Settings) (t : Thread) (sh : Shared) (c : Call) : (startCall cfg t sh c).2 = sh := by
  unfold startCall
  cases c with
  | next sid conn => simp only; split <;> rfl
  | close sid => simp only; split <;> rfl
  | disconnect conn => rfl
  | housekeeping => simp only; split <;> (try split) <;> rfl

theorem ghost_pop (sh : Shared) (k : Nat) (it : Item) (tl : List Item) (h : sh.heap.getD k [] = it :: tl) (sid : Nat) :
    ghost { sh with heap := sh.heap.set k tl, handed := sh.handed ++ [(k, it)] } sid = ghost sh sid := by
  unfold ghost
  simp only [handedOf_snoc]
  have hlt : k < sh.heap.length := by
    refine Nat.lt_of_not_le fun hn => ?_
    rw [List.getD_eq_getElem?_getD, List.getElem?_eq_none hn] at h
    cases h
  by_cases hk : k = sid
  · subst hk
    rw [if_pos rfl]
    have h1 : (sh.heap.set k tl).getD k [] = tl := by
      rw [List.getD_eq_getElem?_getD, List.getElem?_set_self hlt]; rfl
    rw [h1, h]; simp
  · rw [if_neg hk]
    have h1 : (sh.heap.set k tl).getD sid [] = sh.heap.getD sid [] := by
      rw [List.getD_eq_getElem?_getD, List.getD_eq_getElem?_getD, List.getElem?_set_ne hk]
    rw [h1]; simp

/-- a micro-step never changes `ghost`: only `next(stream)` touches the iterators, and it moves the
    head of what the iterator holds to the end of what it has handed out -/
theorem micro_ghost (m : Modes) (cfg : Settings) (t : Thread) (sh : Shared) (sid : Nat) :
    ghost (micro m cfg t sh).2 sid = ghost sh sid := by
  unfold micro
  -- one bullet per constructor of `Pc`, in order; only `nNext` (the fourth) touches the iterators
  split
  · split
    · rfl
    · rw [startCall_shared]
  · split <;> (try split) <;> rfl
  · rfl
  · rename_i k _  -- nNext
    split
    · rename_i v tl hh; exact ghost_pop sh k (.val v) tl hh sid
    · rfl
    · rename_i x tl hh; exact ghost_pop sh k (.raises x) tl hh sid
  · split <;> rfl
  · split <;> rfl
  · split
    · rfl
    · split <;> (try split) <;> (try split) <;> rfl
  · rfl
  · split <;> rfl
  · rfl
  · split
    · rfl
    · split <;> (try split) <;> rfl
  · split <;> rfl
  · rfl
  · split
    · rfl
    · split <;> (try split) <;> rfl
  · split <;> rfl

theorem stepT_ghost (m : Modes) (cfg : Settings) (c : Config) (tid sid : Nat) :
    ghost (stepT m cfg c tid).shared sid = ghost c.shared sid := by
  unfold stepT
  split
  · rfl
  · exact micro_ghost m cfg _ _ sid

theorem run_ghost (m : Modes) (cfg : Settings) (schedule : List Nat) (c : Config) (sid : Nat) :
    ghost (run m cfg c schedule).shared sid = ghost c.shared sid := by
  induction schedule generalizing c with
  | nil => rfl
  | cons t ts ih => exact (ih (stepT m cfg c t)).trans (stepT_ghost m cfg c t sid)

/-! ### what completed calls returned -/

/-- a completed call is well explained: with a tolerant removal in `get_next_stream_item` the reply is
    what `next(stream)` did whenever it was reached; a KeyError can only come from a `next` call or from
    a function that still removes with `del` -/
def Good (m : Modes) (d : Done) : Prop :=
  (m.next = .tolerant → ∀ o, d.2.2 = some o → d.2.1 = o) ∧
  (d.2.1 = .keyError → match d.1 with
    | .next _ _ => True
    | .close _ => m.close = .strict
    | .disconnect _ => m.disc = .strict
    | .housekeeping => m.hk = .strict)

/-- the program counter belongs to the call in progress -/
def PcCur (t : Thread) : Prop :=
  match t.pc with
  | .idle => True
  | .nGet _ _ | .nSet _ _ _ | .nNext _ | .nDel _ _ => ∃ sid conn, t.cur = .next sid conn
  | .cDel _ => ∃ sid, t.cur = .close sid
  | .dGet _ _ | .dSet _ _ _ _ | .dDel _ _ _ => ∃ conn, t.cur = .disconnect conn
  | .hKeys1 | .hGet1 _ | .hDel1 _ _ | .hKeys2 | .hGet2 _ | .hDel2 _ _ => t.cur = .housekeeping

/-! ### the thread invariant, kept by every micro-step of every thread -/

/-- the thread invariant: every completed call is `Good`, and the program counter belongs to the call in progress -/
structure TI (m : Modes) (t : Thread) : Prop where
  good : ∀ d ∈ t.done, Good m d
  pcCur : PcCur t

theorem ti_finish {m : Modes} {t : Thread} {r : RRes} {y : Option RRes} (h : TI m t) (hg : Good m (t.cur, r, y)) :
    TI m (t.finish r y) := by
  refine ⟨?_, by simp [Thread.finish, PcCur]⟩
  intro d hd
  simp only [Thread.finish, List.mem_append, List.mem_singleton] at hd
  rcases hd with hd | hd
  · exact h.good d hd
  · rw [hd]; exact hg

theorem good_plain (m : Modes) (c : Call) (r : RRes) (hr : r ≠ .keyError) : Good m (c, r, none) :=
  ⟨fun _ o ho => (by cases ho), fun h => absurd h hr⟩

theorem good_next_keyError (m : Modes) (sid conn : Nat) : Good m (.next sid conn, .keyError, none) :=
  ⟨fun _ o ho => (by cases ho), fun _ => trivial⟩

theorem remove_tolerant (t : RTable) (k : Nat) : remove .tolerant t k = some (t.erase k) := by
  unfold remove; split <;> simp_all

theorem remove_none {mode : Removal} {t : RTable} {k : Nat} (h : remove mode t k = none) : mode = .strict := by
  cases mode with
  | strict => rfl
  | tolerant => rw [remove_tolerant] at h; cases h

theorem ti_contD {m : Modes} {t : Thread} (conn : Nat) (todo : List Nat) (h : TI m t) (hc : ∃ conn', t.cur = .disconnect conn') :
    TI m (contD conn todo t) := by
  unfold contD
  split
  · exact ti_finish h (good_plain m _ _ (by decide))
  · exact ⟨h.good, hc⟩

theorem ti_afterLife {m : Modes} {t : Thread} (cfg : Settings) (h : TI m t) (hc : t.cur = .housekeeping) :
    TI m (afterLife cfg t) := by
  unfold afterLife
  split
  · exact ⟨h.good, hc⟩
  · exact ti_finish h (good_plain m _ _ (by decide))

theorem ti_contH1 {m : Modes} {t : Thread} (cfg : Settings) (todo : List Nat) (h : TI m t) (hc : t.cur = .housekeeping) :
    TI m (contH1 cfg todo t) := by
  unfold contH1
  split
  · exact ti_afterLife cfg h hc
  · exact ⟨h.good, hc⟩

theorem ti_contH2 {m : Modes} {t : Thread} (todo : List Nat) (h : TI m t) (hc : t.cur = .housekeeping) :
    TI m (contH2 todo t) := by
  unfold contH2
  split
  · exact ti_finish h (good_plain m _ _ (by decide))
  · exact ⟨h.good, hc⟩

theorem ti_startCall {m : Modes} (cfg : Settings) (t : Thread) (sh : Shared) (c : Call)
    (h : ∀ d ∈ t.done, Good m d) (hpc : t.pc = .idle) : TI m (startCall cfg t sh c).1 := by
  have h0 : TI m { t with cur := c } := ⟨h, by simp only [PcCur, hpc]⟩
  unfold startCall
  cases c with
  | next sid conn =>
    simp only
    split
    · exact ti_finish h0 (good_plain m _ _ (by decide))
    · exact ⟨h, ⟨sid, conn, rfl⟩⟩
  | close sid =>
    simp only
    split
    · exact ti_finish h0 (good_plain m _ _ (by decide))
    · exact ⟨h, ⟨sid, rfl⟩⟩
  | disconnect conn => exact ti_contD conn _ h0 ⟨conn, rfl⟩
  | housekeeping =>
    simp only
    split
    · exact ti_finish h0 (good_plain m _ _ (by decide))
    · split
      · exact ⟨h, rfl⟩
      · exact ti_afterLife cfg h0 rfl

/-- every micro-step preserves the thread invariant, whatever the shared state is -/
theorem ti_micro (m : Modes) (cfg : Settings) (t : Thread) (sh : Shared) (h : TI m t) : TI m (micro m cfg t sh).1 := by
  have hpc := h.pcCur
  unfold micro
  split
  · rename_i hp  -- idle
    split
    · exact h
    · exact ti_startCall cfg _ sh _ h.good hp
  · rename_i sid conn hp  -- nGet
    simp only [PcCur, hp] at hpc
    have ⟨s', c', hcur⟩ := hpc
    split
    · exact ti_finish h (by rw [hcur]; exact good_next_keyError m s' c')
    · split
      · exact ⟨h.good, hpc⟩
      · exact ⟨h.good, hpc⟩
  · rename_i sid conn e hp  -- nSet
    simp only [PcCur, hp] at hpc
    exact ⟨h.good, hpc⟩
  · rename_i sid hp  -- nNext
    simp only [PcCur, hp] at hpc
    split
    · refine ti_finish h ⟨fun _ o ho => ?_, fun hk => by cases hk⟩
      simp only [Option.some.injEq] at ho; exact ho
    · exact ⟨h.good, hpc⟩
    · exact ⟨h.good, hpc⟩
  · rename_i sid pending hp  -- nDel
    simp only [PcCur, hp] at hpc
    have ⟨s', c', hcur⟩ := hpc
    split
    · rename_i hrm
      have hstrict := remove_none hrm
      refine ti_finish h ⟨fun ht => ?_, fun _ => by rw [hcur]; trivial⟩
      rw [hstrict] at ht; cases ht
    · refine ti_finish h ⟨fun _ o ho => ?_, fun _ => by rw [hcur]; trivial⟩
      simp only [Option.some.injEq] at ho; exact ho
  · rename_i sid hp  -- cDel
    simp only [PcCur, hp] at hpc
    have ⟨s', hcur⟩ := hpc
    split
    · rename_i hrm
      refine ti_finish h ⟨fun _ o ho => (by cases ho), fun _ => ?_⟩
      rw [hcur]; exact remove_none hrm
    · exact ti_finish h (good_plain m _ _ (by decide))
  · rename_i conn todo hp  -- dGet
    simp only [PcCur, hp] at hpc
    split
    · exact ti_finish h (good_plain m _ _ (by decide))
    · split
      · split
        · split
          · exact ⟨h.good, hpc⟩
          · exact ⟨h.good, hpc⟩
        · exact ti_contD _ _ h hpc
      · exact ti_contD _ _ h hpc
  · rename_i conn k e todo hp  -- dSet
    simp only [PcCur, hp] at hpc
    exact ti_contD _ _ h hpc
  · rename_i conn k todo hp  -- dDel
    simp only [PcCur, hp] at hpc
    have ⟨c', hcur⟩ := hpc
    split
    · rename_i hrm
      refine ti_finish h ⟨fun _ o ho => (by cases ho), fun _ => ?_⟩
      rw [hcur]; exact remove_none hrm
    · exact ti_contD _ _ h hpc
  · rename_i hp  -- hKeys1
    simp only [PcCur, hp] at hpc
    exact ti_contH1 cfg _ h hpc
  · rename_i todo hp  -- hGet1
    simp only [PcCur, hp] at hpc
    split
    · exact ti_afterLife cfg h hpc
    · split
      · split
        · exact ⟨h.good, hpc⟩
        · exact ti_contH1 cfg _ h hpc
      · exact ti_contH1 cfg _ h hpc
  · rename_i k todo hp  -- hDel1
    simp only [PcCur, hp] at hpc
    split
    · rename_i hrm
      refine ti_finish h ⟨fun _ o ho => (by cases ho), fun _ => ?_⟩
      rw [hpc]; exact remove_none hrm
    · exact ti_contH1 cfg _ h hpc
  · rename_i hp  -- hKeys2
    simp only [PcCur, hp] at hpc
    exact ti_contH2 _ h hpc
  · rename_i todo hp  -- hGet2
    simp only [PcCur, hp] at hpc
    split
    · exact ti_finish h (good_plain m _ _ (by decide))
    · split
      · split
        · exact ⟨h.good, hpc⟩
        · exact ti_contH2 _ h hpc
      · exact ti_contH2 _ h hpc
  · rename_i k todo hp  -- hDel2
    simp only [PcCur, hp] at hpc
    split
    · rename_i hrm
      refine ti_finish h ⟨fun _ o ho => (by cases ho), fun _ => ?_⟩
      rw [hpc]; exact remove_none hrm
    · exact ti_contH2 _ h hpc

theorem ti_new (m : Modes) (prog : List Call) : TI m (Thread.new prog) :=
  ⟨by simp [Thread.new], by simp [Thread.new, PcCur]⟩

theorem ti_stepT (m : Modes) (cfg : Settings) (c : Config) (tid : Nat) (h : ∀ t ∈ c.threads, TI m t) :
    ∀ t ∈ (stepT m cfg c tid).threads, TI m t := by
  unfold stepT
  split
  · exact h
  · rename_i t0 ht0
    intro t ht
    simp only at ht
    rcases List.mem_or_eq_of_mem_set ht with ht | ht
    · exact h t ht
    · rw [ht]; exact ti_micro m cfg t0 c.shared (h t0 (List.mem_of_getElem? ht0))

theorem ti_run (m : Modes) (cfg : Settings) (schedule : List Nat) (c : Config) (h : ∀ t ∈ c.threads, TI m t) :
    ∀ t ∈ (run m cfg c schedule).threads, TI m t := by
  induction schedule generalizing c with
  | nil => exact h
  | cons x xs ih => exact ih (stepT m cfg c x) (ti_stepT m cfg c x h)

theorem ti_init (m : Modes) (table : RTable) (heap : List (List Item)) (now : Nat) (progs : List (List Call)) :
    ∀ t ∈ (Config.init table heap now progs).threads, TI m t := by
  intro t ht
  simp only [Config.init, List.mem_map] at ht
  obtain ⟨p, _, rfl⟩ := ht
  exact ti_new m p

end Pyro.StreamsRace
