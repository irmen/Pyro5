/-
  The container idioms of the transcribed `NameServer` (vocabulary: PyroModel/NsSrc.lean) against the model's: the
  source builds Python dicts by insertion and drops a key with `list.remove`, the model conses and filters.  On a
  back-end meeting `StoreOK` the two agree, because a mapping yields distinct keys.  Nothing here mentions a
  transcribed method, so the lemmas serve every regenerated transcription (PyroProps/C14Src, PyroProofs/NsSrcTr).
-/
import PyroModel.NsSrc
import PyroProofs.NSRefine

namespace Pyro.NS.Src

variable {σ : Type}

/-- `metadata = set(metadata) if metadata else None`, stored as `metadata or []` -/
theorem optTags_storedTags (md : MetaArg) :
    optTags (if md.truthy then some (dedup md.tags) else Option.none) = storedTags md := by
  cases h : md.truthy <;> simp [storedTags, optTags, h]

/-- the source compares with the text of `core.NAMESERVER_NAME`, the model with `nsName` -/
theorem bne_nsName (n : Str) :
    (n != ([80, 121, 114, 111, 46, 78, 97, 109, 101, 83, 101, 114, 118, 101, 114] : Str)) = (n != nsName) := rfl

/-- inserting under a new key appends -/
theorem dictSet_new {d : List Entry} {e : Entry} (h : ∀ a ∈ d, a.name ≠ e.name) : dictSet d e = d ++ [e] := by
  have : d.any (·.name == e.name) = false :=
    Bool.eq_false_iff.mpr fun hc => by
      obtain ⟨a, ha, hb⟩ := List.any_eq_true.mp hc
      exact h a ha (eq_of_beq hb)
  rw [dictSet, this]; rfl

theorem names_nodup {A : List Entry} (h : NodupKeys A) : (A.map (·.name)).Nodup :=
  List.pairwise_map.mpr h

theorem nodup_of_perm_names {l : List Str} {A : List Entry} (p : l.Perm (A.map (·.name))) (h : SpecInv A) : l.Nodup :=
  p.nodup_iff.mpr (names_nodup h.1)

theorem strip_names_nodup {l A : List Entry} {wm : Bool} (p : l.Perm (A.map (Entry.strip wm))) (h : SpecInv A) :
    (l.map (·.name)).Nodup := by
  have h2 : (A.map (Entry.strip wm)).map (·.name) = A.map (·.name) := by
    rw [List.map_map]; exact List.map_congr_left fun e _ => strip_name wm e
  exact nodup_of_perm_names (h2 ▸ p.map (·.name)) h

/-- `l.remove(NS)` guarded by `NS in l`, on a key list -/
theorem guardedErase_eq_filter (l : List Str) (h : l.Nodup) :
    (if l.contains nsName then l.erase nsName else l) = l.filter (· != nsName) := by
  rw [← h.erase_eq_filter]
  split
  · rfl
  · rename_i hc
    exact (List.erase_of_not_mem (by simpa using hc)).symm

section
variable {abs : σ → List Entry} {inv : σ → Prop} {F : Prop}

/-- two continuations of a read-only storage call need only agree on what the contract lets the call deliver -/
theorem call_congr {α : Type} {m : σ → Option α × σ} {k k' : α → σ → Res × σ} {s : σ} {good : α → Prop}
    (h : RO abs inv F s (m s) good)
    (hk : ∀ a s1, good a → abs s1 = abs s → inv s1 → k a s1 = k' a s1) : call m k s = call m k' s := by
  unfold call
  obtain ⟨hmap, hinv, _, hgood⟩ := h
  rcases hm : m s with ⟨o, s1⟩
  rw [hm] at hmap hinv hgood
  cases o with
  | none => rfl
  | some a => exact hk a s1 (hgood a rfl) hmap hinv

/-- `acc` put in front of a listing result; any other result is left alone -/
def prependListing (acc : List Entry) : Res × σ → Res × σ
  | (.listing l, s) => (.listing (acc ++ l), s)
  | r => r

theorem prependListing_nil : ∀ r : Res × σ, prependListing [] r = r
  | (.listing _, _) => rfl
  | (.none, _) | (.num _, _) | (.uri _, _) | (.uriMeta _ _, _) | (.err _, _) => rfl

/-- the body of the two `for name in self.storage:` loops of `list`, as the translator emits it -/
abbrev listBody (S : Store σ) (pred : Str → Bool) (wm : Bool) : Str → List Entry → σ → Except Res (List Entry) × σ :=
  fun x acc s =>
    if pred x then
      (if wm then getItemL S x (fun e s' => (Except.ok (dictSet acc ⟨x, e.uri, e.tags⟩), s')) s
       else getItemL S x (fun e s' => (Except.ok (dictSet acc ⟨x, e.uri, []⟩), s')) s)
    else (Except.ok acc, s)


/-- The source's loop (dict built by insertion, one `self.storage[name]` per selected name) is the model's
    `collect`, on every back-end meeting the contract: names come out distinct and `storage[n]` is filed under `n`. -/
theorem list_loop {S : Store σ} (ok : StoreOK abs inv F S) (pred : Str → Bool) (wm : Bool) :
    ∀ (names : List Str) (acc : List Entry) (s : σ), inv s → SpecInv (abs s) → names.Nodup →
      (∀ n ∈ names, ∀ a ∈ acc, a.name ≠ n) →
      afterLoop (forEach (listBody S pred wm) names acc s) (fun r s' => (Res.listing r, s')) =
        prependListing acc (collect S pred wm names s)
  | [], acc, s, _, _, _, _ => by simp [forEach, afterLoop, collect, prependListing]
  | n :: ns, acc, s, hi, hs, hnd, hdis => by
    have hnd' := (List.nodup_cons.mp hnd)
    have hdis' : ∀ m ∈ ns, ∀ a ∈ acc, a.name ≠ m := fun m hm a ha => hdis m (List.mem_cons_of_mem _ hm) a ha
    by_cases hp : pred n
    · obtain ⟨hmap, hinv, _, hgood⟩ := ok.getItem n s hi hs
      rcases hg : S.getItem n s with ⟨o, s1⟩
      rw [hg] at hmap hinv hgood
      have hb : listBody S pred wm n acc s =
          getItemL S n (fun e s' => (Except.ok (dictSet acc ⟨n, e.uri, (e.strip wm).tags⟩), s')) s := by
        simp only [listBody, hp, if_true]
        cases wm <;> rfl
      rcases o with _ | _ | e
      · -- the storage call failed
        simp [forEach, hb, getItemL, hg, afterLoop, collect, hp, prependListing]
      · -- KeyError
        simp [forEach, hb, getItemL, hg, afterLoop, collect, hp, prependListing]
      · have hname : e.name = n := (find?_name (hgood _ rfl).symm).2
        have hsn : (e.strip wm).name = n := (strip_name wm e).trans hname
        have he : (⟨n, e.uri, (e.strip wm).tags⟩ : Entry) = e.strip wm := by
          cases wm <;> simp [Entry.strip, ← hname]
        have hset : dictSet acc (e.strip wm) = acc ++ [e.strip wm] :=
          dictSet_new fun a ha => hsn ▸ hdis n List.mem_cons_self a ha
        have ih := list_loop ok pred wm ns (acc ++ [e.strip wm]) s1 hinv (hmap ▸ hs) hnd'.2 (by
          intro m hm a ha
          rcases List.mem_append.mp ha with ha | ha
          · exact hdis' m hm a ha
          · rw [List.mem_singleton.mp ha, hsn]
            exact fun hc => hnd'.1 (hc ▸ hm))
        simp only [forEach, hb, getItemL, hg, he, hset, collect, hp, if_true]
        rw [ih]
        rcases collect S pred wm ns s1 with ⟨r, s2⟩
        cases r <;> simp [prependListing]
    · have hb : listBody S pred wm n acc s = (Except.ok acc, s) := by simp [listBody, hp]
      have ih := list_loop ok pred wm ns acc s hi hs hnd'.2 hdis'
      simp only [forEach, hb, collect, hp]
      simpa using ih

theorem iter_listBody {S : Store σ} (ok : StoreOK abs inv F S) (pred : Str → Bool) (wm : Bool) (s : σ)
    (hi : inv s) (hs : SpecInv (abs s)) :
    call S.iter (fun l s' => afterLoop (forEach (listBody S pred wm) l ([] : List Entry) s') (fun r s'' => (Res.listing r, s''))) s =
      call S.iter (fun names s2 => collect S pred wm names s2) s :=
  call_congr (ok.iter s hi hs) fun l s1 hl h1 h2 => by
    rw [list_loop ok pred wm l [] s1 h2 (h1 ▸ hs) (nodup_of_perm_names hl hs) (fun _ _ _ ha => nomatch ha), prependListing_nil]

/-- the body of the loops of `yplookup` over `everything(return_metadata=True).items()` -/
abbrev ypBody (q : Entry → Bool) (wm : Bool) : Entry → List Entry → σ → Except Res (List Entry) × σ :=
  fun x acc s =>
    if q x then
      (if wm then (Except.ok (dictSet acc ⟨x.name, x.uri, x.tags⟩), s) else (Except.ok (dictSet acc ⟨x.name, x.uri, []⟩), s))
    else (Except.ok acc, s)

theorem yp_loop (q : Entry → Bool) (wm : Bool) :
    ∀ (l acc : List Entry) (s : σ), (l.map (·.name)).Nodup → (∀ e ∈ l, ∀ a ∈ acc, a.name ≠ e.name) →
      forEach (ypBody q wm) l acc s = (Except.ok (acc ++ (l.filter q).map (Entry.strip wm)), s)
  | [], acc, s, _, _ => by simp [forEach]
  | e :: l, acc, s, hnd, hdis => by
    rw [List.map_cons, List.nodup_cons] at hnd
    have hdis' : ∀ x ∈ l, ∀ a ∈ acc, a.name ≠ x.name := fun x hx a ha => hdis x (List.mem_cons_of_mem _ hx) a ha
    by_cases hq : q e
    · have hb : ypBody q wm e acc s = (Except.ok (acc ++ [e.strip wm]), (s : σ)) := by
        rw [← dictSet_new fun a ha => strip_name wm e ▸ hdis e List.mem_cons_self a ha]
        cases wm <;> simp [ypBody, hq, Entry.strip]
      have ih := yp_loop q wm l (acc ++ [e.strip wm]) s hnd.2 (by
        intro x hx a ha
        rcases List.mem_append.mp ha with ha | ha
        · exact hdis' x hx a ha
        · rw [List.mem_singleton.mp ha, strip_name]
          exact fun hc => hnd.1 (List.mem_map.mpr ⟨x, hx, hc.symm⟩))
      simp only [forEach, hb]
      rw [ih]
      simp [hq]
    · have hb : ypBody q wm e acc s = (Except.ok acc, (s : σ)) := by simp [ypBody, hq]
      simp only [forEach, hb]
      rw [yp_loop q wm l acc s hnd.2 hdis']
      simp [hq]

/-- one branch of the source's `yplookup` (the optimised search, else the loop over `everything`) is `nsYp` -/
theorem yp_branch {S : Store σ} (ok : StoreOK abs inv F S) (wm : Bool) (s : σ) (hi : inv s) (hs : SpecInv (abs s))
    (isAll : Bool) (arg : MetaArg) (ht : arg.truthy = true) (hstr : arg.isStr = false) :
    call (S.optMeta isAll arg.tags wm) (fun v s5 =>
      match v with
      | some l => (Res.listing l, s5)
      | Option.none => call (S.everything true) (fun l s10 =>
          afterLoop (forEach (ypBody (if isAll then hasAll arg.tags else hasAny arg.tags) wm) l ([] : List Entry) s10)
            (fun r s11 => (Res.listing r, s11))) s5) s = nsYp S isAll arg wm s := by
  simp only [nsYp, hstr, Bool.false_eq_true, if_false]
  refine call_congr (ok.optMeta isAll arg.tags wm s hi hs (arg.tags_ne_nil ht hstr)) fun o s1 _ h1 h2 => ?_
  cases o with
  | some l => rfl
  | none =>
    refine call_congr (ok.everything true s1 h2 (h1 ▸ hs)) fun l s2 hl _ _ => ?_
    rw [yp_loop _ wm l [] s2 (strip_names_nodup hl (h1 ▸ hs)) (fun _ _ _ ha => nomatch ha)]
    rfl

/-- The source's `remove` by listing: `m` is its own `list` (it computes `nsList`), `f` how it drops the name
    server's name from the key list (`list.remove` or a filter: the same on distinct keys). -/
theorem removeListed_src {S : Store σ} (ok : StoreOK abs inv F S) (env : Env) (p r : Option Str) (s : σ)
    (hi : inv s) (hs : SpecInv (abs s)) {m : σ → Res × σ} (hm : m s = nsList S env p r false s)
    {f : List Str → List Str} (hf : ∀ l : List Str, l.Nodup → f l = l.filter (· != nsName)) :
    callDict m (fun l s6 =>
        call (S.removeItems (f (l.map (·.name)))) (fun _ s7 => (Res.num (f (l.map (·.name))).length, s7)) s6) s
      = nsRemoveListed S env p r s := by
  rw [callDict, hm, nsRemoveListed]
  obtain ⟨_, _, hanswer⟩ := nsList_good ok env p r false hs s rfl hi
  rcases hn : nsList S env p r false s with ⟨res, s2⟩
  rw [hn] at hanswer
  cases res with
  | listing l =>
    have hnd : (l.map (·.name)).Nodup := by
      rcases hanswer with ⟨_, h⟩ | h
      · cases h
      · obtain ⟨a, ha, hperm⟩ := h.symm.listing_right
        obtain ⟨q, rfl⟩ := spec_list_is_select env p r false (abs s) ha
        exact strip_names_nodup (wm := false) hperm.symm (hs.filter q)
    simp only [hf _ hnd]
  | _ => rfl

/-- the two arms (`prefix=`, `regex=`) of the source's `remove` by listing, as `removeSrc` nests them -/
theorem remove_tail_src {S : Store σ} (ok : StoreOK abs inv F S) (env : Env) (pfx regex : Option Str) (s : σ)
    (hi : inv s) (hs : SpecInv (abs s)) {lst : Option Str → Option Str → σ → Res × σ}
    (hl : ∀ p r, lst p r s = nsList S env p r false s)
    {f : List Str → List Str} (hf : ∀ l : List Str, l.Nodup → f l = l.filter (· != nsName)) :
    (match truthy? pfx with
      | some p => callDict (lst (some p) Option.none) (fun l s6 =>
          call (S.removeItems (f (l.map (·.name)))) (fun _ s7 => (Res.num (f (l.map (·.name))).length, s7)) s6) s
      | Option.none =>
        match truthy? regex with
        | some r => callDict (lst Option.none (some r)) (fun l s6 =>
            call (S.removeItems (f (l.map (·.name)))) (fun _ s7 => (Res.num (f (l.map (·.name))).length, s7)) s6) s
        | Option.none => (Res.num 0, s)) =
    (match truthy? pfx with
      | some p => nsRemoveListed S env (some p) Option.none s
      | Option.none =>
        match truthy? regex with
        | some r => nsRemoveListed S env Option.none (some r) s
        | Option.none => (.num 0, s)) := by
  cases truthy? pfx with
  | some p => exact removeListed_src ok env _ _ s hi hs (hl _ _) hf
  | none =>
    cases truthy? regex with
    | some r => exact removeListed_src ok env _ _ s hi hs (hl _ _) hf
    | none => rfl

end
end Pyro.NS.Src
