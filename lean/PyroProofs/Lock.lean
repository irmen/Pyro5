/-
  The atomicity theorem for `PyroModel.Lock`: every reachable configuration of the free
  interleaving semantics is the sequential replay of the completed operations, in lock-release
  order, plus the partially executed body of the current lock holder (`Inv`, `atomic`).
-/
import PyroModel.Lock

namespace Pyro.Lock

variable {S L R : Type}

def TState.isRunning : TState S L R → Bool
  | .running _ _ _ => true
  | _ => false

theorem runSteps_append (a b : List (L → S → L × S)) (l : L) (s : S) :
    runSteps (a ++ b) l s = runSteps b (runSteps a l s).1 (runSteps a l s).2 := by
  simp [runSteps, List.foldl_append]

theorem seqRun_snoc (ops : List (Op S L R)) (op : Op S L R) (s0 : S) :
    seqRun (ops ++ [op]) s0 =
      ((op.run (seqRun ops s0).1).1, (seqRun ops s0).2 ++ [(op.run (seqRun ops s0).1).2]) := by
  induction ops generalizing s0 with
  | nil => simp [seqRun]
  | cons o os ih =>
    simp only [List.cons_append, seqRun]
    rw [ih]

/-- The invariant: log results are the sequential results; the shared state is the sequential
    replay of the log (no holder) or that replay advanced by the consumed prefix of the holder's
    body (holder); nobody but the holder is inside a body. -/
structure Inv (s0 : S) (c : Config S L R) : Prop where
  results : c.log.map (·.2.2) = (seqRun (c.log.map (·.2.1)) s0).2
  state : match c.holder with
    | none => c.shared = (seqRun (c.log.map (·.2.1)) s0).1 ∧
              ∀ (t : Nat) (st : TState S L R), c.threads[t]? = some st → st.isRunning = false
    | some h => ∃ op l rest pre, c.threads[h]? = some (.running op l rest) ∧ op.steps = pre ++ rest ∧
              runSteps pre op.init (seqRun (c.log.map (·.2.1)) s0).1 = (l, c.shared) ∧
              ∀ (t : Nat) (st : TState S L R), t ≠ h → c.threads[t]? = some st → st.isRunning = false

theorem run_induction {P : Config S L R → Prop} (hstep : ∀ c tid, P c → P (step c tid))
    (schedule : List Nat) : ∀ c, P c → P (run c schedule) := by
  induction schedule with
  | nil => exact fun _ h => h
  | cons t ts ih => exact fun c h => ih _ (hstep c t h)

theorem getElem?_set_of_some {α} {l : List α} {i : Nat} {b : α} (h : l[i]? = some b) (a : α) (j : Nat) :
    (l.set i a)[j]? = if i = j then some a else l[j]? := by
  have hi : i < l.length := (List.getElem?_eq_some_iff.mp h).1
  rw [List.getElem?_set]
  split <;> simp [*]

theorem init_thread {s0 : S} {ops : List (Op S L R)} {t : Nat} {st : TState S L R}
    (h : (Config.init s0 ops).threads[t]? = some st) : ∃ op, ops[t]? = some op ∧ st = .waiting op := by
  rw [Config.init, List.getElem?_map] at h
  obtain ⟨op, ho, rfl⟩ := Option.map_eq_some_iff.mp h
  exact ⟨op, ho, rfl⟩

theorem inv_init (s0 : S) (ops : List (Op S L R)) : Inv s0 (Config.init s0 ops) := by
  refine ⟨rfl, rfl, fun t st h => ?_⟩
  obtain ⟨op, _, rfl⟩ := init_thread h
  rfl

theorem inv_of_running {s0 : S} {c : Config S L R} (hinv : Inv s0 c) {tid : Nat} {op : Op S L R} {l : L}
    {rest : List (L → S → L × S)} (ht : c.threads[tid]? = some (.running op l rest)) :
    c.holder = some tid ∧ ∃ pre, op.steps = pre ++ rest ∧
      runSteps pre op.init (seqRun (c.log.map (·.2.1)) s0).1 = (l, c.shared) ∧
      ∀ (t : Nat) (st : TState S L R), t ≠ tid → c.threads[t]? = some st → st.isRunning = false := by
  have hs := hinv.state
  cases hh : c.holder with
  | none =>
    rw [hh] at hs
    cases hs.2 tid _ ht
  | some h =>
    rw [hh] at hs
    obtain ⟨op', l', rest', pre, hth, hsteps, hrun, hnr⟩ := hs
    by_cases he : tid = h
    · subst he
      rw [ht] at hth
      cases hth
      exact ⟨rfl, pre, hsteps, hrun, hnr⟩
    · cases hnr tid _ he ht

theorem inv_step (s0 : S) (c : Config S L R) (tid : Nat) (hinv : Inv s0 c) : Inv s0 (step c tid) := by
  unfold step
  split
  next op ht =>
    split
    next hh =>
      have hs := hinv.state
      rw [hh] at hs
      -- the holder's witnesses `op l rest pre`: nothing of the body consumed yet
      refine { results := hinv.results,
               state := ⟨op, op.init, op.steps, [], ?_, rfl, congrArg _ hs.1.symm, fun t st hne hst => ?_⟩ }
      · rw [getElem?_set_of_some ht, if_pos rfl]
      · rw [getElem?_set_of_some ht, if_neg (Ne.symm hne)] at hst
        exact hs.2 t st hst
    next => exact hinv
  next op l f rest ht =>
    obtain ⟨hhold, pre, hsteps, hrun, hnr⟩ := inv_of_running hinv ht
    refine { results := hinv.results, state := ?_ }
    simp only [hhold]
    -- witnesses `op l rest pre`: one more micro-step consumed
    refine ⟨op, (f l c.shared).1, rest, pre ++ [f], ?_, ?_, ?_, fun t st hne hst => ?_⟩
    · rw [getElem?_set_of_some ht, if_pos rfl]
    · rw [hsteps, List.append_assoc]
      rfl
    · rw [runSteps_append, hrun]
      rfl
    · rw [getElem?_set_of_some ht, if_neg (Ne.symm hne)] at hst
      exact hnr t st hne hst
  next op l ht =>
    -- release: the whole body has run, so the shared state is the replay extended by this operation
    obtain ⟨_, pre, hsteps, hrun, hnr⟩ := inv_of_running hinv ht
    rw [List.append_nil] at hsteps
    have hseq : seqRun (c.log.map (·.2.1) ++ [op]) s0 =
        (c.shared, (seqRun (c.log.map (·.2.1)) s0).2 ++ [op.result l]) := by
      rw [seqRun_snoc, Op.run, hsteps, hrun]
    refine ⟨?_, ?_⟩
    · simp only [List.map_append, List.map_cons, List.map_nil, hseq, hinv.results]
    · simp only [List.map_append, List.map_cons, List.map_nil, hseq, true_and]
      intro t st hst
      rw [getElem?_set_of_some ht] at hst
      split at hst
      · cases hst
        rfl
      · exact hnr t st (Ne.symm ‹_›) hst
  next => exact hinv

/-- **Lock.atomic.**  For every initial state, every set of operations whose bodies run under the
    one lock, and every schedule (any number of threads, any length): the reached configuration
    satisfies `Inv` — completed operations took effect atomically, one after another, in
    lock-release order, and each returned what sequential execution returns at its position. -/
theorem atomic (s0 : S) (ops : List (Op S L R)) (schedule : List Nat) :
    Inv s0 (run (Config.init s0 ops) schedule) :=
  run_induction (fun c t => inv_step s0 c t) schedule _ (inv_init s0 ops)

/-- Quiescent corollary: when no thread holds the lock, the shared state is exactly the
    sequential replay of the completed operations in log order and the logged results are the
    sequential results. -/
theorem atomic_quiescent (s0 : S) (ops : List (Op S L R)) (schedule : List Nat)
    (hq : (run (Config.init s0 ops) schedule).holder = none) :
    let c := run (Config.init s0 ops) schedule
    (c.shared, c.log.map (·.2.2)) = seqRun (c.log.map (·.2.1)) s0 := by
  have h := atomic s0 ops schedule
  have hs := h.state
  rw [hq] at hs
  simp only
  rw [h.results, hs.1]

/-! ### bookkeeping: which thread ran which operation, and that each completes at most once -/

/-- Thread `t` runs `ops[t]`; a thread is finished exactly when it has its one entry in the log. -/
structure Book (ops : List (Op S L R)) (c : Config S L R) : Prop where
  logged : ∀ e ∈ c.log, ops[e.1]? = some e.2.1 ∧ c.threads[e.1]? = some (.done e.2.2)
  done_logged : ∀ (t : Nat) (r : R), c.threads[t]? = some (.done r) → ∃ op, (t, op, r) ∈ c.log
  waiting_op : ∀ (t : Nat) (op : Op S L R), c.threads[t]? = some (.waiting op) → ops[t]? = some op
  running_op : ∀ (t : Nat) (op : Op S L R) (l : L) (rest : List (L → S → L × S)),
      c.threads[t]? = some (.running op l rest) → ops[t]? = some op
  nodup : (c.log.map (·.1)).Nodup
  len : c.threads.length = ops.length

theorem book_init (s0 : S) (ops : List (Op S L R)) : Book ops (Config.init s0 ops) := by
  refine { logged := (fun _ he => nomatch he), done_logged := fun t r h => ?_, waiting_op := fun t op h => ?_,
           running_op := fun t op l rest h => ?_, nodup := .nil, len := List.length_map _ }
  · obtain ⟨_, _, ho⟩ := init_thread h
    cases ho
  · obtain ⟨_, ho, hst⟩ := init_thread h
    cases hst
    exact ho
  · obtain ⟨_, _, ho⟩ := init_thread h
    cases ho

/-- covers both taking the lock and one micro-step of the body: neither changes the log -/
theorem book_set_running {ops : List (Op S L R)} {c : Config S L R} (hb : Book ops c) {tid : Nat}
    {st : TState S L R} (ht : c.threads[tid]? = some st) (hnd : ∀ r, st ≠ .done r) {op : Op S L R}
    (hop : ops[tid]? = some op) (l : L) (rest : List (L → S → L × S)) (s : S) (h : Option Nat) :
    Book ops ⟨s, h, c.threads.set tid (.running op l rest), c.log⟩ := by
  refine { logged := fun e he => ?_, done_logged := fun t r h => ?_, waiting_op := fun t op' h => ?_,
           running_op := fun t op' l' rest' h => ?_, nodup := hb.nodup, len := ?_ }
  · obtain ⟨h1, h2⟩ := hb.logged e he
    refine ⟨h1, ?_⟩
    have hne : tid ≠ e.1 := fun heq => hnd _ (Option.some.inj ((heq ▸ ht).symm.trans h2))
    rw [getElem?_set_of_some ht, if_neg hne]
    exact h2
  · rw [getElem?_set_of_some ht] at h
    split at h
    · cases h
    · exact hb.done_logged t r h
  · rw [getElem?_set_of_some ht] at h
    split at h
    · cases h
    · exact hb.waiting_op t op' h
  · rw [getElem?_set_of_some ht] at h
    split at h
    · cases h
      subst_vars
      exact hop
    · exact hb.running_op t op' l' rest' h
  · rw [List.length_set]
    exact hb.len

theorem book_step (ops : List (Op S L R)) (c : Config S L R) (tid : Nat) (hb : Book ops c) :
    Book ops (step c tid) := by
  unfold step
  split
  next op ht =>
    split
    · exact book_set_running hb ht (hnd := nofun) (hop := hb.waiting_op tid op ht) ..
    · exact hb
  next op l f rest ht => exact book_set_running hb ht (hnd := nofun) (hop := hb.running_op tid op l _ ht) ..
  next op l ht =>
    -- release: the thread was not in the log (logged threads are done), so the thread column stays duplicate-free
    have hnotin : tid ∉ c.log.map (·.1) := by
      intro hm
      obtain ⟨e, he, heq⟩ := List.mem_map.mp hm
      have := (hb.logged e he).2
      rw [heq, ht] at this
      cases this
    refine { logged := fun e he => ?_, done_logged := fun t r h => ?_, waiting_op := fun t op' h => ?_,
             running_op := fun t op' l' rest' h => ?_, nodup := ?_, len := ?_ }
    · rcases List.mem_append.mp he with he | he
      · obtain ⟨h1, h2⟩ := hb.logged e he
        have hne : tid ≠ e.1 := fun heq => hnotin (heq ▸ List.mem_map_of_mem he)
        rw [getElem?_set_of_some ht, if_neg hne]
        exact ⟨h1, h2⟩
      · cases List.mem_singleton.mp he
        exact ⟨hb.running_op tid op l [] ht, by rw [getElem?_set_of_some ht, if_pos rfl]⟩
    · rw [getElem?_set_of_some ht] at h
      split at h
      · cases h
        subst_vars
        exact ⟨op, List.mem_append_right _ (List.mem_singleton_self _)⟩
      · obtain ⟨op', hm⟩ := hb.done_logged t r h
        exact ⟨op', List.mem_append_left _ hm⟩
    · rw [getElem?_set_of_some ht] at h
      split at h
      · cases h
      · exact hb.waiting_op t op' h
    · rw [getElem?_set_of_some ht] at h
      split at h
      · cases h
      · exact hb.running_op t op' l' rest' h
    · rw [List.map_append, List.nodup_append]
      refine ⟨hb.nodup, List.pairwise_singleton _ _, fun a ha b hb' hab => ?_⟩
      cases List.mem_singleton.mp hb'
      subst hab
      exact hnotin ha
    · rw [List.length_set]
      exact hb.len
  next => exact hb

/-- Bookkeeping holds in every reachable configuration. -/
theorem book (s0 : S) (ops : List (Op S L R)) (schedule : List Nat) :
    Book ops (run (Config.init s0 ops) schedule) :=
  run_induction (fun c t => book_step ops c t) schedule _ (book_init s0 ops)

theorem results_explained (s0 : S) (ops : List (Op S L R)) (schedule : List Nat) (t : Nat) (r : R)
    (hdone : (run (Config.init s0 ops) schedule).threads[t]? = some (.done r)) :
    let c := run (Config.init s0 ops) schedule
    ∃ (i : Nat) (op : Op S L R), c.log[i]? = some (t, op, r) ∧ ops[t]? = some op ∧
      (seqRun (c.log.map (·.2.1)) s0).2[i]? = some r := by
  intro c
  have hb := book s0 ops schedule
  obtain ⟨op, hm⟩ := hb.done_logged t r hdone
  obtain ⟨i, hi⟩ := List.getElem?_of_mem hm
  refine ⟨i, op, hi, (hb.logged _ hm).1, ?_⟩
  rw [← (atomic s0 ops schedule).results, List.getElem?_map, hi]
  rfl

theorem log_calls {α : Type} (f : α → Op S L R) (s0 : S) (calls : List α) (schedule : List Nat) :
    ∃ lc : List α, (run (Config.init s0 (calls.map f)) schedule).log.map (·.2.1) = lc.map f ∧
      lc.length = (run (Config.init s0 (calls.map f)) schedule).log.length ∧ ∀ x ∈ lc, x ∈ calls := by
  suffices h : ∀ lg : List (Nat × Op S L R × R), (∀ e ∈ lg, (calls.map f)[e.1]? = some e.2.1) →
      ∃ lc : List α, lg.map (·.2.1) = lc.map f ∧ lc.length = lg.length ∧ ∀ x ∈ lc, x ∈ calls from
    h _ fun e he => ((book s0 (calls.map f) schedule).logged e he).1
  intro lg hl
  induction lg with
  | nil => exact ⟨[], rfl, rfl, nofun⟩
  | cons e es ih =>
    obtain ⟨lc, h1, h2, h3⟩ := ih fun e' he' => hl e' (List.mem_cons_of_mem _ he')
    have he := hl e List.mem_cons_self
    rw [List.getElem?_map] at he
    obtain ⟨x, hx, hfx⟩ := Option.map_eq_some_iff.mp he
    refine ⟨x :: lc, ?_, congrArg (· + 1) h2, ?_⟩
    · rw [List.map_cons, List.map_cons, h1, hfx]
    · intro y hy
      rcases List.mem_cons.mp hy with rfl | hy
      · exact List.mem_of_getElem? hx
      · exact h3 y hy

theorem log_replicate {α : Type} (f : α → Op S L R) (s0 : S) (x : α) (k : Nat) (schedule : List Nat) :
    let c := run (Config.init s0 ((List.replicate k x).map f)) schedule
    c.log.map (·.2.1) = (List.replicate c.log.length x).map f := by
  intro c
  obtain ⟨lc, h1, h2, h3⟩ := log_calls f s0 (List.replicate k x) schedule
  rw [h1, ← h2, List.eq_replicate_iff.mpr ⟨rfl, fun y hy => (List.mem_replicate.mp (h3 y hy)).2⟩,
    List.length_replicate]

end Pyro.Lock
