/-
  The two paths of the value-mapping model as a whole: argument path = result path (`sym`), the result
  path's fixed points / range (`res_fixed`, `res_range`, from (A) and (B) of PyroProofs/ValuesNF.lean), and
  the lossless core of the property lies inside every serializer's normal forms (`lossless_nf`).
-/
import PyroProofs.ValuesNF

namespace Pyro.Values

open Pyro

theorem key_ne1 : (Val.str sK = classKey) = False := by decide
theorem key_ne2 : (vStr sMethod = vStr sObject) = False := by decide
theorem key_ne3 : (vStr sParams = vStr sObject) = False := by decide
theorem key_ne4 : (vStr sKwargs = vStr sObject) = False := by decide
theorem key_ne5 : (vStr sParams = vStr sMethod) = False := by decide
theorem key_ne6 : (vStr sKwargs = vStr sMethod) = False := by decide
theorem key_ne7 : (vStr sKwargs = vStr sParams) = False := by decide
theorem key_ne8 : (vStr sObject = vStr sParams) = False := by decide
theorem key_ne9 : (vStr sMethod = vStr sParams) = False := by decide
theorem key_ne10 : (vStr sObject = vStr sKwargs) = False := by decide
theorem key_ne11 : (vStr sMethod = vStr sKwargs) = False := by decide
theorem key_ne12 : (vStr sParams = vStr sKwargs) = False := by decide
theorem key_ne13 : (vStr sK = classKey) = False := by decide

theorem skey_ne1 : (sObject = sMethod) = False := by decide

/-! The envelope around `vargs` and `kwargs` (object id, method name; json's four keys) is text, which every phase
    leaves alone: the two go through the three phases side by side. -/

theorem callRT_serpent (c : Cfg) (va kw : Val) : callRT c .serpent va kw =
    (enc .serpent true va >>= fun a => enc .serpent true kw >>= fun k =>
     dec .serpent false false a >>= fun a' => dec .serpent false false k >>= fun k' =>
     recreate .serpent a' >>= fun a'' => recreate .serpent k' >>= fun k'' => .ok (a'', k'')) := by
  simp only [callRT, vStr, enc, encList, dec, decList, bind_ok', bind_assoc]

theorem callRT_marshal (c : Cfg) (xs : Vals) (kvs : Pairs) : callRT c .marshal (.tuple xs) (.dict kvs) =
    (marshalTopList c.callListItems xs >>= fun vs => marshalTopVals c.callListItems kvs >>= fun r =>
     enc .marshal true (.list vs) >>= fun a => enc .marshal true (.dict r) >>= fun k =>
     dec .marshal false false a >>= fun a' => dec .marshal false false k >>= fun k' =>
     recreate .marshal a' >>= fun a'' => recreate .marshal k' >>= fun k'' => .ok (a'', k'')) := by
  simp only [callRT, vStr, enc, encList, dec, decList, bind_ok', bind_assoc]

theorem callRT_json (c : Cfg) (va kw : Val) : callRT c .json va kw =
    (enc .json true va >>= fun a => enc .json true kw >>= fun k =>
     dec .json false false a >>= fun a' => dec .json false false k >>= fun k' =>
     recreate .json a' >>= fun a'' => recreate .json k' >>= fun k'' => .ok (a'', k'')) := by
  simp only [callRT, vStr, enc, encPairs, jsonKey, dec, decPairs, Pairs.pushFront, Pairs.lookup, Val.str.injEq,
    sObject, sMethod, sParams, sKwargs, List.cons.injEq, Nat.reduceEqDiff,
    bind_ok', bind_assoc, reduceCtorEq, false_and, if_false, if_true]

theorem callRT_msgpack (c : Cfg) (va kw : Val) : callRT c .msgpack va kw =
    (enc .msgpack true va >>= fun a => enc .msgpack true kw >>= fun k =>
     dec .msgpack c.callExtHook c.callObjHook a >>= fun a' => dec .msgpack c.callExtHook c.callObjHook k >>= fun k' =>
     post c.callRecreate .msgpack a' >>= fun a'' => post c.callRecreate .msgpack k' >>= fun k'' => .ok (a'', k'')) := by
  cases h : c.callRecreate <;>
  simp only [callRT, h, post, vStr, enc, encList, dec, decList, bind_ok', bind_assoc, if_true, if_false,
    Bool.false_eq_true]

/-- A positional and a keyword argument arrive as what the same value comes back as, whenever the call side and the
    result side are configured alike.  (With `vargs = (v,)` or `kwargs = {"k": v}` each phase of the call path is that
    phase on `v` inside a one-element container.) -/
theorem sym (c : Cfg) (hx : c.callExtHook = c.resExtHook) (ho : c.callObjHook = c.resObjHook)
    (hr : c.callRecreate = c.resRecreate) (hl : c.callListItems = c.resListItems) (s : Ser) (v : Val) :
    argPath c s v = resRT c s v ∧ kwPath c s v = resRT c s v := by
  cases s with
  | serpent =>
    constructor <;>
    simp only [argPath, kwPath, callRT_serpent, resRT, vStr, enc, encList, encPairs, serpentHashType, dec, decList,
      decPairs, unhashable, recreate, recList, recVals, Pairs.pushFront, Pairs.lookup, Pairs.hasKey, key_ne1, firstOf,
      bind_ok', bind_assoc, bind_ok_right, reduceCtorEq, false_and, and_false, if_false, if_true, Bool.false_eq_true]
  | marshal =>
    constructor <;>
    simp only [argPath, kwPath, callRT_marshal, resRT, hl, marshalTopList, marshalTopVals, vStr, enc, encList, encPairs,
      dec, decList, decPairs, recreate, recList, recVals, Pairs.pushFront, Pairs.lookup, Pairs.hasKey, key_ne1, firstOf,
      bind_ok', bind_assoc, bind_ok_right, reduceCtorEq, false_and, and_false, if_false, if_true, Bool.false_eq_true]
  | json =>
    constructor <;>
    simp only [argPath, kwPath, callRT_json, resRT, vStr, enc, encList, encPairs, jsonKey, dec, decList, decPairs,
      recreate, recList, recVals, Pairs.pushFront, Pairs.lookup, Pairs.hasKey, key_ne1, firstOf,
      bind_ok', bind_assoc, bind_ok_right, reduceCtorEq, false_and, and_false, if_false, if_true, Bool.false_eq_true]
  | msgpack =>
    constructor <;> cases h : c.resRecreate <;>
    simp only [argPath, kwPath, callRT_msgpack, resRT, hx, ho, hr, h, post, vStr, enc, encList, encPairs, dec, decList,
      decPairs, isStrOrBytes, recreate, recList, recVals, Pairs.pushFront, Pairs.lookup, Pairs.hasKey, key_ne1, firstOf,
      bind_ok', bind_assoc, bind_ok_right, Bool.not_true, reduceCtorEq, false_and, and_false, if_false, if_true,
      Bool.false_eq_true]

theorem good_alike (c : Cfg) (hc : c.good = true) : c.callExtHook = c.resExtHook ∧ c.callObjHook = c.resObjHook ∧
    c.callRecreate = c.resRecreate ∧ c.callListItems = c.resListItems := by
  simp only [Cfg.good, Bool.and_eq_true, Bool.or_eq_true, Bool.not_eq_true', beq_iff_eq] at hc
  obtain ⟨⟨⟨⟨hx1, hx2⟩, _⟩, hl⟩, ⟨⟨⟨ho1, ho2⟩, hr1⟩, hr2⟩ | ⟨⟨⟨ho1, ho2⟩, hr1⟩, hr2⟩⟩ := hc <;>
  simp only [hx1, hx2, hl, ho1, ho2, hr1, hr2, and_self]

theorem sym_good (c : Cfg) (hc : c.good = true) (s : Ser) (v : Val) :
    argPath c s v = resRT c s v ∧ kwPath c s v = resRT c s v :=
  have ⟨hx, ho, hr, hl⟩ := good_alike c hc
  sym c hx ho hr hl s v

theorem resRT_msgpack_eq (c : Cfg) (v : Val) : resRT c .msgpack v =
    (enc .msgpack true v >>= fun w => dec .msgpack c.resExtHook c.resObjHook w >>= fun d => post c.resRecreate .msgpack d) := by
  simp only [resRT, post]

/-! ### integers through msgpack, with and without `ext_hook` -/

theorem resRT_msgpack_int (c : Cfg) (h : c.resExtHook = true) (z : Int) :
    resRT c .msgpack (.int z) = .ok (.int z) := by
  have hp : post c.resRecreate .msgpack (.int z) = .ok (.int z) := post_leaf _ _ _ (by simp only [recreate])
  by_cases hz : i64Min ≤ z ∧ z < u64Bound <;>
  simp only [resRT_msgpack_eq, enc, hz, h, if_true, if_false, dec, extHook_long, and_self, bind_ok', hp]

/-- without `ext_hook` an integer that msgpack cannot pack natively arrives as the `ExtType` that `default` made of it -/
theorem argPath_msgpack_bigint (c : Cfg) (h : c.callExtHook = false) (z : Int)
    (hz : ¬(i64Min ≤ z ∧ z < u64Bound)) : argPath c .msgpack (.int z) = .ok (.ext extLong (intToAscii z)) := by
  cases hr : c.callRecreate <;>
  simp only [argPath, callRT_msgpack, h, hr, post, enc, encList, encPairs, hz, dec, decList, decPairs, recreate,
    recList, recVals, Pairs.hasKey, firstOf, bind_ok', and_false, if_false, if_true, Bool.false_eq_true]

/-! ### the result path as a whole -/

theorem marshalConv_nf (w : Val) (h : nf .marshal w = true) : marshalConv w = .ok w := by
  cases w with
  | bytearray _ | uuid _ | decimal _ | date _ | ext _ _ | inst _ _ => simp [nf] at h
  | _ => rfl

theorem allKeys_set (p : Val → Bool) (k v : Val) (hk : p k = true) : ∀ (d : Pairs), d.allKeys p = true →
    (d.set k v).allKeys p = true
  | .nil, _ => by simp [Pairs.set, Pairs.allKeys, hk]
  | .cons k' v' r, h => by
    simp only [Pairs.allKeys, Bool.and_eq_true] at h
    simp only [Pairs.set]
    split <;> simp [Pairs.allKeys, hk, h.1, h.2, allKeys_set p k v hk r h.2]

theorem pyvalPairs_set (k v : Val) (hk : pyval k = true) (hv : pyval v = true) : ∀ (d : Pairs), pyvalPairs d = true →
    pyvalPairs (d.set k v) = true
  | .nil, _ => by simp [Pairs.set, pyvalPairs, hk, hv]
  | .cons k' v' r, h => by
    simp only [pyvalPairs, Bool.and_eq_true] at h
    simp only [Pairs.set]
    split <;> simp [pyvalPairs, hk, hv, h.1, h.2, pyvalPairs_set k v hk hv r h.2]

theorem marshalConv_pyval (v m : Val) (hv : pyval v = true) (h : marshalConv v = .ok m) : pyval m = true := by
  cases v with
  | inst cls fields =>
    simp only [marshalConv] at h
    cases h
    simp only [pyval, Bool.and_eq_true] at hv ⊢
    exact ⟨allKeys_set hashable classKey _ (by decide) fields hv.1,
      pyvalPairs_set classKey _ (by decide) (by simp [pyval]) fields hv.2⟩
  | uuid t => simp [marshalConv] at h; subst h; simp [pyval]
  | decimal _ | date _ | ext _ _ => simp [marshalConv] at h
  | _ => simp [marshalConv] at h; subst h; exact hv

theorem marshalConvList_nf : ∀ (xs : Vals), nfList .marshal xs = true → marshalConvList xs = .ok xs
  | .nil, _ => rfl
  | .cons x xs, h => by
    simp only [nfList, Bool.and_eq_true] at h
    simp [marshalConvList, marshalConv_nf x h.1, marshalConvList_nf xs h.2]

theorem marshalTop_nf (b : Bool) (w : Val) (h : nf .marshal w = true) : marshalTop b w = .ok w := by
  cases w with
  | list xs =>
    cases b
    · simp [marshalTop]
    · simp [marshalTop, marshalConvList_nf xs (by simpa [nf] using h)]
  | bytearray _ | uuid _ | decimal _ | date _ | ext _ _ | inst _ _ => simp [nf] at h
  | _ => rfl

theorem marshalConvList_pyval : ∀ (xs ys : Vals), pyvalList xs = true → marshalConvList xs = .ok ys → pyvalList ys = true
  | .nil, ys, _, h => by simp [marshalConvList] at h; subst h; rfl
  | .cons x xs, ys, hv, h => by
    simp only [pyvalList, Bool.and_eq_true] at hv
    simp only [marshalConvList, bind_eq_ok] at h
    obtain ⟨y, g1, ys', g2, e⟩ := h; cases e
    simp [pyvalList, marshalConv_pyval x y hv.1 g1, marshalConvList_pyval xs ys' hv.2 g2]

theorem marshalTop_pyval (b : Bool) (v m : Val) (hv : pyval v = true) (h : marshalTop b v = .ok m) : pyval m = true := by
  cases v with
  | list xs =>
    cases b
    · simp [marshalTop] at h; subst h; exact hv
    · simp only [marshalTop, if_true, bind_eq_ok] at h
      obtain ⟨ys, g, e⟩ := h; cases e
      simpa [pyval] using marshalConvList_pyval xs ys (by simpa [pyval] using hv) g
  | _ => exact marshalConv_pyval _ m hv h

/-- hook placement on the result path of a good configuration -/
theorem good_res_ph (c : Cfg) (hc : c.good = true) : phOK .msgpack c.resExtHook c.resObjHook c.resRecreate := by
  simp only [Cfg.good, Bool.and_eq_true, Bool.or_eq_true, Bool.not_eq_true'] at hc
  obtain ⟨⟨⟨⟨_, hx⟩, _⟩, _⟩, ⟨⟨⟨_, ho⟩, _⟩, hr⟩ | ⟨⟨⟨_, ho⟩, _⟩, hr⟩⟩ := hc
  · exact ⟨hx, Or.inl ⟨ho, hr⟩⟩
  · exact ⟨hx, Or.inr ⟨ho, hr⟩⟩

/-- (A) for `loads(dumps(w))`: a normal form comes back unchanged -/
theorem res_fixed (c : Cfg) (hc : c.good = true) (s : Ser) (w : Val) (h : nf s w = true) : resRT c s w = .ok w := by
  cases s with
  | serpent | json =>
    obtain ⟨a, d, h1, h2, h3⟩ := fix_val _ false false true (by simp [phOK]) w h
    simp only [post, if_true] at h3
    simp [resRT, h1, h2, h3]
  | marshal =>
    obtain ⟨a, d, h1, h2, h3⟩ := fix_val .marshal false false true (by simp [phOK]) w h
    simp only [post, if_true] at h3
    simp [resRT, marshalTop_nf _ w h, h1, h2, h3]
  | msgpack =>
    obtain ⟨a, d, h1, h2, h3⟩ := fix_val .msgpack _ _ _ (good_res_ph c hc) w h
    rw [resRT_msgpack_eq]
    simp [h1, h2, h3]

/-- (B) for `loads(dumps(v))`: what comes back is a normal form -/
theorem res_range (c : Cfg) (hc : c.good = true) (s : Ser) (v w : Val) (hv : pyval v = true)
    (h : resRT c s v = .ok w) : nf s w = true := by
  cases s with
  | serpent | json =>
    simp only [resRT, bind_eq_ok] at h
    obtain ⟨a, h1, d, h2, h3⟩ := h
    exact range_val _ false false true (by simp [phOK]) v hv a d w h1 h2 (by simp [post, h3])
  | marshal =>
    simp only [resRT, bind_eq_ok] at h
    obtain ⟨m, h0, a, h1, d, h2, h3⟩ := h
    exact range_val .marshal false false true (by simp [phOK]) m (marshalTop_pyval _ v m hv h0) a d w h1 h2 (by simp [post, h3])
  | msgpack =>
    rw [resRT_msgpack_eq] at h
    simp only [bind_eq_ok] at h
    obtain ⟨a, h1, d, h2, h3⟩ := h
    exact range_val .msgpack _ _ _ (good_res_ph c hc) v hv a d w h1 h2 h3

mutual
theorem lossless_nf (s : Ser) : ∀ v, lossless v = true → nf s v = true
  | .none, _ | .bool _, _ | .int _, _ | .str _, _ => by
    simp [nf]
  | .float b, h => by cases s <;> simp_all [nf, lossless]
  | .list xs, h => by
    have := lossless_nf_list s xs (by simpa [lossless] using h)
    simpa [nf] using this
  | .dict kvs, h => by
    simp only [lossless, Bool.and_eq_true] at h
    have := lossless_nf_pairs s kvs h.2
    simp only [nf, Bool.and_eq_true]
    exact ⟨h.1, this⟩
  | .bytes _, h | .bytearray _, h | .tuple _, h | .set _, h | .frozenset _, h | .complex _ _, h | .uuid _, h
  | .decimal _, h | .date _, h | .ext _ _, h | .inst _ _, h => by
    simp [lossless] at h
theorem lossless_nf_list (s : Ser) : ∀ xs, losslessList xs = true → nfList s xs = true
  | .nil, _ => by simp [nfList]
  | .cons x xs, h => by
    simp only [losslessList, Bool.and_eq_true] at h
    simp [nfList, lossless_nf s x h.1, lossless_nf_list s xs h.2]
theorem lossless_nf_pairs (s : Ser) : ∀ kvs, losslessPairs kvs = true → nfPairs s kvs = true
  | .nil, _ => by simp [nfPairs]
  | .cons k v r, h => by
    simp only [losslessPairs, Bool.and_eq_true] at h
    obtain ⟨⟨hk, hv⟩, hr⟩ := h
    have i1 := lossless_nf s v hv
    have i2 := lossless_nf_pairs s r hr
    cases k with
    | str t => cases s <;> simp [nfPairs, i1, i2, isStr, isStrOrBytes, serpentHashType, hashOK, hashable, nf]
    | _ => simp [isStr] at hk
end

end Pyro.Values
