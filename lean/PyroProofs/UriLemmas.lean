/-
  PyroProofs/UriLemmas.lean — helper lemmas for the URI model (C19): decimal rendering / `int()`,
  `strip`, `split`/`join`, and the canonical (ascending) representation of tag sets.
-/
import PyroModel.Uri

namespace Pyro.Uri

/-! ### decimal digits -/

/-- value of a digit string read left to right, starting from `a` -/
def evalDigits (a : Nat) (ds : Text) : Nat := ds.foldl (fun a c => a * 10 + (c - 48)) a

theorem evalDigits_cons (a c : Nat) (r : Text) : evalDigits a (c :: r) = evalDigits (a * 10 + (c - 48)) r := by
  simp only [evalDigits, List.foldl_cons]

theorem evalDigits_concat (a d : Nat) (ds : Text) : evalDigits a (ds ++ [d]) = evalDigits a ds * 10 + (d - 48) := by
  simp [evalDigits]

theorem isDigit_add (m : Nat) (h : m < 10) : isDigit (48 + m) = true := by
  simp only [isDigit, Bool.and_eq_true, decide_eq_true_eq]
  omega

theorem digLoop_digits (ds : Text) (hd : ∀ c ∈ ds, isDigit c = true) :
    ∀ a, digLoop a false ds = some (evalDigits a ds) := by
  induction ds with
  | nil => intro a; rfl
  | cons c r ih =>
    intro a
    rw [digLoop, if_pos (hd c List.mem_cons_self), ih (fun x hx => hd x (List.mem_cons_of_mem c hx)), evalDigits_cons]

theorem digitsAux_spec : ∀ (f n : Nat) (acc : Text), n < f →
    ∃ ds, digitsAux f n acc = ds ++ acc ∧ ds ≠ [] ∧ (∀ c ∈ ds, isDigit c = true) ∧ evalDigits 0 ds = n := by
  intro f
  induction f with
  | zero => intro n acc h; exact absurd h (Nat.not_lt_zero n)
  | succ f ih =>
    intro n acc h
    unfold digitsAux
    by_cases h10 : n < 10
    · rw [if_pos h10]
      refine ⟨[48 + n], rfl, List.cons_ne_nil _ _, fun c hc => ?_, ?_⟩
      · rw [List.mem_singleton.1 hc]; exact isDigit_add n h10
      · simp [evalDigits]
    · rw [if_neg h10]
      have hlt : n / 10 < f :=
        Nat.lt_of_lt_of_le (Nat.div_lt_self (by omega) (by decide)) (Nat.le_of_lt_succ h)
      obtain ⟨ds, h1, _, h3, h4⟩ := ih (n / 10) ((48 + n % 10) :: acc) hlt
      refine ⟨ds ++ [48 + n % 10], by rw [h1, List.append_assoc]; rfl, by simp, fun c hc => ?_, ?_⟩
      · rcases List.mem_append.1 hc with h | h
        · exact h3 c h
        · rw [List.mem_singleton.1 h]; exact isDigit_add _ (Nat.mod_lt n (by decide))
      · rw [evalDigits_concat, h4, Nat.add_sub_cancel_left]; exact Nat.div_add_mod' n 10

theorem natDigits_spec (n : Nat) :
    natDigits n ≠ [] ∧ (∀ c ∈ natDigits n, isDigit c = true) ∧ evalDigits 0 (natDigits n) = n := by
  obtain ⟨ds, h1, h2, h3, h4⟩ := digitsAux_spec (n + 1) n [] (by omega)
  have : natDigits n = ds := by simp [natDigits, h1]
  rw [this]; exact ⟨h2, h3, h4⟩

theorem digitsU_digits (ds : Text) (hne : ds ≠ []) (hd : ∀ c ∈ ds, isDigit c = true) :
    digitsU ds = some (evalDigits 0 ds) := by
  cases ds with
  | nil => exact absurd rfl hne
  | cons c r =>
    have hc : isDigit c = true := hd c List.mem_cons_self
    simp only [digitsU, hc, if_true]
    exact digLoop_digits _ hd 0

theorem digitsU_natDigits (n : Nat) : digitsU (natDigits n) = some n := by
  obtain ⟨h1, h2, h3⟩ := natDigits_spec n
  rw [digitsU_digits _ h1 h2, h3]

/-! ### strip -/

theorem dropWhile_id (p : Nat → Bool) (l : Text) (h : ∀ c ∈ l, p c = false) : l.dropWhile p = l := by
  cases l with
  | nil => rfl
  | cons c r => simp [List.dropWhile, h c List.mem_cons_self]

theorem strip_id (sp : Nat → Bool) (s : Text) (h : ∀ c ∈ s, sp c = false) : strip sp s = s := by
  unfold strip
  rw [dropWhile_id sp s h, dropWhile_id sp s.reverse (fun c hc => h c (by simpa using hc))]
  simp

theorem map_strip_id (sp : Nat → Bool) (l : List Text) (h : ∀ t ∈ l, ∀ c ∈ t, sp c = false) :
    l.map (strip sp) = l := by
  rw [List.map_congr_left (g := id) (fun t ht => strip_id sp t (h t ht)), List.map_id]

theorem digit_not_intSpace (c : Nat) (h : isDigit c = true) : isIntSpace c = false := by
  simp only [isDigit, Bool.and_eq_true, decide_eq_true_eq] at h
  simp only [isIntSpace, Bool.or_eq_false_iff, Bool.and_eq_false_iff, decide_eq_false_iff_not, beq_eq_false_iff_ne]
  omega

/-- `int(d)` of a non-empty string of ASCII digits -/
theorem pyInt_digits (ds : Text) (hne : ds ≠ []) (hd : ∀ c ∈ ds, isDigit c = true) :
    pyInt ds = some ((evalDigits 0 ds : Nat) : Int) := by
  unfold pyInt
  rw [strip_id _ _ (fun c hc => digit_not_intSpace c (hd c hc))]
  cases ds with
  | nil => exact absurd rfl hne
  | cons c r =>
    have hc : isDigit c = true := hd c List.mem_cons_self
    have h45 : c ≠ 45 := by rintro rfl; exact absurd hc (by decide)
    have h43 : c ≠ 43 := by rintro rfl; exact absurd hc (by decide)
    simp only [h45, h43, if_false]
    rw [digitsU_digits _ hne hd]; rfl

/-- the characters of `"%d" % p` are digits or `-` -/
theorem renderInt_chars (p : Int) : ∀ c ∈ renderInt p, isDigit c = true ∨ c = 45 := by
  cases p with
  | ofNat n =>
    obtain ⟨_, hd, _⟩ := natDigits_spec n
    exact fun c hc => Or.inl (hd c hc)
  | negSucc n =>
    obtain ⟨_, hd, _⟩ := natDigits_spec (n + 1)
    intro c hc
    rcases List.mem_cons.1 hc with h | h
    · exact Or.inr h
    · exact Or.inl (hd c h)

/-- `int("%d" % p) == p` -/
theorem pyInt_renderInt (p : Int) : pyInt (renderInt p) = some p := by
  cases p with
  | ofNat n =>
    obtain ⟨h1, h2, h3⟩ := natDigits_spec n
    simp only [renderInt]
    rw [pyInt_digits _ h1 h2, h3]; rfl
  | negSucc n =>
    unfold pyInt
    rw [strip_id _ _ fun c hc =>
      (renderInt_chars (.negSucc n) c hc).elim (digit_not_intSpace c) (fun e => by rw [e]; decide)]
    show (digitsU (natDigits (n + 1))).map (fun n => -(n : Int)) = some (Int.negSucc n)
    rw [digitsU_natDigits]
    rfl

theorem renderInt_ne_nil (p : Int) : renderInt p ≠ [] := by
  cases p with
  | ofNat n =>
    obtain ⟨hne, _, _⟩ := natDigits_spec n
    exact hne
  | negSucc n => simp [renderInt]

theorem renderInt_nonneg_digits (p : Int) (hp : 0 ≤ p) : ∀ c ∈ renderInt p, isDigit c = true := by
  cases p with
  | ofNat n =>
    obtain ⟨_, hd, _⟩ := natDigits_spec n
    exact hd
  | negSucc n => omega

/-! ### split / join -/

theorem splitAux_append_noSep (sep : Nat) (t : Text) (h : sep ∉ t) (cur rest : Text) :
    splitAux sep cur (t ++ rest) = splitAux sep (cur ++ t) rest := by
  induction t generalizing cur with
  | nil => simp
  | cons c t ih =>
    simp only [List.mem_cons, not_or] at h
    simp [splitAux, Ne.symm h.1, ih h.2]

theorem splitAux_join (sep : Nat) (ts : List Text) (t cur : Text) (h : ∀ x ∈ t :: ts, sep ∉ x) :
    splitAux sep cur (joinWith sep (t :: ts)) = (cur ++ t) :: ts := by
  induction ts generalizing t cur with
  | nil => simpa [joinWith, splitAux] using splitAux_append_noSep sep t (h t List.mem_cons_self) cur []
  | cons t' ts ih =>
    have e : joinWith sep (t :: t' :: ts) = t ++ sep :: joinWith sep (t' :: ts) := by simp [joinWith]
    rw [e, splitAux_append_noSep sep t (h t List.mem_cons_self), splitAux, if_pos rfl,
      ih t' [] (fun x hx => h x (List.mem_cons_of_mem _ hx)), List.nil_append]

theorem splitOn_join (sep : Nat) (l : List Text) (hne : l ≠ []) (h : ∀ x ∈ l, sep ∉ x) :
    splitOn sep (joinWith sep l) = l := by
  cases l with
  | nil => exact absurd rfl hne
  | cons t ts => simpa [splitOn] using splitAux_join sep ts t [] h

/-- a character of a piece comes from `cur` or `s`, and a separator only from `cur` -/
theorem mem_splitAux (sep : Nat) : ∀ (s cur p : Text), p ∈ splitAux sep cur s →
    ∀ c ∈ p, (c ∈ cur ∨ c ∈ s) ∧ (c = sep → c ∈ cur) := by
  intro s
  induction s with
  | nil =>
    intro cur p hp c hc
    cases List.mem_singleton.1 hp
    exact ⟨Or.inl hc, fun _ => hc⟩
  | cons d r ih =>
    intro cur p hp c hc
    rw [splitAux] at hp
    split at hp
    · rcases List.mem_cons.1 hp with rfl | hp
      · exact ⟨Or.inl hc, fun _ => hc⟩
      · have := ih [] p hp c hc
        simp only [List.not_mem_nil, false_or, imp_false] at this
        exact ⟨Or.inr (List.mem_cons_of_mem _ this.1), fun e => absurd e this.2⟩
    · next hd =>
      have := ih (cur ++ [d]) p hp c hc
      simp only [List.mem_append, List.mem_singleton] at this
      refine ⟨?_, fun e => (this.2 e).resolve_right (fun e' => hd (e' ▸ e))⟩
      rcases this.1 with (h | rfl) | h
      · exact Or.inl h
      · exact Or.inr List.mem_cons_self
      · exact Or.inr (List.mem_cons_of_mem _ h)

theorem splitAux_ne_nil (sep : Nat) (s cur : Text) : splitAux sep cur s ≠ [] := by
  fun_induction splitAux sep cur s <;> simp_all

theorem mem_joinWith (sep : Nat) (l : List Text) (c : Nat) (h : c ∈ joinWith sep l) :
    c = sep ∨ ∃ t ∈ l, c ∈ t := by
  cases l with
  | nil => cases h
  | cons t ts =>
    simp only [joinWith, List.mem_append, List.mem_flatten, List.mem_map] at h
    obtain h | ⟨_, ⟨x, hx, rfl⟩, hc⟩ := h
    · exact Or.inr ⟨t, List.mem_cons_self, h⟩
    · exact (List.mem_cons.1 hc).imp_right fun h => ⟨x, List.mem_cons_of_mem _ hx, h⟩

theorem joinWith_ne_nil (sep : Nat) (l : List Text) (hne : l ≠ []) (h1 : l ≠ [[]]) : joinWith sep l ≠ [] := by
  cases l with
  | nil => exact absurd rfl hne
  | cons t ts =>
    cases ts with
    | nil =>
      have : t ≠ [] := fun e => h1 (by rw [e])
      simpa [joinWith] using this
    | cons t' ts => simp [joinWith]

/-! ### the order on texts and the canonical list of a tag set -/

theorem ltT_cons (a b : Nat) (as bs : Text) :
    ltT (a :: as) (b :: bs) = true ↔ a < b ∨ (a = b ∧ ltT as bs = true) := by
  simp [ltT]

theorem ltT_irrefl (a : Text) : ltT a a = false := by
  induction a <;> simp_all [ltT]

theorem ltT_trans : ∀ a b c : Text, ltT a b = true → ltT b c = true → ltT a c = true := by
  intro a
  induction a with
  | nil =>
    intro b c h1 h2
    cases b with
    | nil => cases h1
    | cons y ys =>
      cases c with
      | nil => cases h2
      | cons z zs => rfl
  | cons x xs ih =>
    intro b c h1 h2
    cases b with
    | nil => cases h1
    | cons y ys =>
      cases c with
      | nil => cases h2
      | cons z zs =>
        rw [ltT_cons] at h1 h2 ⊢
        rcases h1 with h1 | ⟨rfl, h1⟩
        · rcases h2 with h2 | ⟨rfl, _⟩
          · exact Or.inl (Nat.lt_trans h1 h2)
          · exact Or.inl h1
        · rcases h2 with h2 | ⟨rfl, h2⟩
          · exact Or.inl h2
          · exact Or.inr ⟨rfl, ih ys zs h1 h2⟩

theorem ltT_asymm (a b : Text) (h : ltT a b = true) : ltT b a = false := by
  cases hba : ltT b a with
  | false => rfl
  | true => rw [← ltT_irrefl a, ← ltT_trans a b a h hba]

theorem ltT_total : ∀ a b : Text, ltT a b = true ∨ a = b ∨ ltT b a = true := by
  intro a
  induction a with
  | nil =>
    intro b
    cases b with
    | nil => exact Or.inr (Or.inl rfl)
    | cons y ys => exact Or.inl rfl
  | cons x xs ih =>
    intro b
    cases b with
    | nil => exact Or.inr (Or.inr rfl)
    | cons y ys =>
      rw [ltT_cons, ltT_cons]
      rcases Nat.lt_trichotomy x y with h | rfl | h
      · exact Or.inl (Or.inl h)
      · rcases ih ys with h | rfl | h
        · exact Or.inl (Or.inr ⟨rfl, h⟩)
        · exact Or.inr (Or.inl rfl)
        · exact Or.inr (Or.inr (Or.inr ⟨rfl, h⟩))
      · exact Or.inr (Or.inr (Or.inl h))

/-- strictly ascending -/
def Sorted (l : List Text) : Prop := l.Pairwise (fun a b => ltT a b = true)

theorem mem_insertTag (x y : Text) (l : List Text) : y ∈ insertTag x l ↔ y = x ∨ y ∈ l := by
  fun_induction insertTag x l <;> simp_all [or_left_comm]

theorem sorted_insertTag (x : Text) (l : List Text) (hs : Sorted l) : Sorted (insertTag x l) := by
  induction l with
  | nil => simp [insertTag, Sorted]
  | cons z zs ih =>
    obtain ⟨hz, hzs⟩ := List.pairwise_cons.1 hs
    rw [insertTag]
    split
    · next h1 =>
      refine List.pairwise_cons.2 ⟨fun y hy => ?_, hs⟩
      rcases List.mem_cons.1 hy with rfl | h
      · exact h1
      · exact ltT_trans _ _ _ h1 (hz y h)
    · next h1 =>
      split
      · exact hs
      · next h2 =>
        refine List.pairwise_cons.2 ⟨fun y hy => ?_, ih hzs⟩
        rcases (mem_insertTag x y zs).1 hy with rfl | h
        · exact ((ltT_total y z).resolve_left h1).resolve_left h2
        · exact hz y h

theorem mkSet_cons (x : Text) (xs : List Text) : mkSet (x :: xs) = insertTag x (mkSet xs) := rfl

theorem mem_mkSet (l : List Text) (y : Text) : y ∈ mkSet l ↔ y ∈ l := by
  induction l with
  | nil => exact Iff.rfl
  | cons x xs ih => rw [mkSet_cons, mem_insertTag, ih, List.mem_cons]

theorem sorted_mkSet (l : List Text) : Sorted (mkSet l) := by
  induction l with
  | nil => exact List.Pairwise.nil
  | cons x xs ih => exact sorted_insertTag x _ ih

theorem Sorted.nodup {l : List Text} (h : Sorted l) : l.Nodup :=
  List.Pairwise.imp (fun hab e => by rw [e, ltT_irrefl] at hab; cases hab) h

/-- a set has one ascending list -/
theorem sorted_unique (l1 l2 : List Text) (h1 : Sorted l1) (h2 : Sorted l2) (h : ∀ x, x ∈ l1 ↔ x ∈ l2) : l1 = l2 :=
  List.Perm.eq_of_pairwise (fun a b _ _ hab hba => by rw [ltT_asymm a b hab] at hba; cases hba)
    h1 h2 ((List.perm_ext_iff_of_nodup h1.nodup h2.nodup).2 h)

/-- building the set from any listing of its elements gives its ascending list -/
theorem mkSet_of_mem_iff (l tags : List Text) (hs : Sorted tags) (h : ∀ x, x ∈ l ↔ x ∈ tags) : mkSet l = tags :=
  sorted_unique _ _ (sorted_mkSet l) hs (fun x => by rw [mem_mkSet, h])

theorem sorted_all_nil (l : List Text) (hs : Sorted l) (h : ∀ x ∈ l, x = []) : l = [] ∨ l = [[]] := by
  cases l with
  | nil => exact Or.inl rfl
  | cons a r =>
    cases r with
    | nil => exact Or.inr (by rw [h a List.mem_cons_self])
    | cons b r' =>
      have := (List.pairwise_cons.1 hs).1 b List.mem_cons_self
      rw [h a List.mem_cons_self, h b (List.mem_cons_of_mem _ List.mem_cons_self)] at this
      cases this

end Pyro.Uri
