/-
  Lemmas for C05 about PyroModel/ServerLoop.lean, in this order: what escapes from a handshake / request
  and where their effect agrees with `Server.connEvent`; the primitive operations (setConn, poolTake,
  poolDone, workerExit); the frame (`Local`: a change that concerns one connection only); the branches of
  one step as a relation (`Step`, `step_spec`) and what every branch keeps — the frame, the running flag,
  the accounting invariants (`TInv`, `MInv`); the record of a served connection (`Tracked`).
-/
import PyroModel.ServerLoop
import PyroProofs.Server

namespace Pyro.ServerLoop

open Pyro.Server

/-- every containment layer the property rests on contains every subclass of `Exception`.
    (`thrJob`, the ladder inside the request loop of a connection job, is not among them: whatever
    it lets through still meets the job's `finally` and then `Worker.run`'s catch-all.) -/
structure GoodCfg (g : Cfg) : Prop where
  thrShake : ∀ c, isException c = true → caught g.thrShake c = true
  thrDeny : ∀ c, isException c = true → caught g.thrDeny c = true
  thrWorker : ∀ c, isException c = true → caught g.thrWorker c = true
  muxReq : ∀ c, isException c = true → caught g.muxReq c = true
  muxShake : ∀ c, isException c = true → caught g.muxShake c = true

/-- client-originated: whatever is raised behind an item is a subclass of `Exception` -/
def ClientEv : Ev → Prop
  | .connect _ => True
  | .item _ _ _ raw => isException raw = true

instance (ev : Ev) : Decidable (ClientEv ev) := by
  cases ev <;> unfold ClientEv <;> infer_instance

/-! ### what escapes -/

section effects
variable (c : Conn) (it : Item) (gone : Bool) (raw : Cls)

/-- the only exception that leaves `_handshake` is the failing send to a peer that has gone -/
theorem doHandshake_esc (e : Cls)
    (h : (doHandshake c it gone).esc = some e) : e = .connClosed ∧ gone = true := by
  unfold doHandshake at h
  split at h
  · cases h
  · split at h
    · rename_i hgone
      exact ⟨(Option.some.inj h).symm, hgone⟩
    · cases h

theorem doDeny_esc (e : Cls)
    (h : (doDeny c it gone).esc = some e) : e = .connClosed ∧ gone = true := by
  unfold doDeny at h
  split at h
  · cases h
  · split at h
    · rename_i hgone
      exact ⟨(Option.some.inj h).symm, hgone⟩
    · cases h

theorem excCls_exc (hr : isException raw = true) (e : Exc) : isException (excCls raw e) = true := by
  cases e with
  | generic => exact hr
  | _ => rfl

theorem escClass_exc (hr : isException raw = true) :
    isException (escClass it raw) = true := by
  cases it with
  | garbage => exact hr
  | cut => rfl
  | timeout => rfl
  | msg m =>
    simp only [escClass]
    split
    · rfl
    · split
      · rfl
      · split
        · split
          · rfl
          · rfl
          · rfl
          · exact excCls_exc raw hr _
        · rfl

theorem doRequest_esc_exc (hr : isException raw = true)
    (e : Cls) (h : (doRequest c it gone raw).esc = some e) : isException e = true := by
  cases hq : (handleRequest it).reply with
  | none =>
    simp [doRequest, hq] at h
    exact h.2 ▸ escClass_exc it raw hr
  | some rep =>
    cases gone with
    | true =>
      simp [doRequest, hq] at h
      exact h ▸ rfl
    | false =>
      simp [doRequest, hq] at h
      exact h.2 ▸ escClass_exc it raw hr

/-! ### the record after a handshake / request while the peer stays is `Server.connEvent`'s; the phase -/

theorem doHandshake_connEvent (hp : c.phase = .fresh) :
    (doHandshake c it false).esc = none ∧
    connEvent c it = (if (doHandshake c it false).ok then { (doHandshake c it false).conn with phase := .active, slot := true }
      else closeNoHook (doHandshake c it false).conn) := by
  simp only [doHandshake, connEvent, hp]
  cases hr : (handshake it).1 with
  | none =>
    cases hok : (handshake it).2 with
    | false => simp [closeNoHook, Conn.close]
    | true =>
      obtain ⟨r, h, _⟩ := (handshake_reply it).1 hok
      rw [hr] at h
      cases h
  | some r => cases (handshake it).2 <;> simp [closeNoHook]

theorem doRequest_connEvent (hp : c.phase = .active) :
    connEvent c it = (if (doRequest c it false raw).esc.isSome then closeWithHook (doRequest c it false raw).conn
      else (doRequest c it false raw).conn) := by
  simp only [doRequest, connEvent, hp]
  generalize handleRequest it = q
  obtain ⟨reply, execs, tracks, untracks, session, raised⟩ := q
  cases reply <;> cases raised <;> simp [closeWithHook]

@[simp] theorem doRequest_phase :
    (doRequest c it gone raw).conn.phase = c.phase := by
  unfold doRequest
  simp only
  split
  · split <;> rfl
  · rfl

end effects

theorem doHandshake_phase (c : Conn) (it : Item) (gone : Bool) :
    (doHandshake c it gone).conn.phase = c.phase := by
  unfold doHandshake
  split
  · rfl
  · split <;> rfl

theorem closeNoHook_phase (c : Conn) : (closeNoHook c).phase = .closed := rfl
theorem closeWithHook_phase (c : Conn) : (closeWithHook c).phase = .closed := rfl

/-! ### the primitive operations -/

section prim
variable (p : Params) (l : Loop) (i : Nat)

@[simp] theorem setConn_running (c : Conn) : (setConn l i c).running = l.running := rfl
@[simp] theorem setConn_seen (c : Conn) : (setConn l i c).seen = l.seen := rfl
@[simp] theorem setConn_busy (c : Conn) : (setConn l i c).busy = l.busy := rfl
@[simp] theorem setConn_idle (c : Conn) : (setConn l i c).idle = l.idle := rfl
@[simp] theorem setConn_registered (c : Conn) : (setConn l i c).registered = l.registered := rfl
@[simp] theorem setConn_zombie (c : Conn) : (setConn l i c).zombie = l.zombie := rfl
@[simp] theorem setConn_objects (c : Conn) : (setConn l i c).objects = l.objects := rfl
@[simp] theorem setConn_conns (c : Conn) : (setConn l i c).conns = l.conns.set i c := rfl

theorem setConn_get_self {l : Loop} {i : Nat} {c0 : Conn} (c : Conn) (h : l.conns[i]? = some c0) :
    (setConn l i c).conns[i]? = some c :=
  List.getElem?_set_self (List.getElem?_eq_some_iff.mp h).1

theorem poolDone_eq :
    poolDone p l i = { l with busy := l.busy.erase i, idle := if p.mn ≤ l.idle then l.idle else l.idle + 1 } := by
  unfold poolDone
  split <;> rfl

/-- `Pool.process` found a worker: the connection joins `busy`; an idle worker, if there was one, is used up -/
theorem poolTake_some {l' : Loop} (h : poolTake p l i = some l') :
    l' = { l with busy := l.busy ++ [i], idle := l.idle - 1 } := by
  unfold poolTake at h
  split at h
  · exact (Option.some.inj h).symm
  · split at h
    · rw [← Option.some.inj h, show l.idle = 0 by omega]
    · cases h

theorem poolTake_none (h : poolTake p l i = none) : l.idle = 0 ∧ p.mx ≤ l.busy.length := by
  unfold poolTake at h
  by_cases h1 : 0 < l.idle
  · rw [if_pos h1] at h
    cases h
  · rw [if_neg h1] at h
    by_cases h2 : l.busy.length + l.idle < p.mx
    · rw [if_pos h2] at h
      cases h
    · omega

theorem poolTake_isSome (h : l.busy.length < p.mx) : ∃ l', poolTake p l i = some l' := by
  unfold poolTake
  by_cases h1 : 0 < l.idle
  · rw [if_pos h1]
    exact ⟨_, rfl⟩
  · rw [if_neg h1, if_pos (by omega)]
    exact ⟨_, rfl⟩

/-- `Worker.run`: the pool is notified, or the worker thread dies with its connection abandoned -/
theorem workerExit_cases (e : Option Cls) :
    workerExit p l i e = poolDone p l i ∨ workerExit p l i e = { l with zombie := l.zombie ++ [i] } := by
  unfold workerExit
  split
  · exact .inl rfl
  · split
    · exact .inl rfl
    · exact .inr rfl

/-- Worker.run under a catch-all: the pool is always notified -/
theorem workerExit_good (hg : GoodCfg p.cfg) (e : Option Cls)
    (he : ∀ x, e = some x → isException x = true) : workerExit p l i e = poolDone p l i := by
  unfold workerExit
  cases e with
  | none => rfl
  | some x => simp [hg.thrWorker x (he x rfl)]

end prim

theorem workerExit_conns (p : Params) (l : Loop) (i : Nat) (e : Option Cls) : (workerExit p l i e).conns = l.conns := by
  rcases workerExit_cases p l i e with h | h <;> rw [h]
  rw [poolDone_eq]

theorem workerExit_seen (p : Params) (l : Loop) (i : Nat) (e : Option Cls) :
    (workerExit p l i e).seen = l.seen := by
  rcases workerExit_cases p l i e with h | h <;> rw [h]
  rw [poolDone_eq]

/-! ### the frame: an event on connection `i` leaves alone whatever concerns another connection -/

/-- what concerns connection `j` in a loop state: its record, and whether it is in each of the sets -/
def about (l : Loop) (j : Nat) : Option Conn × Prop × Prop × Prop × Prop :=
  (l.conns[j]?, j ∈ l.busy, j ∈ l.zombie, j ∈ l.registered, j ∈ l.seen)

theorem about_eq {l l' : Loop} {j : Nat} : about l' j = about l j ↔
    l'.conns[j]? = l.conns[j]? ∧ (j ∈ l'.busy ↔ j ∈ l.busy) ∧ (j ∈ l'.zombie ↔ j ∈ l.zombie) ∧
      (j ∈ l'.registered ↔ j ∈ l.registered) ∧ (j ∈ l'.seen ↔ j ∈ l.seen) := by
  simp [about]

/-- `l'` differs from `l` only in what concerns connection `i` and in the scalars `running`, `idle` -/
def Local (i : Nat) (l l' : Loop) : Prop := l'.objects = l.objects ∧ ∀ j, i ≠ j → about l' j = about l j

theorem Local.refl (i : Nat) (l : Loop) : Local i l l := ⟨rfl, fun _ _ => rfl⟩

theorem Local.trans {i : Nat} {l l' l'' : Loop} (h : Local i l l') (h' : Local i l' l'') : Local i l l'' :=
  ⟨h'.1.trans h.1, fun j hj => (h'.2 j hj).trans (h.2 j hj)⟩

section frame
variable (p : Params) (l : Loop) (i : Nat)

theorem local_setConn (c : Conn) : Local i l (setConn l i c) := ⟨rfl, fun j hj => by simp [about, hj]⟩

theorem local_seen : Local i l { l with seen := l.seen ++ [i] } :=
  ⟨rfl, fun j hj => by simp only [about, List.mem_append, List.mem_singleton, Ne.symm hj, or_false]⟩

theorem local_zombie : Local i l { l with zombie := l.zombie ++ [i] } :=
  ⟨rfl, fun j hj => by simp only [about, List.mem_append, List.mem_singleton, Ne.symm hj, or_false]⟩

theorem local_register : Local i l { l with registered := l.registered ++ [i] } :=
  ⟨rfl, fun j hj => by simp only [about, List.mem_append, List.mem_singleton, Ne.symm hj, or_false]⟩

theorem local_unregister : Local i l { l with registered := l.registered.erase i } :=
  ⟨rfl, fun j hj => by simp [about, List.mem_erase_of_ne (Ne.symm hj)]⟩

theorem local_stop : Local i l { l with running := false } := ⟨rfl, fun _ _ => rfl⟩

theorem local_poolDone : Local i l (poolDone p l i) := by
  rw [poolDone_eq]
  exact ⟨rfl, fun j hj => by simp [about, List.mem_erase_of_ne (Ne.symm hj)]⟩

theorem local_poolTake {l' : Loop} (h : poolTake p l i = some l') : Local i l l' := by
  rw [poolTake_some p l i h]
  exact ⟨rfl, fun j hj => by simp only [about, List.mem_append, List.mem_singleton, Ne.symm hj, or_false]⟩

theorem local_workerExit (e : Option Cls) : Local i l (workerExit p l i e) := by
  rcases workerExit_cases p l i e with h | h <;> rw [h]
  · exact local_poolDone p l i
  · exact local_zombie l i

theorem local_muxLoopLevel (e : Cls) : Local i l (muxLoopLevel p l e) := by
  unfold muxLoopLevel
  split
  · exact .refl i l
  · exact local_stop l i

theorem local_threadItem (c : Conn) (it : Item) (gone : Bool) (raw : Cls) :
    Local i l (threadItem p l i c it gone raw) := by
  unfold threadItem
  split
  · exact .refl i l
  · simp only
    split
    · split
      · exact local_setConn ..
      · exact (local_setConn ..).trans (local_workerExit ..)
    · split
      · exact (local_setConn ..).trans (local_workerExit ..)
      · exact (local_setConn ..).trans (local_workerExit ..)
  · simp only
    split
    · exact local_setConn ..
    · exact (local_setConn ..).trans (local_workerExit ..)

theorem local_threadDeny (c : Conn) (it : Item) (gone : Bool) : Local i l (threadDeny p l i c it gone) := by
  unfold threadDeny
  simp only
  split
  · exact local_setConn ..
  · split
    · exact local_setConn ..
    · split
      · exact (local_setConn ..).trans (local_zombie ..)
      · exact ((local_setConn ..).trans (local_zombie ..)).trans (local_stop ..)

end frame

/-! ### one step, branch by branch -/

/-- every step of `step` is one of these (`step_spec`): `accept` … `deny` are what the thread-pool server's acceptor
    and workers do, `opened` … `escapes` what the multiplex server's `events` does.  A constructor keeps of its
    branch's conditions only what the lemmas below use, so the relation is wider than `step`.  `escapes` (an exception
    reaches `loop()`) carries, instead of the state and the class, the fact that it cannot happen under catch-alls on
    a client event: `running`, `tinv`, `minv` dismiss it by that premise. -/
inductive Step (p : Params) (l : Loop) : Ev → Loop → Prop
  | skip (ev : Ev) : Step p l ev l
  | accept {i : Nat} {c : Conn} {l' : Loop} :
      p.kind = .thread → l.conns[i]? = some c → c.phase = .fresh → i ∉ l.seen → poolTake p l i = some l' →
      Step p l (.connect i) { l' with seen := l'.seen ++ [i] }
  | serve {i : Nat} {c : Conn} {it : Item} {gone : Bool} {raw : Cls} :
      p.kind = .thread → l.conns[i]? = some c → i ∈ l.busy →
      Step p l (.item i it gone raw) (threadItem p l i c it gone raw)
  | acceptServe {i : Nat} {c : Conn} {l' : Loop} {it : Item} {gone : Bool} {raw : Cls} :
      p.kind = .thread → l.conns[i]? = some c → c.phase = .fresh → i ∉ l.seen → poolTake p l i = some l' →
      Step p l (.item i it gone raw) (threadItem p { l' with seen := l'.seen ++ [i] } i c it gone raw)
  | deny {i : Nat} {c : Conn} {it : Item} {gone : Bool} {raw : Cls} :
      p.kind = .thread → l.conns[i]? = some c → c.phase = .fresh → i ∉ l.busy →
      Step p l (.item i it gone raw) (threadDeny p { l with seen := l.seen ++ [i] } i c it gone)
  | opened {i : Nat} {c : Conn} {it : Item} {gone : Bool} {raw : Cls} :
      p.kind = .multiplex → l.conns[i]? = some c → c.phase = .fresh →
      Step p l (.item i it gone raw)
        { setConn { l with seen := l.seen ++ [i] } i { (doHandshake c it gone).conn with phase := .active, slot := true }
          with registered := l.registered ++ [i] }
  | refused {i : Nat} {c : Conn} {it : Item} {gone : Bool} {raw : Cls} :
      p.kind = .multiplex → l.conns[i]? = some c → c.phase = .fresh →
      Step p l (.item i it gone raw)
        (setConn { l with seen := l.seen ++ [i] } i (closeNoHook (doHandshake c it gone).conn))
  | served {i : Nat} {c : Conn} {it : Item} {gone : Bool} {raw : Cls} :
      p.kind = .multiplex → l.conns[i]? = some c → c.phase = .active → i ∈ l.registered →
      Step p l (.item i it gone raw) (setConn l i (doRequest c it gone raw).conn)
  | dropped {i : Nat} {c : Conn} {it : Item} {gone : Bool} {raw : Cls} :
      p.kind = .multiplex → l.conns[i]? = some c → c.phase = .active →
      Step p l (.item i it gone raw)
        { setConn l i (closeWithHook (doRequest c it gone raw).conn) with registered := l.registered.erase i }
  | escapes {i : Nat} {c : Conn} {it : Item} {gone : Bool} {raw e : Cls} {l1 : Loop} :
      p.kind = .multiplex → l.conns[i]? = some c → c.phase ≠ .closed → Local i l l1 →
      (GoodCfg p.cfg → isException raw = true → False) →
      Step p l (.item i it gone raw) (muxLoopLevel p l1 e)

theorem threadStep_spec (p : Params) (hk : p.kind = .thread) (l : Loop) (ev : Ev) : Step p l ev (threadStep p l ev) := by
  cases ev with
  | connect i =>
    simp only [threadStep]
    cases hc : l.conns[i]? with
    | none => exact .skip _
    | some c =>
      dsimp only
      by_cases h : (!l.running || l.seen.contains i || c.phase != .fresh) = true
      · rw [if_pos h]
        exact .skip _
      · rw [if_neg h]
        simp at h
        cases ht : poolTake p l i with
        | none => exact .skip _
        | some l' => exact .accept hk hc h.2 h.1.2 ht
  | item i it gone raw =>
    simp only [threadStep]
    cases hc : l.conns[i]? with
    | none => exact .skip _
    | some c =>
      dsimp only
      by_cases hz : l.zombie.contains i = true
      · rw [if_pos hz]
        exact .skip _
      · rw [if_neg hz]
        by_cases hb : l.busy.contains i = true
        · rw [if_pos hb]
          exact .serve hk hc (by simpa using hb)
        · rw [if_neg hb]
          by_cases hs : l.seen.contains i = true
          · rw [if_pos hs]
            exact .skip _
          · rw [if_neg hs]
            by_cases h : (!l.running || c.phase != .fresh) = true
            · rw [if_pos h]
              exact .skip _
            · rw [if_neg h]
              simp at h
              cases ht : poolTake p l i with
              | none => exact .deny hk hc h.2 (by simpa using hb)
              | some l' => exact .acceptServe hk hc h.2 (by simpa using hs) ht

theorem muxStep_spec (p : Params) (hk : p.kind = .multiplex) (l : Loop) (ev : Ev) : Step p l ev (muxStep p l ev) := by
  cases ev with
  | connect i => exact .skip _
  | item i it gone raw =>
    simp only [muxStep]
    cases hc : l.conns[i]? with
    | none => exact .skip _
    | some c =>
      dsimp only
      by_cases h : (!l.running || l.zombie.contains i) = true
      · rw [if_pos h]
        exact .skip _
      · rw [if_neg h]
        cases hp : c.phase with
        | closed => exact .skip _
        | fresh =>
          dsimp only
          by_cases hs : l.seen.contains i = true
          · rw [if_pos hs]
            exact .skip _
          · rw [if_neg hs]
            cases he : (doHandshake c it gone).esc with
            | none =>
              dsimp only
              by_cases hok : (doHandshake c it gone).ok = true
              · rw [if_pos hok]
                exact .opened hk hc hp
              · rw [if_neg hok]
                exact .refused hk hc hp
            | some e =>
              dsimp only
              by_cases hca : caught p.cfg.muxShake e = true
              · rw [if_pos hca]
                exact .refused hk hc hp
              · rw [if_neg hca]
                obtain ⟨rfl, -⟩ := doHandshake_esc c it gone e he
                exact .escapes hk hc (by rw [hp]; decide)
                  (((local_seen ..).trans (local_setConn ..)).trans (local_zombie ..))
                  fun hg _ => hca (hg.muxShake _ rfl)
        | active =>
          dsimp only
          by_cases hr : (!l.registered.contains i) = true
          · rw [if_pos hr]
            exact .skip _
          · rw [if_neg hr]
            have hr' : i ∈ l.registered := by simpa using hr
            cases he : (doRequest c it gone raw).esc with
            | none => exact .served hk hc hp hr'
            | some e =>
              dsimp only
              by_cases hca : caught p.cfg.muxReq e = true
              · rw [if_pos hca]
                exact .dropped hk hc hp
              · rw [if_neg hca]
                exact .escapes hk hc (by rw [hp]; decide) (local_setConn ..)
                  fun hg hraw => hca (hg.muxReq _ (doRequest_esc_exc c it gone raw hraw e he))

theorem step_spec (p : Params) (l : Loop) (ev : Ev) : Step p l ev (step p l ev) := by
  unfold step
  split
  · exact threadStep_spec p ‹_› l ev
  · exact muxStep_spec p ‹_› l ev

namespace Step
variable {p : Params} {l l' : Loop} {ev : Ev}

theorem frame (h : Step p l ev l') : Local ev.conn l l' := by
  cases h with
  | skip => exact .refl ..
  | accept _ _ _ _ ht => exact (local_poolTake p l _ ht).trans (local_seen ..)
  | serve => exact local_threadItem ..
  | acceptServe _ _ _ _ ht =>
    exact ((local_poolTake p l _ ht).trans (local_seen ..)).trans (local_threadItem ..)
  | deny => exact (local_seen ..).trans (local_threadDeny ..)
  | opened => exact ((local_seen ..).trans (local_setConn ..)).trans (local_register ..)
  | refused => exact (local_seen ..).trans (local_setConn ..)
  | served => exact local_setConn ..
  | dropped => exact (local_setConn ..).trans (local_unregister ..)
  | escapes _ _ _ hl => exact hl.trans (local_muxLoopLevel ..)

end Step

/-! ### under catch-alls, on client events: nothing escapes, the loop keeps running -/

section good
variable (p : Params) (hg : GoodCfg p.cfg) (l : Loop) (i : Nat) (c : Conn) (it : Item) (gone : Bool) (raw : Cls)
include hg

theorem threadItem_good (hraw : isException raw = true) :
    (c.phase = .closed ∧ threadItem p l i c it gone raw = l) ∨
    ∃ c', (c'.phase = .active ∧ threadItem p l i c it gone raw = setConn l i c') ∨
      (c'.phase = .closed ∧ threadItem p l i c it gone raw = poolDone p (setConn l i c') i) := by
  unfold threadItem
  cases hp : c.phase with
  | closed => exact .inl ⟨rfl, rfl⟩
  | fresh =>
    dsimp only
    cases he : (doHandshake c it gone).esc with
    | none =>
      dsimp only
      split
      · exact .inr ⟨_, .inl ⟨rfl, rfl⟩⟩
      · exact .inr ⟨_, .inr ⟨rfl, rfl⟩⟩
    | some e =>
      obtain ⟨rfl, -⟩ := doHandshake_esc c it gone e he
      dsimp only
      rw [if_pos (hg.thrShake _ rfl)]
      exact .inr ⟨_, .inr ⟨rfl, rfl⟩⟩
  | active =>
    dsimp only
    cases he : (doRequest c it gone raw).esc with
    | none => exact .inr ⟨_, .inl ⟨(doRequest_phase ..).trans hp, rfl⟩⟩
    | some e =>
      dsimp only
      rw [workerExit_good p _ i hg]
      · exact .inr ⟨_, .inr ⟨rfl, rfl⟩⟩
      · intro x hx
        split at hx
        · cases hx
        · cases hx
          exact doRequest_esc_exc c it gone raw hraw e he

theorem threadDeny_good :
    threadDeny p l i c it gone = setConn l i (closeNoHook (doDeny c it gone).conn) := by
  unfold threadDeny
  dsimp only
  cases he : (doDeny c it gone).esc with
  | none => rfl
  | some e =>
    obtain ⟨rfl, -⟩ := doDeny_esc c it gone e he
    dsimp only
    rw [if_pos (hg.thrDeny _ rfl)]

theorem threadItem_running (hraw : isException raw = true) :
    (threadItem p l i c it gone raw).running = l.running := by
  rcases threadItem_good p hg l i c it gone raw hraw with ⟨_, h⟩ | ⟨c', ⟨_, h⟩ | ⟨_, h⟩⟩ <;> rw [h]
  · rfl
  · rw [poolDone_eq]
    rfl

end good

namespace Step
variable {p : Params} {l l' : Loop} {ev : Ev}

theorem running (h : Step p l ev l') (hg : GoodCfg p.cfg) (hc : ClientEv ev) : l'.running = l.running := by
  cases h with
  | skip | opened | refused | served | dropped => rfl
  | accept _ _ _ _ ht => rw [poolTake_some p l _ ht]
  | serve => exact threadItem_running p hg _ _ _ _ _ _ hc
  | acceptServe _ _ _ _ ht => rw [threadItem_running p hg _ _ _ _ _ _ hc, poolTake_some p l _ ht]
  | deny =>
    rw [threadDeny_good p hg]
    rfl
  | escapes _ _ _ _ hx => exact (hx hg hc).elim

end Step

/-! ### accounting invariants -/

/-- thread-pool server: the workers in `Pool.busy` are exactly the accepted connections that are
    not closed; nothing is abandoned; the idle set stays within its bounds -/
structure TInv (p : Params) (l : Loop) : Prop where
  nodup : l.busy.Nodup
  live : ∀ i, i ∈ l.busy ↔ (i ∈ l.seen ∧ ∃ c, l.conns[i]? = some c ∧ c.phase ≠ .closed)
  nozombie : l.zombie = []
  idle_le : l.idle ≤ p.mn
  total_ge : p.mn ≤ l.idle + l.busy.length

namespace TInv
variable {p : Params} {l : Loop} (h : TInv p l) {i : Nat}
include h

/-- after a change that is local to connection `i`, `busy` is still exact if it is exact at `i` -/
theorem live_of_local {l' : Loop} {c' : Conn} (hl : Local i l l') (hc' : l'.conns[i]? = some c')
    (hi : i ∈ l'.busy ↔ (i ∈ l'.seen ∧ c'.phase ≠ .closed)) (j : Nat) :
    j ∈ l'.busy ↔ (j ∈ l'.seen ∧ ∃ c, l'.conns[j]? = some c ∧ c.phase ≠ .closed) := by
  by_cases hij : i = j
  · subst hij
    simpa only [hc', Option.some.injEq, exists_eq_left'] using hi
  · obtain ⟨hc, hb, _, _, hs⟩ := about_eq.1 (hl.2 j hij)
    rw [hb, hs, hc]
    exact h.live j

/-- a connection served by a worker stays open with a new record -/
theorem setLive {c0 c : Conn} (hc : l.conns[i]? = some c0) (hb : i ∈ l.busy) (hp : c.phase ≠ .closed) :
    TInv p (setConn l i c) :=
  ⟨h.nodup, h.live_of_local (local_setConn l i c) (setConn_get_self c hc)
      ⟨fun _ => ⟨((h.live i).1 hb).1, hp⟩, fun _ => hb⟩,
    h.nozombie, h.idle_le, h.total_ge⟩

/-- a connection served by a worker is closed and its worker goes back to the pool -/
theorem closeDone {c0 c : Conn} (hc : l.conns[i]? = some c0) (hb : i ∈ l.busy) (hp : c.phase = .closed) :
    TInv p (poolDone p (setConn l i c) i) := by
  have hl := (local_setConn l i c).trans (local_poolDone p (setConn l i c) i)
  rw [poolDone_eq] at hl ⊢
  have hnum : (if p.mn ≤ l.idle then l.idle else l.idle + 1) ≤ p.mn ∧
      p.mn ≤ (if p.mn ≤ l.idle then l.idle else l.idle + 1) + (l.busy.erase i).length := by
    have := h.idle_le
    have := h.total_ge
    have := List.length_pos_of_mem hb
    rw [List.length_erase_of_mem hb]
    split <;> omega
  exact {
    nodup := h.nodup.erase i
    live := h.live_of_local hl (setConn_get_self c hc)
      ⟨fun hi => absurd rfl ((h.nodup.mem_erase_iff).1 hi).1, fun hi => absurd hp hi.2⟩
    nozombie := h.nozombie
    idle_le := hnum.1
    total_ge := hnum.2 }

/-- a connection refused for want of a worker is closed by the acceptor and never holds one -/
theorem refuse {c0 c : Conn} (hc : l.conns[i]? = some c0) (hb : i ∉ l.busy) (hp : c.phase = .closed) :
    TInv p (setConn { l with seen := l.seen ++ [i] } i c) :=
  ⟨h.nodup, h.live_of_local ((local_seen l i).trans (local_setConn ..))
      (setConn_get_self c hc) ⟨fun hi => absurd hi hb, fun hi => absurd hp hi.2⟩,
    h.nozombie, h.idle_le, h.total_ge⟩

theorem workerItem {c : Conn} {it : Item} {gone : Bool} {raw : Cls} (hg : GoodCfg p.cfg) (hc : l.conns[i]? = some c)
    (hb : i ∈ l.busy) (hraw : isException raw = true) :
    TInv p (threadItem p l i c it gone raw) := by
  rcases threadItem_good p hg l i c it gone raw hraw with ⟨_, h'⟩ | ⟨c', ⟨hp, h'⟩ | ⟨hp, h'⟩⟩ <;> rw [h']
  · exact h
  · exact h.setLive hc hb (by rw [hp]; decide)
  · exact h.closeDone hc hb hp

end TInv

/-- the acceptor hands a new connection to a worker -/
theorem TInv.accept {p : Params} {l l' : Loop} (h : TInv p l) {i : Nat} {c : Conn}
    (hc : l.conns[i]? = some c) (hp : c.phase = .fresh) (hs : i ∉ l.seen) (ht : poolTake p l i = some l') :
    TInv p { l' with seen := l'.seen ++ [i] } ∧ i ∈ l'.busy ∧ l'.conns = l.conns := by
  have hl := (local_poolTake p l i ht).trans (local_seen l' i)
  rw [poolTake_some p l i ht] at hl ⊢
  have hnb : i ∉ l.busy := fun hb => hs ((h.live i).1 hb).1
  have hi : i ∈ l.busy ++ [i] := by simp
  have hnum : l.idle - 1 ≤ p.mn ∧ p.mn ≤ l.idle - 1 + (l.busy ++ [i]).length := by
    have := h.idle_le
    have := h.total_ge
    rw [List.length_append, List.length_singleton]
    omega
  refine ⟨?_, hi, rfl⟩
  exact {
    nodup := List.nodup_append.2 ⟨h.nodup, by simp, fun a ha b hb e => hnb (List.mem_singleton.1 hb ▸ e ▸ ha)⟩
    live := h.live_of_local hl hc ⟨fun _ => ⟨by simp, by rw [hp]; decide⟩, fun _ => hi⟩
    nozombie := h.nozombie
    idle_le := hnum.1
    total_ge := hnum.2 }

namespace Step
variable {p : Params} {l l' : Loop} {ev : Ev}

theorem tinv (hs : Step p l ev l') (hk : p.kind = .thread) (hg : GoodCfg p.cfg) (hc : ClientEv ev) (h : TInv p l) :
    TInv p l' := by
  cases hs with
  | skip => exact h
  | accept _ hci hp hs ht => exact (h.accept hci hp hs ht).1
  | serve _ hci hb => exact h.workerItem hg hci hb hc
  | acceptServe _ hci hp hs ht =>
    obtain ⟨h', hb, hconns⟩ := h.accept hci hp hs ht
    exact h'.workerItem hg (hconns ▸ hci) hb hc
  | deny _ hci _ hb =>
    rw [threadDeny_good p hg]
    exact h.refuse hci hb rfl
  | opened hk' | refused hk' | served hk' | dropped hk' | escapes hk' => cases hk.symm.trans hk'

end Step

/-- multiplex server: the selector holds exactly the active connections; nothing is abandoned -/
structure MInv (l : Loop) : Prop where
  nodup : l.registered.Nodup
  reg : ∀ i, i ∈ l.registered ↔ ∃ c, l.conns[i]? = some c ∧ c.phase = .active
  nozombie : l.zombie = []

namespace MInv
variable {l : Loop} (h : MInv l) {i : Nat}
include h

/-- after a change that is local to connection `i`, the selector is still exact if it is exact at `i` -/
theorem reg_of_local {l' : Loop} {c' : Conn} (hl : Local i l l') (hc' : l'.conns[i]? = some c')
    (hi : i ∈ l'.registered ↔ c'.phase = .active) (j : Nat) :
    j ∈ l'.registered ↔ ∃ c, l'.conns[j]? = some c ∧ c.phase = .active := by
  by_cases hij : i = j
  · subst hij
    simpa only [hc', Option.some.injEq, exists_eq_left'] using hi
  · obtain ⟨hc, _, _, hr, _⟩ := about_eq.1 (hl.2 j hij)
    rw [hr, hc]
    exact h.reg j

theorem not_registered {c : Conn} (hc : l.conns[i]? = some c) (hp : c.phase ≠ .active) : i ∉ l.registered := by
  intro hr
  obtain ⟨c', hc', hp'⟩ := (h.reg i).1 hr
  rw [hc] at hc'
  cases hc'
  exact hp hp'

end MInv

namespace Step
variable {p : Params} {l l' : Loop} {ev : Ev}

theorem minv (hs : Step p l ev l') (hk : p.kind = .multiplex) (hg : GoodCfg p.cfg) (hc : ClientEv ev)
    (h : MInv l) : MInv l' := by
  have hl := hs.frame
  cases hs with
  | skip => exact h
  | @opened i c it gone raw _ hci hp =>
    have hnr := h.not_registered hci (by rw [hp]; decide)
    have hi : i ∈ l.registered ++ [i] := by simp
    exact ⟨List.nodup_append.2 ⟨h.nodup, by simp, fun a ha b hb e => hnr (List.mem_singleton.1 hb ▸ e ▸ ha)⟩,
      h.reg_of_local hl (setConn_get_self _ hci) ⟨fun _ => rfl, fun _ => hi⟩,
      h.nozombie⟩
  | @refused i c it gone raw _ hci hp =>
    exact ⟨h.nodup, h.reg_of_local hl (setConn_get_self _ hci)
      ⟨fun hr => absurd hr (h.not_registered hci (by rw [hp]; decide)), fun hp' => by cases hp'⟩, h.nozombie⟩
  | @served i c it gone raw _ hci hp hr =>
    exact ⟨h.nodup, h.reg_of_local hl (setConn_get_self _ hci)
      ⟨fun _ => (doRequest_phase ..).trans hp, fun _ => hr⟩, h.nozombie⟩
  | @dropped i c it gone raw _ hci hp =>
    exact ⟨h.nodup.erase i, h.reg_of_local hl (setConn_get_self _ hci)
      ⟨fun hi => absurd rfl ((h.nodup.mem_erase_iff).1 hi).1, fun hp' => by cases hp'⟩, h.nozombie⟩
  | escapes _ _ _ _ hx => exact (hx hg hc).elim
  | accept hk' | serve hk' | acceptServe hk' | deny hk' => cases hk.symm.trans hk'

end Step

/-! ### a served connection sees exactly `Server.connEvent` of its own items -/

/-- the connection is being served: a worker holds it / it is registered with a running loop -/
def Served (p : Params) (l : Loop) (w : Nat) : Prop :=
  match p.kind with
  | .thread => w ∈ l.busy ∧ w ∉ l.zombie
  | .multiplex => l.running = true ∧ w ∈ l.registered ∧ w ∉ l.zombie

/-- what the event makes of the record `c` of connection `w`: `Server.connEvent` for an item of `w`, nothing otherwise -/
def evOn (w : Nat) (ev : Ev) (c : Conn) : Conn :=
  match ev with
  | .connect _ => c
  | .item i it _ _ => if i = w then connEvent c it else c

theorem served_of_about {p : Params} {l l' : Loop} {w : Nat} (hu : about l' w = about l w)
    (hr : l'.running = l.running) (hs : Served p l w) : Served p l' w := by
  obtain ⟨_, hbusy, hzombie, hreg, _⟩ := about_eq.1 hu
  unfold Served
  rw [hbusy, hzombie, hreg, hr]
  exact hs

section paths
variable (p : Params) {l l' : Loop} {i : Nat} {c : Conn} {it : Item} {gone : Bool} {raw : Cls}

theorem threadItem_closed (hp : c.phase = .closed) : threadItem p l i c it gone raw = l := by
  unfold threadItem
  rw [hp]

variable (hc : l.conns[i]? = some c) (hz : i ∉ l.zombie)
include hc hz

theorem threadStep_busy (hb : i ∈ l.busy) :
    threadStep p l (.item i it gone raw) = threadItem p l i c it gone raw := by
  simp only [threadStep, hc]
  rw [if_neg (by simpa using hz), if_pos (by simpa using hb)]

theorem threadStep_new (hb : i ∉ l.busy) (hs : i ∉ l.seen) (hr : l.running = true) (hp : c.phase = .fresh)
    (ht : poolTake p l i = some l') :
    threadStep p l (.item i it gone raw) = threadItem p { l' with seen := l'.seen ++ [i] } i c it gone raw := by
  simp only [threadStep, hc, ht]
  rw [if_neg (by simpa using hz), if_neg (by simpa using hb), if_neg (by simpa using hs), if_neg (by simp [hr, hp])]

variable (hr : l.running = true)
include hr

theorem muxStep_fresh (hp : c.phase = .fresh) (hs : i ∉ l.seen) :
    (muxStep p l (.item i it false raw)).conns[i]? = some (connEvent c it) := by
  obtain ⟨he, hce⟩ := doHandshake_connEvent c it hp
  simp only [muxStep, hc, hp]
  rw [if_neg (by simp [hr, hz]), if_neg (by simpa using hs), he, hce]
  dsimp only
  split <;> exact setConn_get_self _ hc

end paths

namespace Step
variable {p : Params} {l l' : Loop} {ev : Ev}

/-- an event on a connection that is closed, and a connect on one that is not new, change nothing -/
theorem eq_self (hs : Step p l ev l') {c : Conn} (hc : l.conns[ev.conn]? = some c) (hnf : c.phase ≠ .fresh)
    (hit : ∀ i it gone raw, ev = .item i it gone raw → c.phase = .closed) : l' = l := by
  cases hs with
  | skip => rfl
  | accept _ hci hp | acceptServe _ hci hp | deny _ hci hp | opened _ hci hp | refused _ hci hp =>
    cases hci.symm.trans hc
    exact absurd hp hnf
  | serve _ hci =>
    cases hci.symm.trans hc
    exact threadItem_closed p (hit _ _ _ _ rfl)
  | served _ hci hp | dropped _ hci hp =>
    cases hci.symm.trans hc
    rw [hit _ _ _ _ rfl] at hp
    cases hp
  | escapes _ hci hp =>
    cases hci.symm.trans hc
    exact absurd (hit _ _ _ _ rfl) hp

end Step

/-- `c` is the record of connection `w`, and `w` is closed or active and being served: the invariant of `step_tracked` -/
def Tracked (p : Params) (l : Loop) (w : Nat) (c : Conn) : Prop :=
  l.conns[w]? = some c ∧ (c.phase = .closed ∨ (c.phase = .active ∧ Served p l w))

theorem step_served (p : Params) (hg : GoodCfg p.cfg) (l : Loop) (i : Nat) (c : Conn) (it : Item) (raw : Cls)
    (hraw : isException raw = true) (hc : l.conns[i]? = some c) (hp : c.phase = .active) (hs : Served p l i) :
    Tracked p (step p l (.item i it false raw)) i (connEvent c it) := by
  have hce := doRequest_connEvent c it raw hp
  obtain ⟨kind, mn, mx, cfg⟩ := p
  cases kind with
  | thread =>
    show Tracked _ (threadStep _ l _) i _
    rw [threadStep_busy _ hc hs.2 hs.1, hce]
    simp only [threadItem, hp]
    cases he : (doRequest c it false raw).esc with
    | none => exact ⟨setConn_get_self _ hc, .inr ⟨(doRequest_phase ..).trans hp, hs⟩⟩
    | some e =>
      dsimp only
      refine ⟨?_, .inl rfl⟩
      rw [workerExit_conns]
      exact setConn_get_self _ hc
  | multiplex =>
    show Tracked _ (muxStep _ l _) i _
    simp only [muxStep, hc, hp]
    rw [if_neg (by simp [hs.1, hs.2.2]), if_neg (by simpa using hs.2.1), hce]
    cases he : (doRequest c it false raw).esc with
    | none => exact ⟨setConn_get_self _ hc, .inr ⟨(doRequest_phase ..).trans hp, hs⟩⟩
    | some e =>
      dsimp only
      rw [if_pos (hg.muxReq e (doRequest_esc_exc c it false raw hraw e he))]
      exact ⟨setConn_get_self _ hc, .inl rfl⟩

/-- one step keeps track: the record of `w` moves by `Server.connEvent` on `w`'s own items (while its
    peer stays) and not at all on other events; it stays served until it is closed -/
theorem step_tracked (p : Params) (hg : GoodCfg p.cfg) (l : Loop) (ev : Ev) (hc : ClientEv ev) (w : Nat) (c : Conn)
    (ht : Tracked p l w c) (hstay : ∀ it gone raw, ev = .item w it gone raw → gone = false) :
    Tracked p (step p l ev) w (evOn w ev c) := by
  obtain ⟨hcw, hph⟩ := ht
  have hnf : c.phase ≠ .fresh := by rcases hph with h | ⟨h, _⟩ <;> rw [h] <;> decide
  by_cases hw : ev.conn = w
  · cases ev with
    | connect i =>
      obtain rfl : i = w := hw
      rw [(step_spec p l (.connect i)).eq_self hcw hnf (fun _ _ _ _ h => by cases h)]
      exact ⟨hcw, hph⟩
    | item i it gone raw =>
      obtain rfl : i = w := hw
      cases hstay it gone raw rfl
      show Tracked _ _ i (if i = i then connEvent c it else c)
      rw [if_pos rfl]
      rcases hph with hcl | ⟨hact, hs⟩
      · rw [(step_spec p l (.item i it false raw)).eq_self hcw hnf (fun _ _ _ _ _ => hcl),
          show connEvent c it = c by simp only [connEvent, hcl]]
        exact ⟨hcw, .inl hcl⟩
      · exact step_served p hg l i c it raw hc hcw hact hs
  · have hu := (step_spec p l ev).frame.2 w hw
    have hev : evOn w ev c = c := by
      cases ev with
      | connect _ => rfl
      | item _ _ _ _ => exact if_neg hw
    rw [hev]
    exact ⟨(about_eq.1 hu).1.trans hcw,
      hph.imp_right fun h => ⟨h.1, served_of_about hu ((step_spec p l ev).running hg hc) h.2⟩⟩

end Pyro.ServerLoop
