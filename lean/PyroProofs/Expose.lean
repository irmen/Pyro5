/-
  PyroProofs/Expose.lean — specification-side definitions and lemmas for property C02 (model: PyroModel/Expose.lean).
  Order: specification vocabulary; the method gate; calls and batches; the property gates; requests that are not
  batches (`body_cases`); the decorators; what the gate serves; look-ups and the advertised lists; refusals; a checker.
-/
import PyroModel.Expose

namespace Pyro.Expose

/-! ### specification vocabulary -/

/-- the member carries the mark `expose` leaves on it (for a property: on `fget or fset or fdel`) -/
def memberExposed : Member → Bool
  | .func f => f.exposed
  | .static f => f.exposed
  | .clsm f => f.exposed
  | .prop g s d => exposedOpt (primary g s d)
  | .attr _ => false

def optFid : Option Fn → List Nat
  | some f => [f.fid]
  | none => []

/-- effect ids of the code that belongs to a member -/
def memberFids : Member → List Nat
  | .func f => [f.fid]
  | .static f => [f.fid]
  | .clsm f => [f.fid]
  | .prop g s d => optFid g ++ optFid s ++ optFid d
  | .attr _ => []

/-- the name is not private and denotes, on the type, an explicitly exposed method or property -/
def Allowed (sh : Shape) (n : Name) : Prop :=
  isPrivate n = false ∧ ∃ m, lookupType n sh.mro = some m ∧ memberExposed m = true

def valMarked : Val → Bool
  | .data => false
  | .inst h => h.exposed
  | .cls h => h.exposed
  | .fn f => f.exposed

/-- no plain attribute, of the instance or visible on the type, holds an instance or the class of an
    `@expose`d helper class (the shapes of finding F2b) -/
def NoExposedHelperAttr (sh : Shape) : Prop :=
  (∀ n v, find? n sh.inst = some v → valMarked v = false) ∧
  (∀ n v, lookupType n sh.mro = some (.attr v) → valMarked v = false)

/-- no instance attribute hides a member of the type -/
def NoShadow (sh : Shape) : Prop :=
  ∀ n v, find? n sh.inst = some v → lookupType n sh.mro = none

/-- every visible `property` object has a getter or a setter (C02 speaks of such shapes only) -/
def PropsUsable (sh : Shape) : Prop :=
  ∀ n g s d, lookupType n sh.mro = some (.prop g s d) → g.isSome = true ∨ s.isSome = true

/-- all three source facts hold: the gate as repaired (the fourth field of `Cfg`, `nonStrType`, is left free) -/
def Fixed (cfg : Cfg) : Prop :=
  cfg.callTypeFirst = true ∧ cfg.getPriv = true ∧ cfg.setPriv = true

/-- the names a request asks for -/
def reqNames (r : Req) : List ReqName :=
  if r.batch then r.args
  else if r.method = .str nmGetattr then r.args.take 1
  else if r.method = .str nmSetattr then r.args.take 1
  else [r.method]

/-- refused: an error reply, or no reply at all for a oneway request -/
def Refused (r : Req) (rep : Reply) : Prop :=
  if r.oneway then rep = .none else ∃ e, rep = .error e

/-- effect `e` is code of an exposed, public member that one of `names` denotes -/
def Justified (sh : Shape) (names : List ReqName) (e : Nat) : Prop :=
  ∃ n m, ReqName.str n ∈ names ∧ isPrivate n = false ∧ lookupType n sh.mro = some m ∧
    memberExposed m = true ∧ e ∈ memberFids m

theorem Justified.mono {sh : Shape} {l l' : List ReqName} {e : Nat} (h : ∀ x ∈ l, x ∈ l') :
    Justified sh l e → Justified sh l' e
  | ⟨n, m, hn, h1, h2, h3, h4⟩ => ⟨n, m, h _ hn, h1, h2, h3, h4⟩

theorem Justified.allowed {sh : Shape} {l : List ReqName} {e : Nat} :
    Justified sh l e → ∃ n, ReqName.str n ∈ l ∧ Allowed sh n
  | ⟨n, m, hn, h1, h2, h3, _⟩ => ⟨n, hn, h1, m, h2, h3⟩

/-! ### the method gate -/

theorem instOr_eff (sh : Shape) (n : Name) (o : Obj) : (instOr sh n o).2 = [] := by
  unfold instOr; split <;> rfl

theorem instOr_some {sh : Shape} {n : Name} {v : Val} (hi : find? n sh.inst = some v) (o : Obj) :
    instOr sh n o = (.ok (.val v), []) := by
  unfold instOr; rw [hi]

theorem instOr_none {sh : Shape} {n : Name} (hi : find? n sh.inst = none) (o : Obj) : instOr sh n o = (.ok o, []) := by
  unfold instOr; rw [hi]

theorem objMarked_val (v : Val) : objMarked (.val v) = valMarked v := by
  cases v <;> rfl

/-- only the getter of a property runs on a fetch -/
theorem getattrInst_eff {sh : Shape} {n : Name} (hd : isDataDesc (lookupType n sh.mro) = false) :
    (getattrInst sh n).2 = [] := by
  unfold getattrInst
  cases hl : lookupType n sh.mro with
  | none => cases find? n sh.inst <;> rfl
  | some m =>
    cases m with
    | prop g s d => rw [hl] at hd; cases hd
    | _ => exact instOr_eff ..

theorem getattrInst_inst {sh : Shape} {n : Name} {v : Val} (hi : find? n sh.inst = some v)
    (hd : isDataDesc (lookupType n sh.mro) = false) : getattrInst sh n = (.ok (.val v), []) := by
  unfold getattrInst
  cases hl : lookupType n sh.mro with
  | none => simp only [hi]
  | some m =>
    cases m with
    | prop g s d => rw [hl] at hd; cases hd
    | _ => exact instOr_some hi _

theorem getattrInst_marked {sh : Shape} {n : Name} {o : Obj} {eff : List Nat} (hh : NoExposedHelperAttr sh)
    (hd : isDataDesc (lookupType n sh.mro) = false) (h : getattrInst sh n = (.ok o, eff)) (hm : objMarked o = true) :
    find? n sh.inst = none ∧
      ∃ f m, o = .fn f ∧ lookupType n sh.mro = some m ∧ (m = .func f ∨ m = .static f ∨ m = .clsm f) := by
  have hval : ∀ v, find? n sh.inst = some v ∨ lookupType n sh.mro = some (.attr v) → o ≠ .val v := by
    rintro v hv rfl
    rw [objMarked_val, hv.elim (hh.1 n v) (hh.2 n v)] at hm
    cases hm
  cases hi : find? n sh.inst with
  | some v =>
    rw [getattrInst_inst hi hd] at h
    cases h
    exact absurd rfl (hval v (.inl hi))
  | none =>
    simp only [getattrInst, instOr_none hi, hi] at h
    split at h
    next hl => rw [hl] at hd; cases hd
    next => cases h
    next f hl => cases h; exact ⟨rfl, f, _, rfl, hl, .inl rfl⟩
    next f hl => cases h; exact ⟨rfl, f, _, rfl, hl, .inr (.inl rfl)⟩
    next f hl => cases h; exact ⟨rfl, f, _, rfl, hl, .inr (.inr rfl)⟩
    next v hl => cases h; exact absurd rfl (hval v (.inr hl))
    next => cases h

/-- the type binds the public name `n` to an exposed method `m` with function `f`, and no instance attribute hides it -/
structure MethodHit (sh : Shape) (n : Name) (f : Fn) (m : Member) : Prop where
  pub : isPrivate n = false
  lookup : lookupType n sh.mro = some m
  method : isMethodMember (some m) = true
  fids : memberFids m = [f.fid]
  noInst : find? n sh.inst = none

theorem MethodHit.exposed {sh : Shape} {n : Name} {f : Fn} {m : Member} (h : MethodHit sh n f m) :
    memberExposed m = true := by
  have hm := h.method
  cases m with
  | func f | static f | clsm f => exact hm
  | _ => cases hm

/-- what `_get_attribute` lets through when data descriptors are refused first and no attribute holds an
    exposed helper: a marked function that the type binds to this public name; nothing ran. -/
theorem getAttribute_ok {cfg : Cfg} {sh : Shape} {rn : ReqName} {o : Obj} {eff : List Nat}
    (hc : cfg.callTypeFirst = true) (hh : NoExposedHelperAttr sh)
    (h : getAttribute cfg sh rn = (.ok o, eff)) :
    eff = [] ∧ ∃ n f m, rn = .str n ∧ o = .fn f ∧ MethodHit sh n f m := by
  cases rn with
  | str n =>
    simp only [getAttribute, hc, Bool.true_and] at h
    cases hp : isPrivate n with
    | true => rw [hp] at h; cases h
    | false =>
      cases hd : isDataDesc (lookupType n sh.mro) with
      | true => rw [hp, hd] at h; cases h
      | false =>
        rw [hp, hd] at h
        rcases hg : getattrInst sh n with ⟨_ | o', eff'⟩
        · rw [hg] at h; cases h
        · simp only [hg] at h
          cases hm : objMarked o' with
          | false => rw [hm] at h; cases h
          | true =>
            rw [hm] at h
            cases h
            obtain ⟨hi, f, m, rfl, hl, hk⟩ := getattrInst_marked hh hd hg hm
            have he : eff = [] := by simpa [hg] using getattrInst_eff hd
            rcases hk with rfl | rfl | rfl <;>
              exact ⟨he, n, f, _, rfl, rfl, { pub := hp, lookup := hl, method := hm, fids := rfl, noInst := hi }⟩
  | _ => cases h

/-- with data descriptors refused first, `_get_attribute` never runs target code -/
theorem getAttribute_eff {cfg : Cfg} {sh : Shape} (rn : ReqName) (hc : cfg.callTypeFirst = true) :
    (getAttribute cfg sh rn).2 = [] := by
  cases rn with
  | str n =>
    simp only [getAttribute, hc, Bool.true_and]
    cases isPrivate n
    · cases hd : isDataDesc (lookupType n sh.mro)
      · have he := getattrInst_eff hd
        revert he
        rcases getattrInst sh n with ⟨_ | o, eff⟩ <;> rintro rfl
        · rfl
        · dsimp only
          cases objMarked o <;> rfl
      · rfl
    · rfl
  | _ => rfl

/-! ### calls and batches -/

/-- a normal call under the repaired gate: whatever ran is the one function the name denotes -/
theorem runCall_spec {cfg : Cfg} {sh : Shape} (rn : ReqName)
    (hc : cfg.callTypeFirst = true) (hh : NoExposedHelperAttr sh) :
    ((runCall cfg sh rn).2 = [] ∧ ∃ e, (runCall cfg sh rn).1 = .error e) ∨
    (∃ n f m, rn = .str n ∧ MethodHit sh n f m ∧ runCall cfg sh rn = (.ok (), [f.fid])) := by
  unfold runCall
  have he := getAttribute_eff (cfg := cfg) (sh := sh) rn hc
  generalize hg : getAttribute cfg sh rn = g at he
  obtain ⟨res, eff⟩ := g
  simp only at he
  subst he
  cases res with
  | error e => exact .inl ⟨rfl, e, rfl⟩
  | ok o =>
    obtain ⟨_, n, f, m, hn, rfl, hit⟩ := getAttribute_ok hc hh hg
    exact .inr ⟨n, f, m, hn, hit, rfl⟩

theorem runBatch_cons (cfg : Cfg) (sh : Shape) (rn : ReqName) (rest : List ReqName) :
    runBatch cfg sh (rn :: rest) =
      match runCall cfg sh rn with
      | (.error e, eff) => (.error e, eff)
      | (.ok (), eff) => ((runBatch cfg sh rest).1, eff ++ (runBatch cfg sh rest).2) := by
  rw [runBatch, runCall]
  rcases getAttribute cfg sh rn with ⟨_ | o, eff⟩
  · rfl
  · dsimp only
    rcases callObj o with ⟨_ | ⟨⟩, eff2⟩ <;> rfl

/-- whatever a batch runs is justified by its names; one that is answered with a result consists of allowed names only -/
theorem runBatch_spec {cfg : Cfg} {sh : Shape} (hc : cfg.callTypeFirst = true) (hh : NoExposedHelperAttr sh)
    (l : List ReqName) :
    (∀ e ∈ (runBatch cfg sh l).2, Justified sh l e) ∧
    ((runBatch cfg sh l).1 = .ok () → ∀ rn ∈ l, ∃ n, rn = .str n ∧ Allowed sh n) := by
  induction l with
  | nil => exact ⟨fun _ he => (nomatch he), fun _ _ h => nomatch h⟩
  | cons rn rest ih =>
    rw [runBatch_cons]
    rcases runCall_spec (sh := sh) rn hc hh with ⟨h1, e, h2⟩ | ⟨n, f, m, rfl, hit, e8⟩
    · rw [Prod.ext h2 h1 (y := (.error e, []))]
      exact ⟨fun _ he => (nomatch he), fun h => nomatch h⟩
    · rw [e8]
      refine ⟨fun e he => ?_, fun hok x hx => ?_⟩
      · rcases List.mem_cons.mp he with rfl | h
        · exact ⟨n, m, .head _, hit.pub, hit.lookup, hit.exposed, hit.fids ▸ .head _⟩
        · exact (ih.1 e h).mono fun x hx => .tail _ hx
      · rcases List.mem_cons.mp hx with rfl | h
        · exact ⟨n, rfl, hit.pub, m, hit.lookup, hit.exposed⟩
        · exact ih.2 hok x h

/-! ### the property gates -/

theorem getProp_spec {cfg : Cfg} {sh : Shape} (rn : ReqName) (hc : cfg.getPriv = true) :
    ((getProp cfg sh rn).2 = [] ∧ ∃ e, (getProp cfg sh rn).1 = .error e) ∨
    (∃ n f s d, rn = .str n ∧ isPrivate n = false ∧ lookupType n sh.mro = some (.prop (some f) s d) ∧
      f.exposed = true ∧ getProp cfg sh rn = (.ok (), [f.fid])) := by
  cases rn with
  | str n =>
    simp only [getProp, hc, Bool.true_and]
    cases hp : isPrivate n with
    | true => exact .inl ⟨rfl, _, rfl⟩
    | false =>
      cases hl : lookupType n sh.mro with
      | none => exact .inl ⟨rfl, _, rfl⟩
      | some m =>
        cases m with
        | prop g s d =>
          cases g with
          | none => exact .inl ⟨rfl, _, rfl⟩
          | some f =>
            cases hf : f.exposed with
            | false => exact .inl (by simp [hf])
            | true => exact .inr ⟨n, f, s, d, rfl, hp, hl, hf, by simp [hf]⟩
        | _ => exact .inl ⟨rfl, _, rfl⟩
  | _ => exact .inl ⟨rfl, _, rfl⟩

theorem setProp_spec {cfg : Cfg} {sh : Shape} (rn : ReqName) (hc : cfg.setPriv = true) :
    ((setProp cfg sh rn).2 = [] ∧ ∃ e, (setProp cfg sh rn).1 = .error e) ∨
    (∃ n g f d, rn = .str n ∧ isPrivate n = false ∧ lookupType n sh.mro = some (.prop g (some f) d) ∧
      exposedOpt (primary g (some f) d) = true ∧ setProp cfg sh rn = (.ok (), [f.fid])) := by
  cases rn with
  | str n =>
    simp only [setProp, hc, Bool.true_and]
    cases hp : isPrivate n with
    | true => exact .inl ⟨rfl, _, rfl⟩
    | false =>
      cases hl : lookupType n sh.mro with
      | none => exact .inl ⟨rfl, _, rfl⟩
      | some m =>
        cases m with
        | prop g s d =>
          cases s with
          | none => exact .inl ⟨rfl, _, rfl⟩
          | some f =>
            cases hf : exposedOpt (primary g (some f) d) with
            | false => exact .inl (by simp [hf])
            | true => exact .inr ⟨n, g, f, d, rfl, hp, hl, hf, by simp [hf]⟩
        | _ => exact .inl ⟨rfl, _, rfl⟩
  | _ => exact .inl ⟨rfl, _, rfl⟩

theorem primary_some_exposed (f : Fn) (s d : Option Fn) : exposedOpt (primary (some f) s d) = f.exposed := rfl

theorem mem_optFid_some (f : Fn) : f.fid ∈ optFid (some f) := List.mem_singleton.mpr rfl

/-! ### the whole dispatch, for requests that are not batches -/

/-- a request that is not a batch lacks arguments, or is one gate applied to one requested name -/
theorem body_cases (cfg : Cfg) (sh : Shape) (r : Req) (hb : r.batch = false) :
    dispatchBody cfg sh r = (.error .index, []) ∨
    ∃ rn ∈ reqNames r, dispatchBody cfg sh r = getProp cfg sh rn ∨ dispatchBody cfg sh r = setProp cfg sh rn ∨
      dispatchBody cfg sh r = runCall cfg sh rn := by
  unfold dispatchBody reqNames
  rw [hb, if_neg Bool.false_ne_true, if_neg Bool.false_ne_true]
  by_cases h1 : r.method = .str nmGetattr
  · rw [if_pos h1, if_pos h1]
    cases r.args with
    | nil => exact .inl rfl
    | cons a rest => exact .inr ⟨a, .head _, .inl rfl⟩
  rw [if_neg h1, if_neg h1]
  by_cases h2 : r.method = .str nmSetattr
  · rw [if_pos h2, if_pos h2]
    cases r.args with
    | nil => exact .inl rfl
    | cons a rest =>
      cases rest with
      | nil => exact .inl rfl
      | cons b rest => exact .inr ⟨a, .head _, .inr (.inl rfl)⟩
  · rw [if_neg h2, if_neg h2]
    exact .inr ⟨_, .head _, .inr (.inr rfl)⟩

/-- outcome of a non-batch request under the repaired gate: either refused without effect, or exactly
    one function of an allowed member named by the request ran -/
theorem body_single {cfg : Cfg} {sh : Shape} (r : Req) (hf : Fixed cfg) (hh : NoExposedHelperAttr sh)
    (hb : r.batch = false) :
    ((dispatchBody cfg sh r).2 = [] ∧ ∃ e, (dispatchBody cfg sh r).1 = .error e) ∨
    (∃ fid, Justified sh (reqNames r) fid ∧ dispatchBody cfg sh r = (.ok (), [fid])) := by
  rcases body_cases cfg sh r hb with h | ⟨rn, hrn, h | h | h⟩ <;> rw [h]
  · exact .inl ⟨rfl, _, rfl⟩
  · rcases getProp_spec (sh := sh) rn hf.2.1 with h' | ⟨n, f, s, d, rfl, e2, e3, e4, e5⟩
    · exact .inl h'
    · exact .inr ⟨f.fid, ⟨n, _, hrn, e2, e3, e4, .head _⟩, e5⟩
  · rcases setProp_spec (sh := sh) rn hf.2.2 with h' | ⟨n, g, f, d, rfl, e2, e3, e4, e5⟩
    · exact .inl h'
    · exact .inr ⟨f.fid, ⟨n, _, hrn, e2, e3, e4, by simp [memberFids, optFid]⟩, e5⟩
  · rcases runCall_spec (sh := sh) rn hf.1 hh with h' | ⟨n, f, m, rfl, hit, e8⟩
    · exact .inl h'
    · exact .inr ⟨f.fid, ⟨n, m, hrn, hit.pub, hit.lookup, hit.exposed, hit.fids ▸ .head _⟩, e8⟩

/-! ### the decorators: where marks come from -/

def exposeD : Option FnDecl → Bool
  | some d => d.expose
  | none => false

/-- `fget or fset or fdel` on declarations -/
def primaryD (g s d : Option FnDecl) : Option FnDecl :=
  match g with
  | some f => some f
  | none => match s with
    | some f => some f
    | none => d

/-- a method or a property that has at least one function (something `expose(cls)` can mark) -/
def callable : Member → Bool
  | .func _ => true
  | .static _ => true
  | .clsm _ => true
  | .prop g s d => (primary g s d).isSome
  | .attr _ => false

def callableD : MemberDecl → Bool
  | .func _ => true
  | .static _ => true
  | .clsm _ => true
  | .prop _ g s d => (primaryD g s d).isSome
  | .attr _ => false

/-- exposed by a decorator on the member itself -/
def declSelf : MemberDecl → Bool
  | .func f => f.expose
  | .static f => f.expose
  | .clsm f => f.expose
  | .prop ex g s d => match primaryD g s d with
    | some f => f.expose || ex
    | none => false
  | .attr _ => false

/-- **explicitly exposed**: itself, or by exposing the very class `cd` that defines it under a public key -/
def declExposed (cd : ClassDecl) (key : Name) (md : MemberDecl) : Bool :=
  declSelf md || (cd.exposeClass && !isPrivate key && callableD md)

/-- the class declaration that defines `n` (first in MRO order) and the declaration of the member -/
def lookupDecl (n : Name) : List ClassDecl → Option (ClassDecl × MemberDecl)
  | [] => none
  | cd :: rest => match find? n cd.members with
    | some md => some (cd, md)
    | none => lookupDecl n rest

theorem buildFn_ok {d : FnDecl} {f : Fn} (h : buildFn d = .ok f) : f.exposed = d.expose := by
  unfold buildFn at h
  split at h
  · cases h
  · cases h; rfl

theorem buildOptFn_ok {od : Option FnDecl} {o : Option Fn} (h : buildOptFn od = .ok o) :
    exposedOpt o = exposeD od ∧ o.isSome = od.isSome := by
  cases od with
  | none => simp [buildOptFn] at h; subst h; simp [exposedOpt, exposeD]
  | some d =>
    simp only [buildOptFn] at h
    split at h
    · next f hf => cases h; simp [exposedOpt, exposeD, buildFn_ok hf]
    · cases h

theorem primary_build {g s d : Option FnDecl} {g' s' d' : Option Fn}
    (hg : exposedOpt g' = exposeD g ∧ g'.isSome = g.isSome)
    (hs : exposedOpt s' = exposeD s ∧ s'.isSome = s.isSome)
    (hd : exposedOpt d' = exposeD d ∧ d'.isSome = d.isSome) :
    exposedOpt (primary g' s' d') = exposeD (primaryD g s d) ∧
      (primary g' s' d').isSome = (primaryD g s d).isSome := by
  cases g with
  | some fg =>
    cases g' with
    | some fg' => exact ⟨hg.1, rfl⟩
    | none => cases hg.2
  | none =>
    cases g' with
    | some _ => cases hg.2
    | none =>
      cases s with
      | some fs =>
        cases s' with
        | some fs' => exact ⟨hs.1, rfl⟩
        | none => cases hs.2
      | none =>
        cases s' with
        | some _ => cases hs.2
        | none => exact hd

theorem exposed_callable (m : Member) (h : memberExposed m = true) : callable m = true := by
  cases m with
  | prop g s d =>
    simp only [memberExposed] at h
    simp only [callable]
    cases hp : primary g s d with
    | none => rw [hp] at h; cases h
    | some f => rfl
  | attr v => cases h
  | _ => rfl

theorem exposeProp_ok {g s d : Option Fn} {m : Member} (h : exposeProp g s d = .ok m) :
    memberExposed m = true ∧ (primary g s d).isSome = true := by
  unfold exposeProp at h
  cases g with
  | some f =>
    simp only at h
    split at h
    · cases h
    · cases h; exact ⟨rfl, rfl⟩
  | none =>
    cases s with
    | some f =>
      simp only at h
      split at h
      · cases h
      · cases h; exact ⟨rfl, rfl⟩
    | none =>
      cases d with
      | some f =>
        simp only at h
        split at h
        · cases h
        · cases h; exact ⟨rfl, rfl⟩
      | none => simp at h

/-- what the member-level decorators leave on a member -/
theorem buildMember_ok {md : MemberDecl} {m : Member} (h : buildMember md = .ok m) :
    memberExposed m = declSelf md ∧ callable m = callableD md := by
  cases md with
  | func f | static f | clsm f =>
    simp only [buildMember] at h
    split at h
    · next f' hf => cases h; simp [memberExposed, declSelf, callable, callableD, buildFn_ok hf]
    · cases h
  | attr v =>
    simp only [buildMember] at h
    cases h; simp [memberExposed, declSelf, callable, callableD]
  | prop ex g s d =>
    simp only [buildMember] at h
    split at h
    · next g' s' d' hg hs hd =>
      have hp := primary_build (buildOptFn_ok hg) (buildOptFn_ok hs) (buildOptFn_ok hd)
      cases ex with
      | false =>
        simp only [Bool.false_eq_true, if_false] at h
        cases h
        simp only [memberExposed, declSelf, callable, callableD, hp.1, hp.2]
        cases primaryD g s d <;> simp [exposeD]
      | true =>
        simp only [if_true] at h
        obtain ⟨h1, h2⟩ := exposeProp_ok h
        rw [h1, exposed_callable m h1]
        simp only [declSelf, callableD]
        rw [hp.2] at h2
        cases hq : primaryD g s d with
        | none => rw [hq] at h2; simp at h2
        | some f => simp
    · cases h
    · cases h
    · cases h

theorem find?_buildMembers {k : Name} {ds : List (Name × MemberDecl)} {ms : List (Name × Member)}
    (h : buildMembers ds = .ok ms) :
    (find? k ds = none → find? k ms = none) ∧
    (∀ md, find? k ds = some md → ∃ m, find? k ms = some m ∧ buildMember md = .ok m) := by
  induction ds generalizing ms with
  | nil =>
    cases h
    simp [find?]
  | cons x rest ih =>
    obtain ⟨k', md'⟩ := x
    simp only [buildMembers] at h
    split at h
    · cases h
    · next m' hm' =>
      split at h
      · cases h
      · next rest' hrest =>
        cases h
        obtain ⟨ih1, ih2⟩ := ih hrest
        simp only [find?]
        by_cases hk : k' = k
        · simp only [hk, if_true]
          refine ⟨nofun, ?_⟩
          rintro md ⟨⟩
          exact ⟨m', rfl, hm'⟩
        · simp only [hk, if_false]
          exact ⟨ih1, ih2⟩

theorem find?_exposeClass (k : Name) (ms : List (Name × Member)) :
    find? k (exposeClass ms) = (find? k ms).map (fun m => if isPrivate k then m else markMember m) := by
  induction ms with
  | nil => rfl
  | cons x rest ih =>
    obtain ⟨k', m⟩ := x
    rw [exposeClass, List.map_cons, ← exposeClass]
    by_cases hk : k' = k
    · subst hk; by_cases hp : isPrivate k' = true <;> simp [find?, hp]
    · by_cases hp : isPrivate k' = true <;> simp [find?, hp, hk, ih]

theorem memberExposed_mark (m : Member) : memberExposed (markMember m) = callable m := by
  cases m with
  | prop g s d => cases g <;> cases s <;> cases d <;> rfl
  | _ => rfl

/-- one class: the member found under a key is exposed iff its declaration says so -/
theorem buildClass_find {cd : ClassDecl} {c : Class} {k : Name} (h : buildClass cd = .ok c) :
    (find? k cd.members = none → find? k c.members = none) ∧
    (∀ md, find? k cd.members = some md →
      ∃ m, find? k c.members = some m ∧ memberExposed m = declExposed cd k md) := by
  unfold buildClass at h
  split at h
  · cases h
  · next ms hms =>
    cases h
    obtain ⟨h1, h2⟩ := find?_buildMembers (k := k) hms
    cases hx : cd.exposeClass with
    | false =>
      simp only [Bool.false_eq_true, if_false]
      refine ⟨h1, ?_⟩
      intro md hmd
      obtain ⟨m, hm, hb⟩ := h2 md hmd
      exact ⟨m, hm, by simp [declExposed, hx, (buildMember_ok hb).1]⟩
    | true =>
      simp only [if_true, find?_exposeClass]
      refine ⟨fun hn => by simp [h1 hn], ?_⟩
      intro md hmd
      obtain ⟨m, hm, hb⟩ := h2 md hmd
      obtain ⟨e1, e2⟩ := buildMember_ok hb
      refine ⟨_, by rw [hm]; rfl, ?_⟩
      cases hp : isPrivate k with
      | true => simp [declExposed, hx, hp, e1]
      | false =>
        simp only [Bool.false_eq_true, if_false, memberExposed_mark, declExposed, hx, hp, e2,
          Bool.not_false, Bool.true_and]
        have hsc := exposed_callable m
        rw [e1, e2] at hsc
        cases hs : declSelf md with
        | false => rfl
        | true =>
          rw [hsc hs]
          rfl

/-- the whole MRO: the member the type binds to a name, and whether it is exposed, read off the declarations -/
theorem buildClasses_lookup {k : Name} {ds : List ClassDecl} {cs : List Class} (h : buildClasses ds = .ok cs) :
    (lookupDecl k ds = none → lookupType k cs = none) ∧
    (∀ cd md, lookupDecl k ds = some (cd, md) →
      ∃ m, lookupType k cs = some m ∧ memberExposed m = declExposed cd k md) := by
  induction ds generalizing cs with
  | nil =>
    cases h
    simp [lookupDecl, lookupType]
  | cons cd rest ih =>
    simp only [buildClasses] at h
    split at h
    · cases h
    · next rest' hrest =>
      split at h
      · cases h
      · next c hc =>
        cases h
        obtain ⟨ih1, ih2⟩ := ih hrest
        obtain ⟨c1, c2⟩ := buildClass_find (k := k) hc
        simp only [lookupDecl, lookupType]
        cases hf : find? k cd.members with
        | none =>
          simp only [c1 hf]
          exact ⟨ih1, ih2⟩
        | some md =>
          obtain ⟨m, hm, he⟩ := c2 md hf
          simp only [hm]
          refine ⟨nofun, ?_⟩
          rintro cd' md' ⟨⟩
          exact ⟨m, rfl, he⟩

/-! ### serving an exposed member (completeness of the gate) -/

theorem nmGetattr_private : isPrivate nmGetattr = true := by decide
theorem nmSetattr_private : isPrivate nmSetattr = true := by decide

theorem public_ne_special {n : Name} (hp : isPrivate n = false) :
    ReqName.str n ≠ .str nmGetattr ∧ ReqName.str n ≠ .str nmSetattr := by
  have ne : ∀ s, isPrivate s = true → ReqName.str n ≠ .str s := by
    rintro s hs ⟨⟩
    rw [hp] at hs
    cases hs
  exact ⟨ne _ nmGetattr_private, ne _ nmSetattr_private⟩

theorem dispatchBody_batch (cfg : Cfg) (sh : Shape) {r : Req} (hb : r.batch = true) :
    dispatchBody cfg sh r = runBatch cfg sh r.args := by
  rw [dispatchBody, hb, if_pos rfl]

theorem dispatchBody_getattr (cfg : Cfg) (sh : Shape) (ow : Bool) (a : ReqName) (rest : List ReqName) :
    dispatchBody cfg sh ⟨false, ow, .str nmGetattr, a :: rest⟩ = getProp cfg sh a := rfl

theorem dispatchBody_setattr (cfg : Cfg) (sh : Shape) (ow : Bool) (a v : ReqName) (rest : List ReqName) :
    dispatchBody cfg sh ⟨false, ow, .str nmSetattr, a :: v :: rest⟩ = setProp cfg sh a := rfl

theorem dispatchBody_call (cfg : Cfg) (sh : Shape) (ow : Bool) {n : Name} (hp : isPrivate n = false)
    (args : List ReqName) : dispatchBody cfg sh ⟨false, ow, .str n, args⟩ = runCall cfg sh (.str n) := by
  obtain ⟨h1, h2⟩ := public_ne_special hp
  simp only [dispatchBody, h1, h2, if_false, Bool.false_eq_true]

theorem dispatch_of_body_ok {cfg : Cfg} {sh : Shape} {r : Req} {eff : List Nat}
    (h : dispatchBody cfg sh r = (.ok (), eff)) : dispatch cfg sh r = (if r.oneway then .none else .result, eff) := by
  unfold dispatch; rw [h]

theorem dispatch_result_iff {cfg : Cfg} {sh : Shape} {r : Req} (ho : r.oneway = false) :
    (dispatch cfg sh r).1 = .result ↔ (dispatchBody cfg sh r).1 = .ok () := by
  unfold dispatch
  rw [ho]
  rcases dispatchBody cfg sh r with ⟨_ | _, _⟩ <;> simp

theorem getAttribute_method {cfg : Cfg} {sh : Shape} {n : Name} {m : Member} {f : Fn}
    (hp : isPrivate n = false) (hl : lookupType n sh.mro = some m)
    (hm : m = .func f ∨ m = .static f ∨ m = .clsm f) (he : f.exposed = true)
    (hi : find? n sh.inst = none) :
    getAttribute cfg sh (.str n) = (.ok (.fn f), []) := by
  rcases hm with rfl | rfl | rfl <;>
    simp [getAttribute, hp, hl, isDataDesc, getattrInst, instOr, hi, objMarked, he]

theorem dispatch_method {cfg : Cfg} {sh : Shape} {n : Name} {m : Member} {f : Fn}
    (hp : isPrivate n = false) (hl : lookupType n sh.mro = some m)
    (hm : m = .func f ∨ m = .static f ∨ m = .clsm f) (he : f.exposed = true)
    (hi : find? n sh.inst = none) (ow : Bool) (args : List ReqName) :
    dispatch cfg sh ⟨false, ow, .str n, args⟩ = (if ow then .none else .result, [f.fid]) :=
  dispatch_of_body_ok (by rw [dispatchBody_call cfg sh ow hp, runCall, getAttribute_method hp hl hm he hi]; rfl)

theorem dispatch_getattr {cfg : Cfg} {sh : Shape} {n : Name} {f : Fn} {s d : Option Fn}
    (hp : isPrivate n = false) (hl : lookupType n sh.mro = some (.prop (some f) s d))
    (he : f.exposed = true) (ow : Bool) (rest : List ReqName) :
    dispatch cfg sh ⟨false, ow, .str nmGetattr, .str n :: rest⟩ = (if ow then .none else .result, [f.fid]) :=
  dispatch_of_body_ok (by simp [dispatchBody_getattr, getProp, hp, hl, he])

theorem dispatch_setattr {cfg : Cfg} {sh : Shape} {n : Name} {f : Fn} {g d : Option Fn}
    (hp : isPrivate n = false) (hl : lookupType n sh.mro = some (.prop g (some f) d))
    (he : exposedOpt (primary g (some f) d) = true) (ow : Bool) (v : ReqName) (rest : List ReqName) :
    dispatch cfg sh ⟨false, ow, .str nmSetattr, .str n :: v :: rest⟩ = (if ow then .none else .result, [f.fid]) :=
  dispatch_of_body_ok (by simp [dispatchBody_setattr, setProp, hp, hl, he])

/-! ### look-ups in the class and instance dicts -/

theorem find?_isSome_iff {α : Type} (n : Name) (l : List (Name × α)) :
    (find? n l).isSome = true ↔ n ∈ l.map Prod.fst := by
  induction l with
  | nil => simp [find?]
  | cons x rest ih =>
    obtain ⟨k, v⟩ := x
    rw [find?, List.map_cons, List.mem_cons, ← ih]
    split
    · next hk => simp [hk]
    · next hk => simp [Ne.symm hk]

theorem lookupType_isSome_iff (n : Name) (mro : List Class) :
    (lookupType n mro).isSome = true ↔ n ∈ mro.flatMap (fun c => c.members.map Prod.fst) := by
  induction mro with
  | nil => simp [lookupType]
  | cons c rest ih =>
    rw [List.flatMap_cons, List.mem_append, ← ih, ← find?_isSome_iff, lookupType]
    cases find? n c.members <;> simp

theorem find?_mem {α : Type} {n : Name} {l : List (Name × α)} {v : α} (h : find? n l = some v) : (n, v) ∈ l := by
  induction l with
  | nil => cases h
  | cons x rest ih =>
    unfold find? at h
    split at h
    · next hk => cases h; cases hk; exact .head _
    · exact .tail _ (ih h)

theorem lookupType_mem {n : Name} {mro : List Class} {m : Member}
    (h : lookupType n mro = some m) : ∃ c ∈ mro, (n, m) ∈ c.members := by
  induction mro with
  | nil => cases h
  | cons c rest ih =>
    unfold lookupType at h
    split at h
    · next hf => cases h; exact ⟨c, .head _, find?_mem hf⟩
    · obtain ⟨c, hc, hm⟩ := ih h
      exact ⟨c, .tail _ hc, hm⟩

/-! ### advertised metadata -/

theorem mem_dedup (n : Name) (l : List Name) : n ∈ dedup l ↔ n ∈ l := by
  induction l with
  | nil => rfl
  | cons x rest ih =>
    unfold dedup
    split
    · next hc =>
      rw [ih]
      refine ⟨.tail _, fun h => ?_⟩
      cases h with
      | head => simpa using hc
      | tail _ h => exact h
    · rw [List.mem_cons, List.mem_cons, ih]

theorem mem_typeNames (n : Name) (mro : List Class) :
    n ∈ typeNames mro ↔ (lookupType n mro).isSome = true := by
  unfold typeNames
  rw [mem_dedup, lookupType_isSome_iff]

/-- the three advertised lists are the public names of the type, filtered by a test on what the type binds them to -/
theorem mem_names_filter (sh : Shape) (n : Name) (p : Option Member → Bool) (hp : p none = false) :
    n ∈ ((typeNames sh.mro).filter fun n => !isPrivate n).filter (fun n => p (lookupType n sh.mro)) ↔
      isPrivate n = false ∧ p (lookupType n sh.mro) = true := by
  simp only [List.mem_filter, mem_typeNames, Bool.not_eq_eq_eq_not, Bool.not_true]
  refine ⟨fun h => ⟨h.1.2, h.2⟩, fun h => ⟨⟨?_, h.1⟩, h.2⟩⟩
  cases hl : lookupType n sh.mro with
  | none => rw [hl, hp] at h; cases h.2
  | some m => rfl

theorem mem_methods (sh : Shape) (n : Name) :
    n ∈ (metadata sh).methods ↔ isPrivate n = false ∧ isMethodMember (lookupType n sh.mro) = true :=
  mem_names_filter sh n isMethodMember rfl

theorem mem_attrs (sh : Shape) (n : Name) :
    n ∈ (metadata sh).attrs ↔ isPrivate n = false ∧ isAttrMember (lookupType n sh.mro) = true :=
  mem_names_filter sh n isAttrMember rfl

theorem mem_oneway (sh : Shape) (n : Name) :
    n ∈ (metadata sh).oneway ↔ isPrivate n = false ∧ isOnewayMember (lookupType n sh.mro) = true :=
  mem_names_filter sh n isOnewayMember rfl

theorem oneway_is_method (om : Option Member) (h : isOnewayMember om = true) : isMethodMember om = true := by
  cases om with
  | none => simp [isOnewayMember] at h
  | some m =>
    cases m <;> simp_all [isOnewayMember, isMethodMember]

/-! ### refusals that hold without `NoExposedHelperAttr` -/

theorem dispatch_snd (cfg : Cfg) (sh : Shape) (r : Req) : (dispatch cfg sh r).2 = (dispatchBody cfg sh r).2 := rfl

theorem dispatch_refused_of_error {cfg : Cfg} {sh : Shape} {r : Req} {e : Err}
    (h : (dispatchBody cfg sh r).1 = .error e) : Refused r (dispatch cfg sh r).1 := by
  unfold dispatch Refused
  generalize dispatchBody cfg sh r = p at h
  obtain ⟨a, b⟩ := p
  simp only at h
  subst h
  cases r.oneway <;> simp

/-- if all three gates refuse every name satisfying `P` without running anything, every non-batch request
    whose names satisfy `P` is refused without effect -/
theorem single_refused {cfg : Cfg} {sh : Shape} (P : ReqName → Prop)
    (hP : ∀ rn, P rn → (∃ e, getAttribute cfg sh rn = (.error e, [])) ∧
      (∃ e, getProp cfg sh rn = (.error e, [])) ∧ (∃ e, setProp cfg sh rn = (.error e, [])))
    (r : Req) (hb : r.batch = false) (hn : ∀ rn ∈ reqNames r, P rn) :
    Refused r (dispatch cfg sh r).1 ∧ (dispatch cfg sh r).2 = [] := by
  have key : ∃ e, dispatchBody cfg sh r = (.error e, []) := by
    rcases body_cases cfg sh r hb with h | ⟨rn, hrn, h | h | h⟩ <;> rw [h]
    · exact ⟨_, rfl⟩
    · exact (hP rn (hn rn hrn)).2.1
    · exact (hP rn (hn rn hrn)).2.2
    · obtain ⟨e, he⟩ := (hP rn (hn rn hrn)).1
      exact ⟨e, by rw [runCall, he]⟩
  obtain ⟨e, k⟩ := key
  exact ⟨dispatch_refused_of_error (by rw [k]), by rw [dispatch_snd, k]⟩

theorem gates_private {cfg : Cfg} {sh : Shape} (hf : Fixed cfg) {n : Name} (hp : isPrivate n = true) :
    (∃ e, getAttribute cfg sh (.str n) = (.error e, [])) ∧
    (∃ e, getProp cfg sh (.str n) = (.error e, [])) ∧ (∃ e, setProp cfg sh (.str n) = (.error e, [])) := by
  obtain ⟨_, h2, h3⟩ := hf
  exact ⟨⟨.priv, by simp [getAttribute, hp]⟩, ⟨.priv, by simp [getProp, h2, hp]⟩, ⟨.priv, by simp [setProp, h3, hp]⟩⟩

theorem gates_nonstring (cfg : Cfg) (sh : Shape) {rn : ReqName} (h : rn = .hashable ∨ rn = .unhashable) :
    (∃ e, getAttribute cfg sh rn = (.error e, [])) ∧
    (∃ e, getProp cfg sh rn = (.error e, [])) ∧ (∃ e, setProp cfg sh rn = (.error e, [])) := by
  rcases h with rfl | rfl <;> exact ⟨⟨_, rfl⟩, ⟨_, rfl⟩, ⟨_, rfl⟩⟩

theorem gates_unknown (cfg : Cfg) {sh : Shape} {n : Name}
    (hl : lookupType n sh.mro = none) (hi : find? n sh.inst = none) :
    (∃ e, getAttribute cfg sh (.str n) = (.error e, [])) ∧
    (∃ e, getProp cfg sh (.str n) = (.error e, [])) ∧ (∃ e, setProp cfg sh (.str n) = (.error e, [])) := by
  refine ⟨?_, ?_, ?_⟩
  · simp only [getAttribute, hl, isDataDesc, Bool.and_false, Bool.false_eq_true, if_false, getattrInst, hi]
    cases isPrivate n <;> simp
  · simp only [getProp, hl]
    cases (cfg.getPriv && isPrivate n) <;> simp
  · simp only [setProp, hl]
    cases (cfg.setPriv && isPrivate n) <;> simp

theorem lookups_none_of_no_key {sh : Shape} {n : Name} (c : Nat) (hc : c ∈ n)
    (hk : ∀ cl ∈ sh.mro, ∀ km ∈ cl.members, c ∉ km.1) (hi : ∀ kv ∈ sh.inst, c ∉ kv.1) :
    lookupType n sh.mro = none ∧ find? n sh.inst = none := by
  constructor
  · cases hl : lookupType n sh.mro with
    | none => rfl
    | some m =>
      obtain ⟨cl, hcl, hm⟩ := lookupType_mem hl
      exact absurd hc (hk cl hcl _ hm)
  · cases hl : find? n sh.inst with
    | none => rfl
    | some v => exact absurd hc (hi _ (find?_mem hl))

/-! ### a checker for `NoExposedHelperAttr` (used by the non-vacuity examples and the witnesses) -/

def allValsUnmarked (sh : Shape) : Bool :=
  sh.inst.all (fun kv => !valMarked kv.2) &&
  sh.mro.all (fun c => c.members.all (fun km => match km.2 with
    | .attr v => !valMarked v
    | _ => true))

theorem noExposedHelperAttr_of_check {sh : Shape} (h : allValsUnmarked sh = true) : NoExposedHelperAttr sh := by
  simp only [allValsUnmarked, Bool.and_eq_true, List.all_eq_true] at h
  obtain ⟨h1, h2⟩ := h
  constructor
  · intro n v hf
    simpa using h1 _ (find?_mem hf)
  · intro n v hl
    obtain ⟨c, hc, hm⟩ := lookupType_mem hl
    simpa using h2 c hc _ hm

end Pyro.Expose
