/-
  Lemmas about `PyroModel.Call` (property C03).

  One case analysis of `invokeOn real` (`invokeOn_cases`) stands behind the facts, the invariant and the own-reply
  lemma of one `_pyroInvoke`; `Spec` carries these through `invoke`, the retry loop and `call`, and `call_spec` is what
  the property theorems use.  Then calls over a healthy transport, the 2^16 alias, and execution counts.
-/
import PyroModel.Call

namespace Pyro.Call

/-! ### invariants and the hypotheses on scripts -/

/-- A RESULT message produced by the server and not altered: its wire sequence number is the number of
    the INVOKE send that produced it, modulo 2^16. -/
def MsgOK (sends : Nat) (m : Msg) : Prop :=
  m.hs = false → m.seq = m.born % seqMod ∧ m.born ≤ sends

def HistInv (W : World) : Prop :=
  W.seq = W.sends % seqMod ∧
  ∀ a m, W.hist[a]? = some (some m) → m.hs = false ∧ m.seq = m.born % seqMod ∧ m.born + a = W.sends

def QOK (sends : Nat) (c : Conn) : Prop := ∀ m ∈ c.queue, MsgOK sends m

/-- every unread RESULT message is less than 2^16 INVOKE sends old when the next reply is read -/
def QYoung (sends : Nat) (c : Conn) : Prop :=
  ∀ m ∈ c.queue, m.hs = false → sends + 1 < m.born + seqMod

def Inv (W : World) : Prop := HistInv W ∧ ∀ c, W.pc = .live c → QOK W.sends c

/-- every replayed reply is less than 2^16 INVOKE sends old -/
def ScriptYoung (s : List Ev) : Prop := ∀ a, Ev.stale a ∈ s → a + 1 < seqMod

def Young (W : World) (s : List Ev) : Prop :=
  ScriptYoung s ∧ ∀ c, W.pc = .live c → QYoung W.sends c

def PConn.isLive : PConn → Bool
  | .live _ => true
  | _ => false

theorem inv_init (seq0 : Nat) : Inv (init seq0) := by
  refine ⟨⟨rfl, ?_⟩, ?_⟩
  · intro a m h; simp [init] at h
  · intro c h; simp [init] at h

theorem scriptYoung_tail {ev : Ev} {s : List Ev} (h : ScriptYoung (ev :: s)) : ScriptYoung s :=
  fun a ha => h a (List.mem_cons_of_mem _ ha)

theorem scriptYoung_suffix {pre s : List Ev} (h : ScriptYoung (pre ++ s)) : ScriptYoung s :=
  fun a ha => h a (List.mem_append_right _ ha)

/-! ### what the transport hands over -/

theorem mem_staleOf {hist : List (Option Msg)} {a : Nat} {m : Msg} :
    m ∈ staleOf hist a ↔ hist[a]? = some (some m) := by
  unfold staleOf
  split
  · rename_i m' h; simp [h]; exact eq_comm
  · rename_i h
    constructor
    · intro hm; simp at hm
    · intro h'; exact absurd h' (by intro h''; exact h _ h'')

theorem staleOf_cases (hist : List (Option Msg)) (a : Nat) :
    staleOf hist a = [] ∨ ∃ m, staleOf hist a = [m] ∧ hist[a]? = some (some m) := by
  unfold staleOf
  split
  · rename_i m h; exact Or.inr ⟨m, rfl, h⟩
  · exact Or.inl rfl

/-- a read that finds nothing raises: with a reply on its way the transport never just blocks -/
theorem deliver_pend {ev : Ev} {hist : List (Option Msg)} {hsm r : Msg} {l : List Msg}
    (h : (deliver ev hist hsm (r :: l)).now = []) : ∃ e, pendOutcome (deliver ev hist hsm (r :: l)).pend = .failed e := by
  cases ev with
  | lost | late | cut | resetBefore | resetAfter | intr => exact ⟨_, rfl⟩
  | _ => simp [deliver] at h

theorem deliver_hs {ev : Ev} {hist : List (Option Msg)} {hsm m : Msg} {rest : List Msg} (hh : hsm.hs = true)
    (h : (deliver ev hist hsm [hsm]).now = m :: rest) :
    (deliver ev hist hsm [hsm]).dead = false ∧ ∀ x ∈ rest ++ (deliver ev hist hsm [hsm]).later, x.hs = true := by
  cases ev with
  | stale a =>
    simp only [deliver] at h ⊢
    rcases staleOf_cases hist a with h' | ⟨m', h', _⟩ <;> rw [h'] at h <;> cases h <;> simp [hh]
  | ok | staleHs | dup =>
    cases h
    simp [deliver, hh]
  | seqAlt d =>
    cases h
    simp [deliver]
  | _ => cases h

/-! ### one connection attempt -/

structure ConnFacts (W : World) (s : List Ev) (r : ConnRes) (W' : World) (s' : List Ev) : Prop where
  log : W'.log = W.log
  hist : W'.hist = W.hist
  seq : W'.seq = W.seq
  sends : W'.sends = W.sends
  reads : W'.reads = W.reads
  suffix : ∃ pre, s = pre ++ s'
  err : ∀ o, r = .err o → W'.pc = W.pc ∧ o ≠ .stuck ∧ o ≠ .none_ ∧ ∀ k t, o ≠ .returned k t
  ok : ∀ c, r = .ok c → W'.pc = .live c ∧ c.dead = false ∧ ∀ m ∈ c.queue, m.hs = true

theorem connect_facts (W : World) (s : List Ev) :
    ConnFacts W s (connect W s).1 (connect W s).2.1 (connect W s).2.2 := by
  unfold connect
  cases s with
  | nil => exact ⟨rfl, rfl, rfl, rfl, rfl, ⟨[], rfl⟩, by intro o h; cases h; simp, fun _ h => nomatch h⟩
  | cons ev s' =>
    have failed : ∀ e, ConnFacts W (ev :: s') (.err (.failed e)) { W with connects := W.connects + 1 } s' :=
      fun e => ⟨rfl, rfl, rfl, rfl, rfl, ⟨[ev], rfl⟩, by intro o h; cases h; simp, fun _ h => nomatch h⟩
    simp only []
    cases hr : ev.reachesServer
    · exact failed _
    · simp only [Bool.not_true, Bool.false_eq_true, if_false]
      have pend := @deliver_pend ev W.hist (hsMsg W.seq) (hsMsg W.seq) []
      have hs := @deliver_hs ev W.hist (hsMsg W.seq)
      generalize deliver ev W.hist (hsMsg W.seq) [hsMsg W.seq] = d at pend hs
      cases hn : d.now with
      | nil =>
        obtain ⟨e, he⟩ := pend hn
        simp only [he]
        exact failed e
      | cons m rest =>
        simp only []
        cases hm : m.hs
        · exact failed _
        · exact ⟨rfl, rfl, rfl, rfl, rfl, ⟨[ev], rfl⟩, (fun _ h => nomatch h), by intro c h; cases h; exact ⟨rfl, hs rfl hn⟩⟩

/-! ### one `_pyroInvoke` on an existing connection -/

/-- the world after the next INVOKE send; `x` is the reply the server produced for it, if any -/
def World.sent (W : World) (x : Option Msg) (log : List Nat) (pc : PConn) (reads : Nat := W.reads) : World :=
  { W with seq := (W.seq + 1) % seqMod, sends := W.sends + 1, hist := x :: W.hist, log := log, pc := pc, reads := reads }

/-- the reply the server produces for the next INVOKE send -/
def reply (k : Kind) (tok : Nat) (W : World) : Msg := ⟨false, (W.seq + 1) % seqMod, k, tok, W.sends + 1⟩

theorem invokeOn_cases {k : Kind} {tok : Nat} {W : World} {c : Conn} {s : List Ev} {P : Outcome × World × List Ev → Prop}
    (dead : c.dead = true → P (.failed .connClosed, W.sent none W.log .idle, s))
    (scriptEnd : c.dead = false → s = [] → P (.scriptEnd, W, []))
    (unsent : ∀ ev s', c.dead = false → s = ev :: s' → ev.reachesServer = false →
      P (.failed .connClosed, W.sent none W.log .idle, s'))
    (oneway : ∀ ev s', c.dead = false → s = ev :: s' → ev.reachesServer = true → k.isOneway = true →
      let d := deliver ev W.hist (hsMsg W.seq) []
      P (.none_, W.sent none (logAfter k tok W.log) (.live ⟨c.queue ++ d.now ++ d.later, d.dead⟩), s'))
    (accepted : ∀ ev s' m rest, c.dead = false → s = ev :: s' → ev.reachesServer = true → k.isOneway = false →
      let d := deliver ev W.hist (hsMsg W.seq) [reply k tok W]
      c.queue ++ d.now = m :: rest → m.hs = false → m.seq = (W.seq + 1) % seqMod →
      P (.returned m.kind m.tok,
         W.sent (some (reply k tok W)) (logAfter k tok W.log) (.live ⟨rest ++ d.later, d.dead⟩) (W.reads + 1), s'))
    (rejected : ∀ ev s' m rest, c.dead = false → s = ev :: s' → ev.reachesServer = true → k.isOneway = false →
      c.queue ++ (deliver ev W.hist (hsMsg W.seq) [reply k tok W]).now = m :: rest → (m.hs = true ∨ m.seq ≠ (W.seq + 1) % seqMod) →
      P (.failed .protocol, W.sent (some (reply k tok W)) (logAfter k tok W.log) .idle (W.reads + 1), s'))
    (raised : ∀ ev s' e, c.dead = false → s = ev :: s' → ev.reachesServer = true → k.isOneway = false →
      c.queue ++ (deliver ev W.hist (hsMsg W.seq) [reply k tok W]).now = [] →
      pendOutcome (deliver ev W.hist (hsMsg W.seq) [reply k tok W]).pend = .failed e →
      P (.failed e, W.sent (some (reply k tok W)) (logAfter k tok W.log) .idle, s')) :
    P (invokeOn real k tok W c s) := by
  unfold invokeOn
  cases hd : c.dead
  case true => exact dead hd
  cases s with
  | nil => exact scriptEnd hd rfl
  | cons ev s' =>
    have acc := fun m rest => accepted ev s' m rest hd rfl
    have rej := fun m rest => rejected ev s' m rest hd rfl
    have rai := fun e => raised ev s' e hd rfl
    have pend := @deliver_pend ev W.hist (hsMsg W.seq) (reply k tok W) []
    simp only [reply] at acc rej rai pend
    simp only [Bool.false_eq_true, if_false, real, failWith]
    cases hr : ev.reachesServer
    case false => exact unsent ev s' hd rfl hr
    cases hk : k.isOneway
    case true => exact oneway ev s' hd rfl hr hk
    simp only [Bool.false_eq_true, if_false, Bool.not_true, List.head?]
    generalize deliver ev W.hist (hsMsg W.seq) _ = d at acc rej rai pend ⊢
    cases hq : c.queue ++ d.now with
    | nil =>
      obtain ⟨e, he⟩ := pend (List.append_eq_nil_iff.mp hq).2
      cases hp : d.pend <;> rw [hp] at he
      case block => cases he
      all_goals exact rai _ hr hk hq (by rw [hp]; rfl)
    | cons m rest =>
      simp only [Bool.true_and, bne_iff_ne, ne_eq, ite_not]
      cases hm : m.hs
      · by_cases hs : m.seq = (W.seq + 1) % seqMod
        · simp only [Bool.false_eq_true, if_false, hs, if_true]; exact acc m rest hr hk hq hm hs
        · simp only [Bool.false_eq_true, if_false, hs]; exact rej m rest hr hk hq (.inr hs)
      · exact rej m rest hr hk hq (.inl hm)

/-- what one `_pyroInvoke` of kind `k` with token `tok` does to the world, by outcome; `InvFacts.of` is the way in -/
structure InvFacts (k : Kind) (tok : Nat) (W : World) (s : List Ev) (o : Outcome) (W' : World) (s' : List Ev) : Prop where
  logGrow : W'.log = W.log ∨ W'.log = logAfter k tok W.log
  logNone : o = .none_ → W'.log = logAfter k tok W.log
  logRet : ∀ k' t', o = .returned k' t' → W'.log = logAfter k tok W.log
  logOnewayFail : k.isOneway = true → ∀ e, o = .failed e → W'.log = W.log
  released : ∀ e, o = .failed e → W'.pc.isLive = false
  suffix : ∃ pre, s = pre ++ s'
  notStuck : o ≠ .stuck
  reads : k.isOneway = true → W'.reads = W.reads
  onewayOut : k.isOneway = true → ∀ k' t', o ≠ .returned k' t'
  twowayOut : k.isOneway = false → o ≠ .none_

/-- How `InvFacts` is established, and the way to read its fields: whether the request reached the server (`sent`)
    fixes the log; the `match` says which outcomes go with which kind of call. -/
theorem InvFacts.of {k : Kind} {tok : Nat} {W W' : World} {s s' : List Ev} {o : Outcome} (sent : Bool)
    (hs : ∃ pre, s = pre ++ s') (hlog : W'.log = if sent then logAfter k tok W.log else W.log)
    (hpc : ∀ e, o = .failed e → W'.pc.isLive = false) (hr : k.isOneway = true → W'.reads = W.reads)
    (ho : match o with
      | .none_ => sent = true ∧ k.isOneway = true
      | .returned _ _ => sent = true ∧ k.isOneway = false
      | .failed _ => k.isOneway = true → sent = false
      | .scriptEnd => True
      | .stuck => False) : InvFacts k tok W s o W' s' := by
  have hnone : o = .none_ → sent = true ∧ k.isOneway = true := fun h => by subst h; exact ho
  have hret : ∀ k' t', o = .returned k' t' → sent = true ∧ k.isOneway = false := fun _ _ h => by subst h; exact ho
  exact {
    logGrow := by cases sent; exact .inl hlog; exact .inr hlog
    logNone := fun h => by rw [hlog, (hnone h).1]; rfl
    logRet := fun k' t' h => by rw [hlog, (hret k' t' h).1]; rfl
    logOnewayFail := fun hk e h => by subst h; rw [hlog, ho hk]; rfl
    released := hpc
    suffix := hs
    notStuck := fun h => by subst h; exact ho
    reads := hr
    onewayOut := fun hk k' t' h => by have := (hret k' t' h).2; rw [hk] at this; cases this
    twowayOut := fun hk h => by have := (hnone h).2; rw [hk] at this; cases this }

theorem invokeOn_facts (k : Kind) (tok : Nat) (W : World) (c : Conn) (s : List Ev) :
    InvFacts k tok W s (invokeOn real k tok W c s).1 (invokeOn real k tok W c s).2.1 (invokeOn real k tok W c s).2.2 := by
  have unsent : ∀ (s' : List Ev), (∃ pre, s = pre ++ s') →
      InvFacts k tok W s (.failed .connClosed) (W.sent none W.log .idle) s' :=
    fun _ hs => .of false hs rfl (fun _ _ => rfl) (fun _ => rfl) (fun _ => rfl)
  have failed : ∀ (e : Err) (reads : Nat) (s' : List Ev), k.isOneway = false → (∃ pre, s = pre ++ s') →
      InvFacts k tok W s (.failed e) (W.sent (some (reply k tok W)) (logAfter k tok W.log) .idle reads) s' :=
    fun _ _ _ hk hs => .of true hs rfl (fun _ _ => rfl) (fun h => by simp [hk] at h) (fun h => by simp [hk] at h)
  apply invokeOn_cases (P := fun r => InvFacts k tok W s r.1 r.2.1 r.2.2)
  case dead => exact fun _ => unsent s ⟨[], rfl⟩
  case scriptEnd => exact fun _ hs => .of false ⟨[], hs⟩ rfl (fun _ h => nomatch h) (fun _ => rfl) trivial
  case unsent => exact fun ev s' _ hs _ => unsent s' ⟨[ev], hs⟩
  case oneway => exact fun ev s' _ hs _ hk => .of true ⟨[ev], hs⟩ rfl (fun _ h => nomatch h) (fun _ => rfl) ⟨rfl, hk⟩
  case accepted =>
    exact fun ev s' m rest _ hs _ hk _ _ _ =>
      .of true ⟨[ev], hs⟩ rfl (fun _ h => nomatch h) (fun h => by simp [hk] at h) ⟨rfl, hk⟩
  case rejected => exact fun ev s' m rest _ hs _ hk _ _ => failed _ _ s' hk ⟨[ev], hs⟩
  case raised => exact fun ev s' e _ hs _ hk _ _ => failed e _ s' hk ⟨[ev], hs⟩

theorem invokeOn_seq (k : Kind) (tok : Nat) (W : World) (c : Conn) (s : List Ev)
    (h : (invokeOn real k tok W c s).1 ≠ .scriptEnd) :
    (invokeOn real k tok W c s).2.1.seq = (W.seq + 1) % seqMod := by
  revert h
  apply invokeOn_cases (P := fun r => r.1 ≠ .scriptEnd → r.2.1.seq = (W.seq + 1) % seqMod)
  case scriptEnd => exact fun _ _ h => absurd rfl h
  all_goals intros; rfl

/-! ### invariant preservation and the own-reply lemma for one `_pyroInvoke` -/

def QOKl (sends : Nat) (l : List Msg) : Prop := ∀ m ∈ l, MsgOK sends m

theorem qok_iff {n : Nat} {c : Conn} : QOK n c ↔ QOKl n c.queue := Iff.rfl

theorem qokl_nil (n : Nat) : QOKl n [] := by intro m h; cases h
theorem qokl_append {n : Nat} {a b : List Msg} (ha : QOKl n a) (hb : QOKl n b) : QOKl n (a ++ b) := by
  intro m h; rcases List.mem_append.mp h with h | h
  · exact ha m h
  · exact hb m h
theorem qokl_mono {n n' : Nat} {l : List Msg} (h : QOKl n l) (hn : n ≤ n') : QOKl n' l := by
  intro m hm hh; have := h m hm hh; exact ⟨this.1, Nat.le_trans this.2 hn⟩
theorem qokl_tail {n : Nat} {m : Msg} {l : List Msg} (h : QOKl n (m :: l)) : QOKl n l :=
  fun x hx => h x (List.mem_cons_of_mem _ hx)
theorem qokl_hs {n : Nat} {l : List Msg} (h : ∀ m ∈ l, m.hs = true) : QOKl n l := by
  intro m hm hh; rw [h m hm] at hh; cases hh
theorem qokl_stale {W : World} (hH : HistInv W) (a : Nat) : QOKl (W.sends + 1) (staleOf W.hist a) := by
  intro m hm hh
  have := hH.2 a m (mem_staleOf.mp hm)
  exact ⟨this.2.1, by omega⟩
theorem qokl_single {n : Nat} {m : Msg} (h : MsgOK n m) : QOKl n [m] := by
  intro x hx; cases List.mem_singleton.mp hx; exact h

theorem inv_of {W' : World} (hH : HistInv W') (hq : ∀ c', W'.pc = .live c' → QOKl W'.sends c'.queue) : Inv W' :=
  ⟨hH, fun c h => qok_iff.mpr (hq c h)⟩

theorem Inv.qokl {W : World} {c : Conn} (h : Inv W) (hpc : W.pc = .live c) : QOKl W.sends c.queue :=
  qok_iff.mp (h.2 c hpc)

/-- a RESULT message that is less than 2^16 sends old does not carry the next sequence number -/
theorem seq_ne_of_young {born sends : Nat} (h1 : born ≤ sends) (h2 : sends + 1 < born + seqMod) :
    born % seqMod ≠ (sends + 1) % seqMod := by
  simp only [seqMod] at h2 ⊢; omega

theorem reply_seq {W : World} (hH : HistInv W) (k : Kind) (tok : Nat) : (reply k tok W).seq = (W.sends + 1) % seqMod := by
  show (W.seq + 1) % seqMod = _
  rw [hH.1, Nat.mod_add_mod]

theorem reply_ok {W : World} (hH : HistInv W) (k : Kind) (tok : Nat) : MsgOK (W.sends + 1) (reply k tok W) :=
  fun _ => ⟨reply_seq hH k tok, Nat.le_refl _⟩

theorem inv_sent {W : World} (hH : HistInv W) {x : Option Msg} (hx : x = none ∨ ∃ k tok, x = some (reply k tok W))
    {pc : PConn} (hpc : ∀ c, pc = .live c → QOKl (W.sends + 1) c.queue) (log : List Nat) (reads : Nat) :
    Inv (W.sent x log pc reads) := by
  refine inv_of ⟨?_, ?_⟩ hpc
  · show (W.seq + 1) % seqMod = (W.sends + 1) % seqMod
    rw [hH.1, Nat.mod_add_mod]
  · intro a m h
    change (x :: W.hist)[a]? = _ at h
    show _ ∧ _ ∧ m.born + a = W.sends + 1
    cases a with
    | zero =>
      rcases hx with rfl | ⟨k, tok, rfl⟩ <;> cases h
      exact ⟨rfl, reply_seq hH k tok, rfl⟩
    | succ a =>
      have := hH.2 a m (by simpa using h)
      exact ⟨this.1, this.2.1, by omega⟩

/-- whatever the transport hands over is in order, unless it altered the reply -/
theorem deliver_ok {W : World} (hH : HistInv W) {ev : Ev} {q : Nat} {l : List Msg} (hl : QOKl (W.sends + 1) l)
    (hev : l = [] ∨ ∀ d, ev ≠ .seqAlt d) :
    QOKl (W.sends + 1) ((deliver ev W.hist (hsMsg q) l).now ++ (deliver ev W.hist (hsMsg q) l).later) := by
  have hsm : QOKl (W.sends + 1) [hsMsg q] := qokl_hs (by simp [hsMsg])
  cases ev
  case stale a => exact qokl_append (qokl_append (qokl_stale hH a) hl) (qokl_nil _)
  case staleHs => exact qokl_append (qokl_append hsm hl) (qokl_nil _)
  case dup => exact qokl_append (qokl_append hl hl) (qokl_nil _)
  case seqAlt d =>
    rcases hev with rfl | h
    · exact qokl_nil _
    · exact absurd rfl (h d)
  case ok => exact qokl_append hl (qokl_nil _)
  case late | intr => exact qokl_append (qokl_nil _) hl
  all_goals exact qokl_nil _

/-- A RESULT message carrying the next sequence number at the head of what the transport hands over at once is the
    reply to this very request, unaltered: a replayed reply is less than 2^16 sends old, an altered one carries another
    number.  (`invokeOn_inv` uses it when nothing was unread before.) -/
theorem deliver_own {W : World} (hH : HistInv W) {ev : Ev} (hS : ∀ a, ev = .stale a → a + 1 < seqMod) {q : Nat}
    {r m : Msg} {rest : List Msg} (hr : r.seq = (W.sends + 1) % seqMod)
    (h : (deliver ev W.hist (hsMsg q) [r]).now = m :: rest) (hm : m.hs = false) (hs : m.seq = (W.sends + 1) % seqMod) :
    m = r ∧ ∀ d, ev ≠ .seqAlt d := by
  cases ev with
  | stale a =>
    simp only [deliver] at h
    rcases staleOf_cases W.hist a with h' | ⟨m', h', hm'⟩ <;> rw [h'] at h <;> cases h
    · exact ⟨rfl, fun _ h => nomatch h⟩
    · have := hH.2 a m hm'
      exact absurd (this.2.1 ▸ hs) (seq_ne_of_young (by omega) (by have := hS a rfl; omega))
  | staleHs =>
    cases h
    cases hm
  | seqAlt d =>
    cases h
    have : ((r.seq + 1 + d % 65535) % seqMod) = r.seq := hs.trans hr.symm
    simp only [seqMod] at this hr
    omega
  | ok | dup =>
    cases h
    exact ⟨rfl, fun _ h => nomatch h⟩
  | _ => cases h

/-- one `_pyroInvoke` keeps the invariant, and what it returns is the reply to its own request -/
theorem invokeOn_inv (k : Kind) (tok : Nat) (W : World) (c : Conn) (s : List Ev)
    (hI : Inv W) (hQ : QOKl W.sends c.queue) (hY : QYoung W.sends c) (hS : ScriptYoung s) :
    Inv (invokeOn real k tok W c s).2.1 ∧
    ∀ k' t', (invokeOn real k tok W c s).1 = .returned k' t' → k' = k ∧ t' = tok := by
  have hH := hI.1
  have hQ1 : QOKl (W.sends + 1) c.queue := qokl_mono hQ (Nat.le_succ _)
  have idle : ∀ c, PConn.idle = .live c → QOKl (W.sends + 1) c.queue := fun _ h => nomatch h
  apply invokeOn_cases (P := fun r => Inv r.2.1 ∧ ∀ k' t', r.1 = .returned k' t' → k' = k ∧ t' = tok)
  case dead => exact fun _ => ⟨inv_sent hH (.inl rfl) idle _ _, fun _ _ h => nomatch h⟩
  case scriptEnd => exact fun _ _ => ⟨hI, fun _ _ h => nomatch h⟩
  case unsent => exact fun _ _ _ _ _ => ⟨inv_sent hH (.inl rfl) idle _ _, fun _ _ h => nomatch h⟩
  case oneway =>
    intro ev s' _ _ _ _
    refine ⟨inv_sent hH (.inl rfl) ?_ _ _, fun _ _ h => nomatch h⟩
    intro c' h; cases h
    rw [List.append_assoc]
    exact qokl_append hQ1 (deliver_ok hH (qokl_nil _) (.inl rfl))
  case rejected => exact fun _ _ _ _ _ _ _ _ _ _ => ⟨inv_sent hH (.inr ⟨k, tok, rfl⟩) idle _ _, fun _ _ h => nomatch h⟩
  case raised => exact fun _ _ _ _ _ _ _ _ _ => ⟨inv_sent hH (.inr ⟨k, tok, rfl⟩) idle _ _, fun _ _ h => nomatch h⟩
  case accepted =>
    intro ev s' m rest _ hs _ _ d hq hm hms
    rw [hH.1, Nat.mod_add_mod] at hms
    cases hc : c.queue with
    | cons m' rest' =>
      -- the head of the unread queue is an earlier reply, too young to carry the next number
      rw [hc] at hq; cases hq
      have h1 := hQ m (by rw [hc]; exact List.mem_cons_self ..) hm
      have h2 := hY m (by rw [hc]; exact List.mem_cons_self ..) hm
      exact absurd (h1.1 ▸ hms) (seq_ne_of_young h1.2 h2)
    | nil =>
      rw [hc, List.nil_append] at hq
      obtain ⟨rfl, hne⟩ := deliver_own hH (fun a ha => hS a (by rw [hs, ha]; exact List.mem_cons_self ..))
        (reply_seq hH k tok) hq hm hms
      refine ⟨inv_sent hH (.inr ⟨k, tok, rfl⟩) ?_ _ _, fun _ _ h => by cases h; exact ⟨rfl, rfl⟩⟩
      intro c' h; cases h
      have := deliver_ok (q := W.seq) hH (qokl_single (reply_ok hH k tok)) (.inr hne)
      rw [hq] at this
      exact qokl_tail this

/-! ### attempts, the retry loop, whole calls -/

theorem suffix_trans {s s1 s2 : List Ev} (h1 : ∃ pre, s = pre ++ s1) (h2 : ∃ pre, s1 = pre ++ s2) : ∃ pre, s = pre ++ s2 := by
  obtain ⟨p1, rfl⟩ := h1
  obtain ⟨p2, rfl⟩ := h2
  exact ⟨p1 ++ p2, (List.append_assoc ..).symm⟩

theorem InvFacts.transport {k : Kind} {tok : Nat} {W W1 W' : World} {s s1 s' : List Ev} {o : Outcome}
    (h : InvFacts k tok W1 s1 o W' s') (hl : W1.log = W.log) (hr : W1.reads = W.reads) (hs : ∃ pre, s = pre ++ s1) :
    InvFacts k tok W s o W' s' where
  logGrow := hl ▸ h.logGrow
  logNone := hl ▸ h.logNone
  logRet := hl ▸ h.logRet
  logOnewayFail := hl ▸ h.logOnewayFail
  released := h.released
  suffix := suffix_trans hs h.suffix
  notStuck := h.notStuck
  reads := fun hk => (h.reads hk).trans hr
  onewayOut := h.onewayOut
  twowayOut := h.twowayOut

theorem invoke_of_not_live (cfg : Cfg) (k : Kind) (tok : Nat) {W : World} (h : W.pc.isLive = false) (s : List Ev) :
    invoke cfg k tok W s =
      match connect W s with
      | (.err o, W', s') => (o, W', s')
      | (.ok c, W', s') => invokeOn cfg k tok W' c s' := by
  unfold invoke
  cases hpc : W.pc with
  | live c =>
    rw [hpc] at h
    cases h
  | _ => rfl

theorem not_live_young {W : World} {s : List Ev} (h : W.pc.isLive = false) (hs : ScriptYoung s) : Young W s :=
  ⟨hs, fun c hc => by rw [hc] at h; cases h⟩

theorem ConnFacts.inv {W W1 : World} {s s1 : List Ev} {r : ConnRes} (hc : ConnFacts W s r W1 s1) (hI : Inv W) (hY : Young W s)
    (hpc : W.pc.isLive = false) : Inv W1 ∧ Young W1 s1 := by
  have hH1 : HistInv W1 := by
    refine ⟨by rw [hc.seq, hc.sends]; exact hI.1.1, ?_⟩
    rw [hc.hist, hc.sends]; exact hI.1.2
  obtain ⟨pre, hpre⟩ := hc.suffix
  have hS1 : ScriptYoung s1 := scriptYoung_suffix (hpre ▸ hY.1)
  cases r with
  | err o =>
    have hl : W1.pc.isLive = false := by rw [(hc.err o rfl).1]; exact hpc
    exact ⟨⟨hH1, fun c h => by rw [h] at hl; cases hl⟩, not_live_young hl hS1⟩
  | ok c =>
    obtain ⟨hl, _, hq⟩ := hc.ok c rfl
    refine ⟨inv_of hH1 fun c' h => ?_, hS1, fun c' h m hm hh => ?_⟩ <;> cases hl.symm.trans h
    · exact qokl_hs hq
    · rw [hq m hm] at hh; cases hh

theorem logAfter_exec {k : Kind} (tok : Nat) (log : List Nat) (h : k.executes = true) : logAfter k tok log = tok :: log := by
  simp [logAfter, h]

theorem logAfter_noexec {k : Kind} (tok : Nat) (log : List Nat) (h : k.executes = false) : logAfter k tok log = log := by
  simp [logAfter, h]

/-- facts about a whole call (`bound` = number of attempts allowed) -/
structure CallFacts (bound : Nat) (k : Kind) (tok : Nat) (W : World) (s : List Ev) (o : Outcome) (W' : World) (s' : List Ev) : Prop where
  log : ∃ m, m ≤ bound ∧ W'.log = List.replicate m tok ++ W.log ∧
        (k.executes = true → o = .none_ → 1 ≤ m) ∧ (k.executes = true → ∀ k' t', o = .returned k' t' → 1 ≤ m) ∧
        (k.isOneway = true → m ≤ 1 ∧ ∀ e, o = .failed e → m = 0) ∧ (k.executes = false → m = 0)
  released : ∀ e, o = .failed e → W'.pc.isLive = false
  suffix : ∃ pre, s = pre ++ s'
  notStuck : o ≠ .stuck
  reads : k.isOneway = true → W'.reads = W.reads
  onewayOut : k.isOneway = true → ∀ k' t', o ≠ .returned k' t'
  twowayOut : k.isOneway = false → o ≠ .none_

/-- one attempt, counted: the log grows by m ≤ 1 copies of the token -/
theorem InvFacts.toCall {k : Kind} {tok : Nat} {W W' : World} {s s' : List Ev} {o : Outcome}
    (h : InvFacts k tok W s o W' s') (b : Nat) : CallFacts (b + 1) k tok W s o W' s' := by
  refine ⟨?_, h.released, h.suffix, h.notStuck, h.reads, h.onewayOut, h.twowayOut⟩
  by_cases he : k.executes = true
  · rcases h.logGrow with hl | hl
    · refine ⟨0, Nat.zero_le _, hl, ?_, ?_, fun _ => ⟨Nat.zero_le _, fun _ _ => rfl⟩, fun h' => by simp [he] at h'⟩
      · intro _ ho; have := h.logNone ho; rw [hl, logAfter_exec _ _ he] at this; exact absurd this (by simp)
      · intro _ k' t' ho; have := h.logRet k' t' ho; rw [hl, logAfter_exec _ _ he] at this; exact absurd this (by simp)
    · rw [logAfter_exec _ _ he] at hl
      refine ⟨1, Nat.le_add_left .., hl, fun _ _ => Nat.le_refl _, fun _ _ _ _ => Nat.le_refl _, fun hk => ⟨Nat.le_refl _, ?_⟩,
        fun h' => by simp [he] at h'⟩
      intro e ho; have := h.logOnewayFail hk e ho; rw [hl] at this; exact absurd this (by simp)
  · have he' : k.executes = false := by simpa using he
    have hl : W'.log = W.log := by
      rcases h.logGrow with hl | hl
      · exact hl
      · rw [hl, logAfter_noexec _ _ he']
    exact ⟨0, Nat.zero_le _, hl, fun h' => absurd h' he, fun h' => absurd h' he, fun _ => ⟨Nat.zero_le _, fun _ _ => rfl⟩, fun _ => rfl⟩

/-- the call came back to its caller with a value (or, oneway, with None) -/
def Outcome.done : Outcome → Bool
  | .returned _ _ => true
  | .none_ => true
  | _ => false

/-- number of attempts a call of this kind may make -/
def attempts (retries : Nat) (k : Kind) : Nat := if k.retried then retries + 1 else 1

/-- what is shown of the result `r` of a call, or of a part of one, started in `W` on script `s` with `b` attempts allowed;
    `seq` is for a single attempt, since every further attempt increments the sequence number again -/
structure Spec (b : Nat) (k : Kind) (tok : Nat) (W : World) (s : List Ev) (r : Outcome × World × List Ev) : Prop where
  facts : CallFacts b k tok W s r.1 r.2.1 r.2.2
  inv : Inv W → Young W s → Inv r.2.1 ∧ ∀ k' t', r.1 = .returned k' t' → k' = k ∧ t' = tok
  seq : b = 1 → r.1.done = true → r.2.1.seq = (W.seq + 1) % seqMod

theorem invokeOn_spec (b : Nat) (k : Kind) (tok : Nat) {W : World} {c : Conn} (s : List Ev) (hpc : W.pc = .live c) :
    Spec (b + 1) k tok W s (invokeOn real k tok W c s) :=
  ⟨(invokeOn_facts k tok W c s).toCall b, fun hI hY => invokeOn_inv k tok W c s hI (hI.qokl hpc) (hY.2 c hpc) hY.1,
    fun _ h => invokeOn_seq k tok W c s (fun h' => by rw [h'] at h; cases h)⟩

theorem Spec.ofConn {b : Nat} {k : Kind} {tok : Nat} {W : World} {s : List Ev} {x : Conn → World → List Ev → Outcome × World × List Ev}
    (hl : W.pc.isLive = false) (hok : ∀ c W1 s1, W1.pc = .live c → Spec b k tok W1 s1 (x c W1 s1)) :
    Spec b k tok W s (match connect W s with
      | (.err o, W', s') => (o, W', s')
      | (.ok c, W', s') => x c W' s') := by
  have hc := connect_facts W s
  generalize connect W s = res at hc ⊢
  obtain ⟨r, W1, s1⟩ := res
  cases r with
  | err o =>
    obtain ⟨hpc, h1, h2, h3⟩ := hc.err o rfl
    show Spec b k tok W s (o, W1, s1)
    refine ⟨⟨⟨0, Nat.zero_le _, hc.log, fun _ h => absurd h h2, fun _ k' t' h => absurd h (h3 k' t'),
          fun _ => ⟨Nat.zero_le _, fun _ _ => rfl⟩, fun _ => rfl⟩,
        fun _ _ => by rw [hpc]; exact hl, hc.suffix, h1, fun _ => hc.reads, fun _ => h3, fun _ => h2⟩,
      fun hI hY => ⟨(hc.inv hI hY hl).1, fun k' t' h => absurd h (h3 k' t')⟩, fun _ h => ?_⟩
    cases o with
    | none_ => exact absurd rfl h2
    | returned k' t' => exact absurd rfl (h3 k' t')
    | _ => cases h
  | ok c =>
    obtain ⟨f, i, q⟩ := hok c W1 s1 (hc.ok c rfl).1
    show Spec b k tok W s (x c W1 s1)
    obtain ⟨m, hm, hlog, rest⟩ := f.log
    exact ⟨⟨⟨m, hm, by rw [hlog, hc.log], rest⟩, f.released, suffix_trans hc.suffix f.suffix, f.notStuck,
        fun hk => (f.reads hk).trans hc.reads, f.onewayOut, f.twowayOut⟩,
      fun hI hY => have ⟨hI1, hY1⟩ := hc.inv hI hY hl; i hI1 hY1, fun hb h => by rw [q hb h, hc.seq]⟩

theorem invoke_spec (b : Nat) (k : Kind) (tok : Nat) (W : World) (s : List Ev) : Spec (b + 1) k tok W s (invoke real k tok W s) := by
  unfold invoke
  cases hpc : W.pc with
  | live c => exact invokeOn_spec b k tok s hpc
  | fresh | idle => exact .ofConn (by rw [hpc]; rfl) (fun _ _ s1 h => invokeOn_spec b k tok s1 h)

theorem Spec.retry {b : Nat} {k : Kind} {tok : Nat} {W W1 : World} {s s1 : List Ev} {e : Err} {r : Outcome × World × List Ev}
    (h1 : Spec 1 k tok W s (.failed e, W1, s1)) (h2 : Spec (b + 1) k tok W1 s1 r) : Spec (b + 2) k tok W s r := by
  obtain ⟨f1, i1, _⟩ := h1
  obtain ⟨f2, i2, _⟩ := h2
  obtain ⟨p1, e1⟩ := f1.suffix
  refine ⟨⟨?_, f2.released, suffix_trans f1.suffix f2.suffix, f2.notStuck,
    fun hk => (f2.reads hk).trans (f1.reads hk), f2.onewayOut, f2.twowayOut⟩, ?_, fun hb => by omega⟩
  · obtain ⟨m, hm, hlog, hnone, hret, how, hne⟩ := f2.log
    obtain ⟨m1, hm1, hlog1, _, _, how1, hne1⟩ := f1.log
    refine ⟨m + m1, by omega, by rw [hlog, hlog1, ← List.append_assoc, List.replicate_append_replicate],
      fun he ho => by have := hnone he ho; omega, fun he k' t' ho => by have := hret he k' t' ho; omega, fun hk => ?_,
      fun he => by have := hne he; have := hne1 he; omega⟩
    have z := (how1 hk).2 e rfl
    have := how hk
    exact ⟨by omega, fun e' he' => by have := this.2 e' he'; omega⟩
  · intro hI hY
    exact i2 (i1 hI hY).1 (not_live_young (f1.released e rfl) (scriptYoung_suffix (e1 ▸ hY.1)))

theorem retryLoop_spec (k : Kind) (tok : Nat) (n : Nat) : ∀ (W : World) (s : List Ev),
    Spec (n + 1) k tok W s (retryLoop real k tok n W s) := by
  induction n with
  | zero => exact invoke_spec 0 k tok
  | succ n ih =>
    intro W s
    unfold retryLoop
    have h1 := invoke_spec 0 k tok W s
    have h := invoke_spec (n + 1) k tok W s
    generalize invoke real k tok W s = res at h1 h
    obtain ⟨o, W1, s1⟩ := res
    cases o with
    | failed e =>
      simp only
      split
      · exact h1.retry (ih W1 s1)
      · exact h
    | _ => exact h

theorem body_spec (retries : Nat) (k : Kind) (tok : Nat) (W : World) (s : List Ev) :
    Spec (attempts retries k) k tok W s (body real retries k tok W s) := by
  unfold body attempts
  by_cases hk : k.retried = true
  · simp only [hk, if_true]; exact retryLoop_spec k tok retries W s
  · simp only [hk]; exact invoke_spec 0 k tok W s

theorem CallFacts.refused {b : Nat} {k : Kind} {tok : Nat} {W : World} {s : List Ev} (e : Err) (h : W.pc.isLive = false) :
    CallFacts b k tok W s (.failed e) W s where
  log := ⟨0, Nat.zero_le _, rfl, (fun _ h => nomatch h), (fun _ _ _ h => nomatch h), (fun _ => ⟨Nat.zero_le _, fun _ _ => rfl⟩), fun _ => rfl⟩
  released := fun _ _ => h
  suffix := ⟨[], rfl⟩
  notStuck := by simp
  reads := fun _ => rfl
  onewayOut := fun _ _ _ => by simp
  twowayOut := fun _ => by simp

theorem call_spec (retries : Nat) (k : Kind) (tok : Nat) (W : World) (s : List Ev) :
    Spec (attempts retries k) k tok W s (call real retries k tok W s) := by
  have hb := body_spec retries k tok W s
  have refused : ∀ e, W.pc.isLive = false → Spec (attempts retries k) k tok W s (.failed e, W, s) := fun e h =>
    ⟨.refused e h, fun hI _ => ⟨hI, fun _ _ h => nomatch h⟩, fun _ h => by cases h⟩
  unfold call
  cases hpc : W.pc with
  | live c => exact hb
  | idle =>
    simp only
    split
    · exact refused _ (by rw [hpc]; rfl)
    · exact hb
  | fresh =>
    simp only
    split
    · exact refused _ (by rw [hpc]; rfl)
    split
    · exact .ofConn (by rw [hpc]; rfl) (fun _ W1 s1 _ => body_spec retries k tok W1 s1)
    · exact hb

/-! ### healthy transport -/

/-- the reply a healthy transport hands to a call -/
def ownOutcome (k : Kind) (tok : Nat) : Outcome := if k.isOneway then .none_ else .returned k tok

theorem ownOutcome_done (k : Kind) (tok : Nat) : (ownOutcome k tok).done = true := by
  unfold ownOutcome; split <;> rfl

theorem retryLoop_done (cfg : Cfg) (k : Kind) (tok n : Nat) (W : World) (s : List Ev)
    (h : (invoke cfg k tok W s).1.done = true) : retryLoop cfg k tok n W s = invoke cfg k tok W s := by
  cases n with
  | zero => rfl
  | succ n =>
    unfold retryLoop
    generalize invoke cfg k tok W s = r at h
    obtain ⟨o, W', s'⟩ := r
    cases o with
    | failed e => cases h
    | _ => rfl

theorem body_done (cfg : Cfg) (retries : Nat) (k : Kind) (tok : Nat) (W : World) (s : List Ev)
    (h : (invoke cfg k tok W s).1.done = true) : body cfg retries k tok W s = invoke cfg k tok W s := by
  unfold body; split
  · exact retryLoop_done cfg k tok retries W s h
  · rfl

/-- the result of a call that got its own outcome, consumed its events and left a live connection with nothing unread -/
def Healthy (k : Kind) (tok : Nat) (log : List Nat) (s : List Ev) (r : Outcome × World × List Ev) : Prop :=
  r.1 = ownOutcome k tok ∧ r.2.2 = s ∧ r.2.1.log = logAfter k tok log ∧ r.2.1.pc = .live ⟨[], false⟩

theorem invokeOn_healthy (k : Kind) (tok : Nat) (W : World) (s : List Ev) :
    Healthy k tok W.log s (invokeOn real k tok W ⟨[], false⟩ (.ok :: s)) := by
  cases hk : k.isOneway
  all_goals simp [Healthy, invokeOn, deliver, hk, real, ownOutcome, Ev.reachesServer]

theorem connect_healthy (W : World) (s : List Ev) :
    connect W (.ok :: s) = (.ok ⟨[], false⟩, { W with connects := W.connects + 1, pc := .live ⟨[], false⟩ }, s) := rfl

theorem invoke_healthy (k : Kind) (tok : Nat) (W : World) (s : List Ev) :
    (W.pc.isLive = false → Healthy k tok W.log s (invoke real k tok W (.ok :: .ok :: s))) ∧
    (W.pc = .live ⟨[], false⟩ → Healthy k tok W.log s (invoke real k tok W (.ok :: s))) := by
  constructor
  · intro h
    rw [invoke_of_not_live real k tok h, connect_healthy]
    exact invokeOn_healthy k tok _ s
  · intro h
    unfold invoke
    rw [h]
    exact invokeOn_healthy k tok W s

theorem Healthy.body {k : Kind} {tok : Nat} {log : List Nat} {W : World} {s s0 : List Ev}
    (h : Healthy k tok log s (invoke real k tok W s0)) (retries : Nat) : Healthy k tok log s (body real retries k tok W s0) := by
  rw [body_done real retries k tok W s0 (by rw [h.1]; exact ownOutcome_done k tok)]
  exact h

theorem call_healthy (retries : Nat) (k : Kind) (tok : Nat) (W : World) (s : List Ev)
    (hpc : W.pc.isLive = false) (hk : k.precheck = false) :
    Healthy k tok W.log s (call real retries k tok W (.ok :: .ok :: s)) := by
  have hb := ((invoke_healthy k tok W s).1 hpc).body retries
  unfold call
  cases hp : W.pc with
  | live c => rw [hp] at hpc; cases hpc
  | idle => simpa only [hk, Bool.false_eq_true, if_false] using hb
  | fresh =>
    simp only [hk, Bool.false_eq_true, if_false, connect_healthy]
    split
    · exact ((invoke_healthy k tok _ s).2 rfl).body retries
    · exact hb

theorem call_healthy_live (retries : Nat) (k : Kind) (tok : Nat) (W : World) (s : List Ev)
    (hpc : W.pc = .live ⟨[], false⟩) : Healthy k tok W.log s (call real retries k tok W (.ok :: s)) := by
  unfold call
  rw [hpc]
  exact ((invoke_healthy k tok W s).2 hpc).body retries

/-! ### the 2^16 alias: a reply left unread while 65535 oneway calls go by -/

/-- one delivered oneway call on a live, healthy connection -/
def onewayStep (W : World) : World := (call real 0 .oneway 0 W [.ok]).2.1

def onewayN : Nat → World → World
  | 0, W => W
  | n + 1, W => onewayN n (onewayStep W)

theorem onewayStep_live (W : World) (q : List Msg) (h : W.pc = .live ⟨q, false⟩) :
    (onewayStep W).pc = .live ⟨q, false⟩ ∧ (onewayStep W).seq = (W.seq + 1) % seqMod := by
  simp [onewayStep, call, body, retryLoop, invoke, invokeOn, deliver, h, Kind.retried, Kind.isOneway, Ev.reachesServer]

theorem onewayN_live (n : Nat) : ∀ (W : World) (q : List Msg), W.pc = .live ⟨q, false⟩ → W.seq < seqMod →
    (onewayN n W).pc = .live ⟨q, false⟩ ∧ (onewayN n W).seq = (W.seq + n) % seqMod := by
  induction n with
  | zero => intro W q h hs; exact ⟨h, (Nat.mod_eq_of_lt hs).symm⟩
  | succ n ih =>
    intro W q h hs
    have h1 := onewayStep_live W q h
    have h2 := ih (onewayStep W) q h1.1 (by rw [h1.2]; exact Nat.mod_lt _ (by decide))
    refine ⟨h2.1, ?_⟩
    show (onewayN n (onewayStep W)).seq = _
    rw [h2.2, h1.2, Nat.mod_add_mod, Nat.add_assoc, Nat.add_comm 1 n]

/-- a reply at the head of the unread queue whose sequence number equals the next one is accepted, whoever it was for -/
theorem alias_accepted (tok : Nat) (W : World) (m : Msg) (rest : List Msg)
    (h : W.pc = .live ⟨m :: rest, false⟩) (hm : m.hs = false) (hs : m.seq = (W.seq + 1) % seqMod) :
    (call real 0 .normal tok W [.ok]).1 = .returned m.kind m.tok := by
  simp [call, body, retryLoop, invoke, invokeOn, deliver, h, Kind.retried, Kind.isOneway, Ev.reachesServer, real, hm, hs]

/-- a fresh proxy after call 1 whose reply was delivered twice: the duplicate stays unread (known finding
    `seq-alias-65536`) … -/
def dupWorld : World := (call real 0 .normal 1 (init 0) [.ok, .dup]).2.1

theorem dupWorld_facts : dupWorld.pc = .live ⟨[⟨false, 1, .normal, 1, 1⟩], false⟩ ∧ dupWorld.seq = 1 := by decide

/-- … and `n` delivered oneway calls follow; when `1 + n` is a multiple of 2^16 the next call accepts the duplicate -/
theorem alias_after (n : Nat) (hn : (1 + n) % seqMod = 0) :
    (call real 0 .normal 7 (onewayN n dupWorld) [.ok]).1 = .returned .normal 1 := by
  have hl := onewayN_live n dupWorld _ dupWorld_facts.1 (by rw [dupWorld_facts.2]; decide)
  refine alias_accepted 7 (onewayN n dupWorld) ⟨false, 1, .normal, 1, 1⟩ [] hl.1 rfl ?_
  show 1 = ((onewayN n dupWorld).seq + 1) % seqMod
  rw [hl.2, dupWorld_facts.2, hn]; rfl

/-! ### execution counts -/

theorem execs_replicate (tok m : Nat) (W W' : World) (h : W'.log = List.replicate m tok ++ W.log) :
    execs tok W' = execs tok W + m := by
  unfold execs; rw [h, List.count_append, List.count_replicate_self]; omega

theorem execs_other (tok t m : Nat) (W W' : World) (h : W'.log = List.replicate m tok ++ W.log) (ht : t ≠ tok) :
    execs t W' = execs t W := by
  unfold execs; rw [h, List.count_append, List.count_replicate]
  simp [Ne.symm ht]

end Pyro.Call
