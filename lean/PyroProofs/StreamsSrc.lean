/-
  Lemmas for the transcribed stream functions (PyroModel/StreamsSrc.lean, Gen/C10.lean): more association-list facts
  and the loop lemma — a `for k in list(d): …get/set/pop d[k]…` loop over a snapshot of the keys of a table without
  duplicate keys is a per-entry update of the table (`foldl_applyUpd`; for the transcription: `foldl_drop`, `foldl_put`).
-/
import PyroModel.Streams
import PyroModel.StreamsSrc
import PyroProofs.Streams

namespace Pyro.Streams

theorem src_keys_eq (t : Table) : Src.keys t = t.keys := rfl

theorem erase_cons_self (k : Nat) (w : Entry) (r : Table) : Table.erase ((k, w) :: r) k = Table.erase r k := by
  unfold Table.erase
  rw [List.filter_cons, if_neg (fun h => (of_decide_eq_true h : (k, w).1 ≠ k) rfl)]

theorem erase_cons_ne {k' k : Nat} (w : Entry) (r : Table) (h : k' ≠ k) :
    Table.erase ((k', w) :: r) k = (k', w) :: Table.erase r k := by
  unfold Table.erase
  rw [List.filter_cons, if_pos (decide_eq_true h)]

theorem set_cons_self (k : Nat) (w e : Entry) (r : Table) : Table.set ((k, w) :: r) k e = (k, e) :: r := by
  rw [Table.set, if_pos rfl]

theorem set_cons_ne {k' k : Nat} (w e : Entry) (r : Table) (h : k' ≠ k) :
    Table.set ((k', w) :: r) k e = (k', w) :: Table.set r k e := by
  rw [Table.set, if_neg h]

theorem set_set (t : Table) (id : Nat) (a b : Entry) : (t.set id a).set id b = t.set id b := by
  induction t with
  | nil => exact set_cons_self id a b []
  | cons p r ih =>
    obtain ⟨k, w⟩ := p
    by_cases h : k = id
    · subst h; rw [set_cons_self, set_cons_self, set_cons_self]
    · rw [set_cons_ne w a r h, set_cons_ne w b r h, set_cons_ne _ _ _ h, ih]

theorem erase_set (t : Table) (id : Nat) (a : Entry) : (t.set id a).erase id = t.erase id := by
  induction t with
  | nil => exact erase_cons_self id a []
  | cons p r ih =>
    obtain ⟨k, w⟩ := p
    by_cases h : k = id
    · subst h; rw [set_cons_self, erase_cons_self, erase_cons_self]
    · rw [set_cons_ne w a r h, erase_cons_ne _ _ h, erase_cons_ne _ _ h, ih]

theorem erase_of_get_none (t : Table) (id : Nat) (h : t.get id = none) : t.erase id = t :=
  erase_of_not_mem t id ((get_none_iff t id).1 h)

/-- what one round of a loop body does to the entry it looks at -/
inductive Upd where
  | keep
  | drop
  | put (e : Entry)

/-- a loop body: look the key up (`d.get(k)`), do nothing if it is gone, else keep / `pop` / assign -/
def applyUpd (u : Entry → Upd) (tb : Table) (k : Nat) : Table :=
  match Table.get tb k with
  | some e =>
    match u e with
    | .keep => tb
    | .drop => Table.erase tb k
    | .put e' => Table.set tb k e'
  | none => tb

/-- the same update applied to every entry at once -/
def updAll (u : Entry → Upd) (t : Table) : Table :=
  t.filterMap fun p =>
    match u p.2 with
    | .keep => some p
    | .drop => none
    | .put e' => some (p.1, e')

theorem applyUpd_cons_ne (u : Entry → Upd) (p : Nat × Entry) (tb : Table) (k : Nat) (h : p.1 ≠ k) :
    applyUpd u (p :: tb) k = p :: applyUpd u tb k := by
  obtain ⟨k', w⟩ := p
  unfold applyUpd
  rw [get_cons, if_neg h]
  cases Table.get tb k with
  | none => rfl
  | some e =>
    dsimp only
    cases u e with
    | keep => rfl
    | drop => exact erase_cons_ne w tb h
    | put e' => exact set_cons_ne w e' tb h

theorem foldl_applyUpd_cons (u : Entry → Upd) (p : Nat × Entry) (ks : List Nat) (h : p.1 ∉ ks) (tb : Table) :
    List.foldl (applyUpd u) (p :: tb) ks = p :: List.foldl (applyUpd u) tb ks := by
  induction ks generalizing tb with
  | nil => rfl
  | cons k ks ih =>
    rw [List.foldl_cons, List.foldl_cons, applyUpd_cons_ne u p tb k (fun hk => h (hk ▸ List.mem_cons_self))]
    exact ih (fun hm => h (List.mem_cons_of_mem _ hm)) _

/-- **the loop lemma**: running the body over the key snapshot of a duplicate-free table = updating every entry.
    The round for the head key rewrites the head only; the later rounds never look at it again. -/
theorem foldl_applyUpd (u : Entry → Upd) (t : Table) (hnd : t.keys.Nodup) :
    List.foldl (applyUpd u) t (Src.keys t) = updAll u t := by
  induction t with
  | nil => rfl
  | cons p r ih =>
    obtain ⟨k, e⟩ := p
    obtain ⟨hk, hr⟩ := List.nodup_cons.mp hnd
    show List.foldl (applyUpd u) (applyUpd u ((k, e) :: r) k) (Table.keys r) = updAll u ((k, e) :: r)
    unfold applyUpd updAll
    rw [get_cons, if_pos rfl, List.filterMap_cons]
    dsimp only
    cases u e with
    | keep => exact (foldl_applyUpd_cons u (k, e) _ hk r).trans (congrArg _ (ih hr))
    | drop =>
      dsimp only
      rw [erase_cons_self, erase_of_not_mem r k hk]
      exact ih hr
    | put e' =>
      dsimp only
      rw [set_cons_self]
      exact (foldl_applyUpd_cons u (k, e') _ hk r).trans (congrArg _ (ih hr))

theorem updAll_filter (P : Entry → Prop) [DecidablePred P] (t : Table) :
    updAll (fun e => if P e then .drop else .keep) t = t.filter (fun p => !decide (P p.2)) := by
  induction t with
  | nil => rfl
  | cons p r ih =>
    unfold updAll at ih ⊢
    dsimp only at ih ⊢
    rw [List.filterMap_cons, List.filter_cons, ih]
    by_cases h : P p.2
    · rw [if_pos h, decide_eq_true h]; rfl
    · rw [if_neg h, decide_eq_false h]; rfl

theorem updAll_map (P : Entry → Prop) [DecidablePred P] (g : Entry → Entry) (t : Table) :
    updAll (fun e => if P e then .put (g e) else .keep) t = t.map (fun p => (p.1, if P p.2 then g p.2 else p.2)) := by
  induction t with
  | nil => rfl
  | cons p r ih =>
    unfold updAll at ih ⊢
    dsimp only at ih ⊢
    rw [List.filterMap_cons, List.map_cons, ih]
    by_cases h : P p.2
    · rw [if_pos h, if_pos h]
    · rw [if_neg h, if_neg h]

/-- the loop `for k in list(d): e = d.get(k); if e is there and P(e): d.pop(k)` removes the entries with `P` -/
theorem foldl_drop (P : Entry → Prop) [DecidablePred P] (f : Table → Nat → Table)
    (hf : ∀ tb k, f tb k = match Table.get tb k with
      | some e => if P e then Table.erase tb k else tb
      | none => tb)
    (t : Table) (hnd : t.keys.Nodup) : List.foldl f t (Src.keys t) = t.filter fun p => !decide (P p.2) := by
  have : f = applyUpd fun e => if P e then .drop else .keep := by
    funext tb k
    rw [hf]; unfold applyUpd
    cases Table.get tb k with
    | none => rfl
    | some e => dsimp only; split <;> rfl
  rw [this, foldl_applyUpd _ t hnd, updAll_filter]

/-- the loop `for k in list(d): e = d.get(k); if e is there and P(e): d[k] = g(e)` rewrites the entries with `P` -/
theorem foldl_put (P : Entry → Prop) [DecidablePred P] (g : Entry → Entry) (f : Table → Nat → Table)
    (hf : ∀ tb k, f tb k = match Table.get tb k with
      | some e => if P e then Table.set tb k (g e) else tb
      | none => tb)
    (t : Table) (hnd : t.keys.Nodup) :
    List.foldl f t (Src.keys t) = t.map fun p => (p.1, if P p.2 then g p.2 else p.2) := by
  have : f = applyUpd fun e => if P e then .put (g e) else .keep := by
    funext tb k
    rw [hf]; unfold applyUpd
    cases Table.get tb k with
    | none => rfl
    | some e => dsimp only; split <;> rfl
  rw [this, foldl_applyUpd _ t hnd, updAll_map]

end Pyro.Streams
