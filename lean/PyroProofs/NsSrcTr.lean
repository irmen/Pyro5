/-
  NsSrcTr.lean (C15) — "the transcription of `NameServer`'s methods computes what the hand-written `nsStep` computes", proved about
  THIS check's own regenerated transcription `Pyro.Gen.C15Src` (harness/props/c15.py:extract, translator harness/props/c14_tr.py).

  The proof script is C14's (PyroProps/C14Src.lean, up to `C14_ns_translated`), re-checked here against the term that C15's
  extractor has just produced, so that the C15 check does not depend on when C14's generated copy was last refreshed and accepts
  the same equivalent source forms (`list.remove` / filter, parenthesisation) that C14's proof accepts.  The theorems carry C14's
  names, in namespace `Pyro.C15.Tr`.
-/
import PyroModel.NameServer
import PyroModel.NsSrc
import PyroModel.Gen.C15Src
import PyroProofs.NSRefine
import PyroProofs.NsSrcLoops
import PyroProofs.NSMem

namespace Pyro.C15.Tr

open Pyro.NS Pyro.NS.Src Pyro.Gen.C15Src

variable {σ : Type}

/-! ### methods without containers: unconditional -/

/-- `NameServer.count` as transcribed = the model, for every back-end and state. -/
theorem C14_count_translated (S : Store σ) (env : Env) (s : σ) :
    countSrc S env s = nsStep S env .count s := rfl

/-- `NameServer.lookup` as transcribed = the model: KeyError → NamingError, a rejected stored URI → PyroError
    (not caught by `except KeyError`), with / without metadata. -/
theorem C14_lookup_translated (S : Store σ) (env : Env) (n : Str) (wm : Bool) (s : σ) :
    lookupSrc S env n wm s = nsStep S env (.lookup n wm) s := by
  simp only [lookupSrc, nsStep, tryExcept, withLock, getItemK, call, uriK]
  rcases h : S.getItem n s with ⟨o, s1⟩
  rcases o with _ | _ | e
  · simp
  · simp
  · by_cases hu : env.uriOk e.uri <;> cases wm <;> simp [hu]

/-- `NameServer.register` as transcribed = the model: validation order URI → metadata type → `safe` check,
    one `in` test only when `safe`, stored tags = the distinct members or nothing. -/
theorem C14_register_translated (S : Store σ) (env : Env) (n u : Str) (safe : Bool) (md : MetaArg) (s : σ) :
    registerSrc S env n u safe md s = nsStep S env (.register n u safe md) s := by
  simp only [registerSrc, nsStep, withLock, uriK, optTags_storedTags]
  by_cases hu : env.uriOk u <;> by_cases hm : md.isStr <;> cases safe <;> simp [hu, hm, call]

/-- `NameServer.set_metadata` as transcribed = the model. -/
theorem C14_setMeta_translated (S : Store σ) (env : Env) (n : Str) (md : MetaArg) (s : σ) :
    setMetaSrc S env n md s = nsStep S env (.setMeta n md) s := by
  simp only [setMetaSrc, nsStep, withLock, tryExcept, getItemK, optTags_storedTags]
  by_cases hm : md.isStr <;> simp [hm, call]
  rcases S.getItem n s with ⟨o, s1⟩
  rcases o with _ | _ | e
  · simp
  · simp
  · simp only []
    rcases S.setItem n e.uri (storedTags md) s1 with ⟨o2, s2⟩
    rcases o2 with _ | _ <;> simp

/-! ### containers: Python dict insertion and `list.remove` against the model's cons / filter
  (the loops and the key-list surgery: PyroProofs/NsSrcLoops.lean) -/

section loops
variable {abs : σ → List Entry} {inv : σ → Prop} {F : Prop}

/-- `NameServer.list` as transcribed = the model, on every back-end meeting the storage contract. -/
theorem C14_list_translated {S : Store σ} (ok : StoreOK abs inv F S) (env : Env) (pfx regex : Option Str) (wm : Bool)
    (s : σ) (hi : inv s) (hs : SpecInv (abs s)) :
    listSrc S env pfx regex wm s = nsList S env pfx regex wm s := by
  unfold listSrc nsList
  simp only [withLock, reCompileK]
  rcases truthy? pfx with _ | p <;> rcases truthy? regex with _ | r <;> simp only []
  · refine call_congr (ok.optRegex r wm s hi hs) fun o s1 _ h1 h2 => ?_
    cases o with
    | some l => rfl
    | none =>
      simp only []
      split
      · exact iter_listBody ok _ wm s1 h2 (h1 ▸ hs)
      · rfl
  · refine call_congr (ok.optPrefix p wm s hi hs) fun o s1 _ h1 h2 => ?_
    cases o with
    | some l => rfl
    | none => exact iter_listBody ok _ wm s1 h2 (h1 ▸ hs)

/-- `NameServer.yplookup` as transcribed = the model, on every back-end meeting the storage contract. -/
theorem C14_yplookup_translated {S : Store σ} (ok : StoreOK abs inv F S) (env : Env) (all any : MetaArg) (wm : Bool)
    (s : σ) (hi : inv s) (hs : SpecInv (abs s)) :
    yplookupSrc S env all any wm s = nsStep S env (.yplookup all any wm) s := by
  simp only [yplookupSrc, nsStep, withLock]
  by_cases ha : all.truthy <;> by_cases hb : any.truthy <;> simp only [ha, hb, if_true, if_false, Bool.and_true, Bool.and_false,
    Bool.false_and, Bool.true_and, Bool.false_eq_true]
  · by_cases hstr : all.isStr
    · simp [hstr, nsYp]
    · simp only [hstr, if_false, Bool.false_eq_true]
      exact yp_branch ok wm s hi hs true all ha (by simpa using hstr)
  · by_cases hstr : any.isStr
    · simp [hstr, nsYp]
    · simp only [hstr, if_false, Bool.false_eq_true]
      exact yp_branch ok wm s hi hs false any hb (by simpa using hstr)

/-- `NameServer.remove` as transcribed = the model, on every back-end meeting the storage contract
    (`items.remove(NS)` removes the first occurrence, the model filters: the same on a dict's key list). -/
theorem C14_remove_translated {S : Store σ} (ok : StoreOK abs inv F S) (env : Env) (name pfx regex : Option Str)
    (s : σ) (hi : inv s) (hs : SpecInv (abs s)) :
    removeSrc S env name pfx regex s = nsStep S env (.remove name pfx regex) s := by
  -- the prefix / regex tail from any state representing the same map, for either way the source may drop the
  -- name server's own name from the key list
  have rest := fun (f : List Str → List Str) hf (s1 : σ) (h2 : inv s1) (h1 : abs s1 = abs s) =>
    remove_tail_src ok env pfx regex s1 h2 (h1 ▸ hs) (lst := fun p r => listSrc S env p r false)
      (fun p r => C14_list_translated ok env p r false s1 h2 (h1 ▸ hs)) (f := f) hf
  simp only [removeSrc, nsStep, withLock, delItemK]
  cases truthy? name with
  | none => first | exact rest _ guardedErase_eq_filter s hi rfl | exact rest _ (fun _ _ => rfl) s hi rfl
  | some n =>
    refine call_congr (ok.contains n s hi hs) fun b s1 _ h1 h2 => ?_
    rw [bne_nsName]
    cases b <;> cases hn : (n != nsName) <;>
      simp only [Bool.true_and, Bool.false_and, Bool.and_true, Bool.and_false, if_true, if_false, Bool.false_eq_true] <;>
      first | exact rest _ guardedErase_eq_filter s1 h2 h1 | exact rest _ (fun _ _ => rfl) s1 h2 h1 | rfl

/-- **C14_ns_translated.**  Every `NameServer` method as transcribed from the source computes exactly what the
    hand-written model `nsStep` computes — same result, same storage calls in the same order, same final storage
    state — on every back-end meeting the storage contract, for every environment, argument and state. -/
theorem C14_ns_translated {S : Store σ} (ok : StoreOK abs inv F S) (env : Env) (op : Op) (s : σ)
    (hi : inv s) (hs : SpecInv (abs s)) : nsStepSrc S env op s = nsStep S env op s := by
  cases op with
  | count => exact C14_count_translated S env s
  | lookup n wm => exact C14_lookup_translated S env n wm s
  | register n u safe md => exact C14_register_translated S env n u safe md s
  | setMeta n md => exact C14_setMeta_translated S env n md s
  | remove name pfx regex => exact C14_remove_translated ok env name pfx regex s hi hs
  | list pfx regex wm => exact C14_list_translated ok env pfx regex wm s hi hs
  | yplookup all any wm => exact C14_yplookup_translated ok env all any wm s hi hs

end loops

end Pyro.C15.Tr
