/-
  Helper lemmas for C04 (PyroModel/Classes.lean): a small Hoare-style predicate `Sat` on the result/effect-log monad and
  the specification of every model function in terms of it.
-/
import PyroModel.Classes

namespace Pyro.Classes

open Pyro.Gen.C04 (Kind)

/-- `m` yields only results satisfying `Q`, logs only effects satisfying `A`, fails only with errors satisfying `Er`. -/
def Sat {α : Type} (Q : α → Prop) (A : Effect → Prop) (Er : Err → Prop) (m : M α) : Prop :=
  (∀ a, m.1 = .ok a → Q a) ∧ (∀ e ∈ m.2, A e) ∧ (∀ err, m.1 = .error err → Er err)

section sat
variable {α β : Type} {Q : α → Prop} {R : β → Prop} {A : Effect → Prop} {Er : Err → Prop}

theorem Sat.result {m : M α} (h : Sat Q A Er m) {a : α} (ha : m.1 = .ok a) : Q a := h.1 a ha

theorem Sat.effects {m : M α} (h : Sat Q A Er m) : ∀ e ∈ m.2, A e := h.2.1

theorem Sat.errors {m : M α} (h : Sat Q A Er m) {err : Err} (he : m.1 = .error err) : Er err := h.2.2 err he

theorem sat_pure (a : α) (h : Q a) : Sat Q A Er (pure a : M α) := by
  refine ⟨?_, ?_, ?_⟩
  · intro b hb
    cases hb
    exact h
  · intro e he; cases he
  · intro err he; cases he

theorem sat_fail (e : Err) (h : Er e) : Sat Q A Er (M.fail e : M α) := by
  refine ⟨?_, ?_, ?_⟩
  · intro b hb; cases hb
  · intro e he; cases he
  · intro err he
    cases he
    exact h

theorem sat_emit (e : Effect) (h : A e) : Sat (fun _ => True) A Er (emit e) := by
  refine ⟨fun _ _ => trivial, ?_, ?_⟩
  · intro e' he
    simp only [emit, List.mem_singleton] at he
    subst he; exact h
  · intro err he; cases he

theorem sat_lift (x : Except Err α) (hok : ∀ a, x = .ok a → Q a) (herr : ∀ e, x = .error e → Er e) :
    Sat Q A Er (lift x) :=
  ⟨hok, fun _ he => (nomatch he), herr⟩

theorem ext_ne_fuel (s : ExtSite) : Err.ext s ≠ Err.fuel := by intro h; cases h

theorem sat_checkExt (ok : Bool) (s : ExtSite) (h : Er (.ext s)) : Sat (fun _ => True) A Er (checkExt ok s) := by
  unfold checkExt
  cases ok
  · exact sat_fail _ h
  · exact sat_pure _ trivial

theorem sat_bind {x : M α} {f : α → M β} (hx : Sat Q A Er x) (hf : ∀ a, Q a → Sat R A Er (f a)) :
    Sat R A Er (x >>= f) := by
  obtain ⟨r, l⟩ := x
  cases r with
  | error e =>
    refine ⟨?_, ?_, ?_⟩
    · intro b hb; cases hb
    · exact hx.effects
    · intro err he
      cases he
      exact hx.errors rfl
  | ok a =>
    have hq : Q a := hx.1 a rfl
    obtain ⟨h1, h2, h3⟩ := hf a hq
    refine ⟨h1, ?_, h3⟩
    intro e he
    have : e ∈ l ++ (f a).2 := he
    rcases List.mem_append.mp this with h | h
    · exact hx.effects e h
    · exact h2 e h

theorem sat_ite {c : Prop} [Decidable c] {a b : M α} (ha : c → Sat Q A Er a) (hb : ¬ c → Sat Q A Er b) :
    Sat Q A Er (if c then a else b) := by
  by_cases h : c
  · rw [if_pos h]; exact ha h
  · rw [if_neg h]; exact hb h

theorem sat_mono {Q' : α → Prop} {m : M α} (h : Sat Q A Er m) (hq : ∀ a, Q a → Q' a) : Sat Q' A Er m :=
  ⟨fun a ha => hq a (h.result ha), h.effects, fun _ => h.errors⟩

theorem sat_const {K : Prop} {m : M α} (h : K) : Sat (fun _ => K) (fun _ => True) (fun _ => True) m :=
  ⟨fun _ _ => h, fun _ _ => trivial, fun _ _ => trivial⟩

theorem unsupported_spec {Q : Val → Prop} (hA : A .logWarn) (hEr : Er .serialize) : Sat Q A Er unsupported :=
  sat_bind (sat_emit _ hA) fun _ _ => sat_fail _ hEr

end sat

theorem bind_fst_ok {α β : Type} {x : M α} {f : α → M β} {b : β} (h : (x >>= f).1 = .ok b) :
    ∃ a, x.1 = .ok a ∧ (f a).1 = .ok b := by
  obtain ⟨r, l⟩ := x
  cases r with
  | error e => cases h
  | ok a => exact ⟨a, rfl, h⟩

/-! ### errors of the pure helpers are never `fuel` -/

theorem iterate_ne_fuel {v : Val} {e : Err} (h : iterate v = .error e) : e ≠ .fuel := by
  rintro rfl
  cases v with
  | set xs | dict ks _ | bytes b =>
    simp only [iterate] at h
    split at h <;> cases h
  | _ => cases h

theorem lenOf_ne_fuel {v : Val} {e : Err} (h : lenOf v = .error e) : e ≠ .fuel := by
  rintro rfl
  cases v <;> cases h

theorem tagOf_ne_fuel {ks : List Key} {vs : List Val} {e : Err} (h : tagOf ks vs = .error e) : e ≠ .fuel := by
  rintro rfl
  unfold tagOf at h
  split at h
  · cases h
  · cases h
  · split at h <;> cases h
  all_goals cases h

/-! ### closedness and depth of the parts of a value -/

theorem closedListB_cons {reg : List Str} {x : Val} {xs : List Val} :
    closedListB reg (x :: xs) = true ↔ closedB reg x = true ∧ closedListB reg xs = true := by
  simp only [closedListB, Bool.and_eq_true]

theorem closedCls_exc {reg : List Str} {q : Str} (h : q ∈ closedExcQuals) : ClosedCls reg (.exc q) := by
  simp only [ClosedCls, closedClsB, h, decide_true]

theorem closedCls_pyro {reg : List Str} (c : PyroCls) : ClosedCls reg (.pyro c) := rfl

theorem closedCls_custom {reg : List Str} {t : Str} (h : t ∈ reg) : ClosedCls reg (.custom t) := by
  simp only [ClosedCls, closedClsB, h, decide_true]

theorem closedListB_iff {reg : List Str} {xs : List Val} :
    closedListB reg xs = true ↔ ∀ x ∈ xs, closedB reg x = true := by
  induction xs with
  | nil => simp [closedListB]
  | cons x xs ih => simp [closedListB, ih]

theorem depthList_le_iff {xs : List Val} {n : Nat} : depthList xs ≤ n ↔ ∀ x ∈ xs, depth x ≤ n := by
  induction xs with
  | nil => simp [depthList]
  | cons x xs ih => simp [depthList, Nat.max_le, ih]

theorem depth_le_of_mem {x : Val} {xs : List Val} (h : x ∈ xs) : depth x ≤ depthList xs :=
  depthList_le_iff.mp (Nat.le_refl _) x h

theorem lookup_mem {k : Str} : ∀ {ks : List Key} {vs : List Val} {v : Val}, lookup k ks vs = some v → v ∈ vs
  | [], _, _, h | _ :: _, [], _, h => by simp [lookup] at h
  | kk :: ks, x :: xs, v, h => by
    simp only [lookup] at h
    split at h
    · cases h; exact List.mem_cons_self
    · exact List.mem_cons_of_mem _ (lookup_mem h)

theorem iterate_mem {v : Val} {xs : List Val} (h : iterate v = .ok xs) {x : Val} (hx : x ∈ xs) :
    (∀ reg, closedB reg v = true → closedB reg x = true) ∧ depth x ≤ depth v := by
  cases v with
  | list ys | tuple ys =>
    cases h
    exact ⟨fun _ hc => closedListB_iff.mp hc x hx, Nat.le_succ_of_le (depth_le_of_mem hx)⟩
  | set ys =>
    simp only [iterate] at h
    split at h <;> cases h
    exact ⟨fun _ hc => closedListB_iff.mp hc x hx, Nat.le_succ_of_le (depth_le_of_mem hx)⟩
  | str s =>
    cases h
    obtain ⟨c, _, rfl⟩ := List.mem_map.mp hx
    exact ⟨fun _ _ => rfl, Nat.zero_le _⟩
  | dict ks _ =>
    simp only [iterate] at h
    split at h <;> cases h
    obtain ⟨k, _, rfl⟩ := List.mem_map.mp hx
    cases k <;> exact ⟨fun _ _ => rfl, Nat.zero_le _⟩
  | bytes b =>
    simp only [iterate] at h
    split at h <;> cases h
    cases hx
  | _ => cases h

/-! ### the extracted tables -/

theorem assoc_mem {β : Type} {k : Str} {v : β} : ∀ {l : List (Str × β)}, assoc k l = some v → (k, v) ∈ l
  | [], h => by simp [assoc] at h
  | (n, w) :: rest, h => by
    simp only [assoc] at h
    split at h
    · cases h
      rename_i hk
      subst hk
      exact List.mem_cons_self
    · exact List.mem_cons_of_mem _ (assoc_mem h)

theorem mem_excQuals {n q : Str} : ∀ {t : List (Str × Kind)}, (n, Kind.exc q) ∈ t → q ∈ excQuals t
  | [], h => by cases h
  | (m, k) :: rest, h => by
    rcases List.mem_cons.mp h with h | h
    · cases h; simp [excQuals]
    · have ih := mem_excQuals h
      cases k <;> simp [excQuals, ih]

theorem builtins_closed {n q : Str} (h : assoc n Pyro.Gen.C04.builtinsKinds = some (.exc q)) : q ∈ closedExcQuals :=
  List.mem_append_left _ (List.mem_append_left _ (List.mem_append_left _ (mem_excQuals (assoc_mem h))))

theorem errors_closed {n q : Str} (h : assoc n Pyro.Gen.C04.errorsKinds = some (.exc q)) : q ∈ closedExcQuals :=
  List.mem_append_left _ (List.mem_append_left _ (List.mem_append_right _ (mem_excQuals (assoc_mem h))))

theorem sqlite_closed {n q : Str} (h : assoc n Pyro.Gen.C04.sqlite3Kinds = some (.exc q)) (he : endsWith n sufError = true) :
    q ∈ closedExcQuals :=
  List.mem_append_left _ (List.mem_append_right _ (mem_excQuals (List.mem_filter.mpr ⟨assoc_mem h, he⟩)))

theorem struct_closed : Pyro.Gen.C04.structErrorQual ∈ closedExcQuals :=
  List.mem_append_right _ (List.mem_singleton_self _)

theorem mem_of_split_sublist {α : Type} [BEq α] [LawfulBEq α] {l a b : List α} (p : α → Bool)
    (h : ((l.filter p).isSublist a && (l.filter fun x => !p x).isSublist b) = true) : ∀ x ∈ l, x ∈ a ++ b := by
  intro x hx
  obtain ⟨ha, hb⟩ := Bool.and_eq_true_iff.mp h
  cases hp : p x
  · exact List.mem_append_right _
      ((List.isSublist_iff_sublist.mp hb).subset (List.mem_filter.mpr ⟨hx, by rw [hp]; rfl⟩))
  · exact List.mem_append_left _ ((List.isSublist_iff_sublist.mp ha).subset (List.mem_filter.mpr ⟨hx, hp⟩))

/-- Every class `all_exceptions` maps a name to is an exception class found in
    `vars(builtins)` or `vars(Pyro5.errors)`.  The extractor writes all three tables sorted by name, so the classes of
    `all_exceptions` are met in table order and one pass over each table finds them (a search per class through the
    closed list is slow to check). -/
theorem allExceptions_closed : ∀ p ∈ Pyro.Gen.C04.allExceptions, p.2 ∈ closedExcQuals := by
  intro p hp
  have := mem_of_split_sublist (l := Pyro.Gen.C04.allExceptions.map (·.2)) (a := excQuals Pyro.Gen.C04.builtinsKinds)
    (b := excQuals Pyro.Gen.C04.errorsKinds) (startsWith · (cs "builtins.")) (by decide +kernel) p.2
    (List.mem_map_of_mem hp)
  exact List.mem_append_left _ (List.mem_append_left _ this)

theorem tablesOk_true : tablesOk = true := by
  unfold tablesOk
  rw [Bool.and_eq_true]
  exact ⟨by decide +kernel, List.all_eq_true.mpr fun p hp => decide_eq_true (allExceptions_closed p hp)⟩

/-! ### string lemmas -/

theorem hasDunder_iff (s : Str) : hasDunder s = true ↔ ['_', '_'] <:+: s := by
  fun_induction hasDunder s with
  | case1 rest => exact iff_of_true rfl ⟨[], rest, rfl⟩
  | case2 c rest hne ih =>
    rw [ih, List.infix_cons_iff]
    refine ⟨Or.inr, fun h => h.resolve_left fun ⟨t, ht⟩ => ?_⟩
    cases ht
    exact hne _ rfl rfl
  | case3 => simp

theorem splitDot_eq : ∀ {s a b : Str}, splitDot s = some (a, b) → s = a ++ '.' :: b
  | [], _, _, h => by simp [splitDot] at h
  | c :: rest, a, b, h => by
    simp only [splitDot] at h
    split at h
    · rename_i hc
      cases h
      subst hc
      rfl
    · split at h
      · rename_i a' b' hr
        cases h
        have := splitDot_eq hr
        rw [this]; rfl
      · cases h

theorem startsWith_eq {s pre : Str} (h : startsWith s pre = true) : s = pre ++ s.drop pre.length := by
  have hp : pre <+: s := List.isPrefixOf_iff_prefix.mp h
  exact (List.prefix_iff_eq_append.mp hp).symm

/-! ### which tags are accepted -/

theorem resolveExc_known (E : Env) (module : Str) (tbl : List (Str × Kind)) (name : Str) (ks : List Key) (vs : List Val) :
    Sat (fun _ => ∃ q, assoc name tbl = some (.exc q)) (fun _ => True) (fun _ => True)
      (resolveExc E module tbl name ks vs) := by
  unfold resolveExc
  refine sat_bind (sat_emit _ trivial) fun _ _ => ?_
  split
  · exact sat_fail _ trivial
  · exact sat_fail _ trivial
  · exact unsupported_spec trivial trivial
  · rename_i q hq; exact sat_const ⟨q, hq⟩

/-! ### specifications of the model functions -/

section specs
variable (E : Env) {Er : Err → Prop}

/-- the postcondition used throughout: closed result, allowed effects, and errors in `Er` -/
abbrev Good (Er : Err → Prop) (m : M Val) : Prop := Sat (fun w => closedB E.reg w = true) (Allowed E.reg) Er m

/-- An error other than `fuel` satisfies the error clause `fun e => e = .fuel → ¬ P` of the budget-aware
    specifications, whatever `P`: the clause speaks of `fuel` only. -/
theorem budgetClause_of_ne_fuel (P : Prop) : ∀ e : Err, e ≠ .fuel → e = .fuel → ¬ P := fun _ hne h => absurd h hne

theorem construct_pyro_spec (c : PyroCls) : Sat (fun _ => True) (Allowed E.reg) Er (emit (.construct (.pyro c))) :=
  sat_emit _ (closedCls_pyro c)

attribute [local simp] closedB closedListB closedClsB

variable (hEr : ∀ e, e ≠ Err.fuel → Er e)
include hEr

omit E in
theorem fail_spec {α : Type} {Q : α → Prop} {A : Effect → Prop} {e : Err} (h : e ≠ .fuel := by decide) :
    Sat Q A Er (M.fail e : M α) :=
  sat_fail _ (hEr _ h)

omit E in
theorem checkExt_spec {A : Effect → Prop} (ok : Bool) (s : ExtSite) : Sat (fun _ => True) A Er (checkExt ok s) :=
  sat_checkExt _ _ (hEr _ (ext_ne_fuel s))

theorem setattrs_spec (q : Str) (hq : q ∈ closedExcQuals) :
    ∀ (ks : List Key) (vs : List Val), Sat (fun _ => True) (Allowed E.reg) Er (setattrs E (.exc q) ks vs)
  | [], _ => by unfold setattrs; exact sat_pure _ trivial
  | _ :: _, [] => by unfold setattrs; exact sat_pure _ trivial
  | k :: ks, v :: vs => by
    unfold setattrs
    refine sat_bind (sat_emit _ (show Allowed E.reg (.setattr (.exc q) k) from hq)) fun _ _ => ?_
    refine sat_bind (checkExt_spec hEr _ _) fun _ _ => ?_
    exact setattrs_spec q hq ks vs

theorem iterate_spec (v : Val) (hc : closedB E.reg v = true) :
    Sat (fun xs => closedListB E.reg xs = true ∧ depthList xs ≤ depth v) (Allowed E.reg) Er (lift (iterate v)) :=
  sat_lift _
    (fun _ hx => ⟨closedListB_iff.mpr fun _ hm => (iterate_mem hx hm).1 _ hc,
      depthList_le_iff.mpr fun _ hm => (iterate_mem hx hm).2⟩)
    fun e he => hEr e (iterate_ne_fuel he)

theorem index_spec (v : Val) (i : Nat) (hc : closedB E.reg v = true) : Good E Er (lift (index v i)) := by
  cases v with
  | list ys | tuple ys =>
    simp only [index]
    split
    · exact sat_pure _ (closedListB_iff.mp hc _ (List.mem_of_getElem? (by assumption)))
    · exact fail_spec hEr
  | str s =>
    simp only [index]
    split
    · exact sat_pure _ rfl
    · exact fail_spec hEr
  | dict ks _ | bytes b =>
    simp only [index]
    split <;> exact fail_spec hEr
  | _ => exact fail_spec hEr

theorem need_depth_spec (k : Str) (ks : List Key) (vs : List Val) (hc : closedListB E.reg vs = true) :
    Sat (fun v => closedB E.reg v = true ∧ depth v ≤ depthList vs) (Allowed E.reg) Er (need k ks vs) := by
  unfold need
  split
  · rename_i v hv
    exact sat_pure _ ⟨closedListB_iff.mp hc v (lookup_mem hv), depth_le_of_mem (lookup_mem hv)⟩
  · exact fail_spec hEr

theorem need_spec (k : Str) (ks : List Key) (vs : List Val) (hc : closedListB E.reg vs = true) :
    Good E Er (need k ks vs) :=
  sat_mono (need_depth_spec E hEr k ks vs hc) fun _ h => h.1

theorem makeException_spec (q : Str) (hq : q ∈ closedExcQuals)
    (ks : List Key) (vs : List Val) (hc : closedListB E.reg vs = true) :
    Good E Er (makeException E (.exc q) ks vs) := by
  unfold makeException
  refine sat_bind (need_spec E hEr _ ks vs hc) fun args hargs => ?_
  refine sat_bind (iterate_spec E hEr args hargs) fun xs hxs => ?_
  refine sat_bind (sat_emit _ (show Allowed E.reg (.construct (.exc q)) from closedCls_exc hq)) fun _ _ => ?_
  refine sat_bind (checkExt_spec hEr _ _) fun _ _ => ?_
  split
  · exact sat_pure _ (by simp [*])
  · rename_i aks avs hl
    have hat : closedListB E.reg avs = true := closedListB_iff.mp hc (.dict aks avs) (lookup_mem hl)
    refine sat_bind (setattrs_spec E hEr q hq aks avs) fun _ _ => ?_
    exact sat_pure _ (by simp [*])
  all_goals exact fail_spec hEr

theorem uriSetstate_spec (st : Val) (hc : closedB E.reg st = true) :
    Good E Er (uriSetstate st) := by
  unfold uriSetstate
  refine sat_bind (iterate_spec E hEr st hc) fun xs hxs => ?_
  split
  · exact sat_pure _ (by simp [*])
  · exact fail_spec hEr

theorem proxySetstate_spec (st : Val) (hc : closedB E.reg st = true) :
    Good E Er (proxySetstate E st) := by
  unfold proxySetstate
  have hidx := fun i => index_spec E hEr st i hc
  refine sat_bind (hidx 0) fun s0 _ => ?_
  refine sat_bind (sat_emit _ trivial) fun _ _ => ?_
  refine sat_bind (construct_pyro_spec E _) fun _ _ => ?_
  refine sat_bind (checkExt_spec hEr _ _) fun _ _ => ?_
  refine sat_bind (hidx 1) fun s1 h1 => ?_
  refine sat_bind (sat_emit _ trivial) fun _ _ => ?_
  refine sat_bind (checkExt_spec hEr _ _) fun _ _ => ?_
  refine sat_bind (hidx 2) fun s2 h2 => ?_
  refine sat_bind (sat_emit _ trivial) fun _ _ => ?_
  refine sat_bind (checkExt_spec hEr _ _) fun _ _ => ?_
  refine sat_bind (hidx 3) fun s3 h3 => ?_
  refine sat_bind (sat_emit _ trivial) fun _ _ => ?_
  refine sat_bind (checkExt_spec hEr _ _) fun _ _ => ?_
  refine sat_bind (hidx 4) fun s4 h4 => ?_
  refine sat_bind (hidx 5) fun s5 h5 => ?_
  exact sat_pure _ (by simp [*])

theorem daemonSetstate_spec (st : Val) : Good E Er (daemonSetstate st) := by
  unfold daemonSetstate
  refine sat_bind (Q := fun _ => True)
    (sat_lift _ (fun _ _ => trivial) (fun e he => hEr e (lenOf_ne_fuel he))) fun n _ => ?_
  split
  · exact sat_pure _ (by simp [*])
  · exact fail_spec hEr

theorem resolveExc_spec (module : Str) (tbl : List (Str × Kind)) (name : Str)
    (hmod : module = nsBuiltins ∨ module = mErrors ∨ module = nsSqlite3)
    (htbl : ∀ q, assoc name tbl = some (.exc q) → q ∈ closedExcQuals)
    (ks : List Key) (vs : List Val) (hc : closedListB E.reg vs = true) :
    Good E Er (resolveExc E module tbl name ks vs) := by
  unfold resolveExc
  refine sat_bind (sat_emit _ (show Allowed E.reg (.getattrMod module name) from hmod)) fun _ _ => ?_
  split
  · exact fail_spec hEr
  · exact fail_spec hEr
  · exact unsupported_spec trivial (hEr _ (by decide))
  · rename_i q hq
    exact makeException_spec E hEr q (htbl q hq) ks vs hc

omit hEr

/-! `applyExt` keeps closedness and never increases the depth (an extension leaf becomes another leaf) -/

mutual
theorem applyExt_spec (hEr : ∀ e, e ≠ Err.fuel → Er e) :
    ∀ (v : Val), closedB E.reg v = true →
      Sat (fun w => closedB E.reg w = true ∧ depth w ≤ depth v) (Allowed E.reg) Er (applyExt E v)
  | .ext code raw conv t, _ => by
    unfold applyExt
    refine sat_ite (fun _ => ?_) fun _ => fail_spec hEr
    refine sat_bind (sat_emit _ trivial) fun _ _ => ?_
    refine sat_bind (checkExt_spec hEr _ _) fun _ _ => ?_
    exact sat_pure _ ⟨rfl, Nat.le_refl _⟩
  | .set xs, hc | .list xs, hc | .tuple xs, hc => by
    unfold applyExt
    refine sat_bind (applyExtList_spec hEr xs (by simpa only [closedB] using hc)) fun ys hys => ?_
    exact sat_pure _ ⟨by simpa only [closedB] using hys.1, Nat.succ_le_succ hys.2⟩
  | .dict ks vs, hc => by
    unfold applyExt
    refine sat_bind (applyExtList_spec hEr vs (by simpa only [closedB] using hc)) fun ws hws => ?_
    exact sat_pure _ ⟨by simpa only [closedB] using hws.1, Nat.succ_le_succ hws.2⟩
  | .atom _ _, _ | .blob _ _, _ | .str _, _ | .bytes _, _ => by
    unfold applyExt; exact sat_pure _ ⟨rfl, Nat.le_refl _⟩
  | .inst c ps, hc => by unfold applyExt; exact sat_pure _ ⟨hc, Nat.le_refl _⟩
theorem applyExtList_spec (hEr : ∀ e, e ≠ Err.fuel → Er e) :
    ∀ (vs : List Val), closedListB E.reg vs = true →
      Sat (fun ws => closedListB E.reg ws = true ∧ depthList ws ≤ depthList vs) (Allowed E.reg) Er (applyExtList E vs)
  | [], _ => by unfold applyExtList; exact sat_pure _ ⟨rfl, Nat.le_refl _⟩
  | x :: xs, hc => by
    unfold applyExtList
    rw [closedListB_cons] at hc
    refine sat_bind (applyExt_spec hEr x hc.1) fun y hy => ?_
    refine sat_bind (applyExtList_spec hEr xs hc.2) fun ys hys => ?_
    exact sat_pure _ ⟨closedListB_cons.mpr ⟨hy.1, hys.1⟩,
      Nat.max_le.mpr ⟨Nat.le_trans hy.2 (Nat.le_max_left ..), Nat.le_trans hys.2 (Nat.le_max_right ..)⟩⟩
end

/-! In the specifications from here on the proposition `P` switches the budget clause: with `P := False` the error
    clause `fun e => e = .fuel → ¬ P` is trivial and so is the premise on the depth; with `P := True` the premise
    demands a budget above the depth and the clause excludes the error `fuel`. -/

/-- SerializerBase.dict_to_class: closed result, allowed effects; and it runs out of fuel only if the dict is nested
    deeper than the budget (`P` switches that last clause on). -/
theorem dictToClass_spec (P : Prop) :
    ∀ (fuel : Nat) (ks : List Key) (vs : List Val), closedListB E.reg vs = true → (P → depthList vs < fuel) →
      Good E (fun e => e = Err.fuel → ¬ P) (dictToClass E fuel ks vs)
  | 0, ks, vs, _, hd => by
    unfold dictToClass
    exact sat_fail _ (fun _ hp => absurd (hd hp) (Nat.not_lt_zero _))
  | fuel + 1, ks, vs, hc, hd => by
    have hEr := budgetClause_of_ne_fuel P
    have serializer_spec : ∀ c, Good E (fun e => e = Err.fuel → ¬ P)
        (do emit (.construct (.pyro c)); pure (.inst (.pyro c) [])) := fun c =>
      sat_bind (construct_pyro_spec E c) fun _ _ => sat_pure _ (by simp [*])
    unfold dictToClass
    split
    · rename_i e he; exact sat_fail _ (hEr e (tagOf_ne_fuel he))
    · rename_i cn _
      refine sat_ite (fun hreg => ?_) fun _ => ?_                       -- registered converter
      · refine sat_bind (sat_emit _ (show Allowed E.reg (.convert cn) from hreg)) fun _ _ => ?_
        exact sat_pure _ (by simp [*])
      refine sat_ite (fun _ => fail_spec hEr) fun _ => ?_               -- double underscore
      refine sat_ite (fun _ => ?_) fun _ => ?_                          -- URI
      · refine sat_bind (construct_pyro_spec E _) fun _ _ => ?_
        exact sat_bind (need_spec E hEr _ ks vs hc) fun st hst => uriSetstate_spec E hEr st hst
      refine sat_ite (fun _ => ?_) fun _ => ?_                          -- Proxy
      · refine sat_bind (construct_pyro_spec E _) fun _ _ => ?_
        exact sat_bind (need_spec E hEr _ ks vs hc) fun st hst => proxySetstate_spec E hEr st hst
      refine sat_ite (fun _ => ?_) fun _ => ?_                          -- Daemon
      · refine sat_bind (construct_pyro_spec E _) fun _ _ => ?_
        exact sat_bind (need_spec E hEr _ ks vs hc) fun st _ => daemonSetstate_spec E hEr st
      refine sat_ite (fun _ => ?_) fun _ => ?_                          -- Pyro5.util.
      · refine sat_ite (fun _ => ?_) fun _ => ?_                        -- SerpentSerializer
        · exact serializer_spec _
        refine sat_ite (fun _ => ?_) fun _ => ?_                        -- MarshalSerializer
        · exact serializer_spec _
        refine sat_ite (fun _ => ?_) fun _ => ?_                        -- JsonSerializer
        · exact serializer_spec _
        refine sat_ite (fun _ => ?_) fun _ => ?_                        -- MsgpackSerializer
        · exact serializer_spec _
        exact unsupported_spec trivial (hEr _ (by decide))
      refine sat_ite (fun _ => ?_) fun _ => ?_                          -- Pyro5.errors.
      · exact resolveExc_spec E hEr _ _ _ (Or.inr (Or.inl rfl)) (fun q hq => errors_closed hq) ks vs hc
      refine sat_ite (fun _ => ?_) fun _ => ?_                          -- struct.error
      · exact makeException_spec E hEr _ struct_closed ks vs hc
      refine sat_ite (fun _ => ?_) fun _ => ?_                          -- _ExceptionWrapper
      · refine sat_bind (need_depth_spec E hEr _ ks vs hc) fun ex hex => ?_
        refine sat_bind (Q := fun w => closedB E.reg w = true) ?_ fun ex' hex' => ?_
        · split
          · rename_i ks' vs'
            refine sat_ite (fun _ => ?_) fun _ => sat_pure _ hex.1
            have hvs' : closedListB E.reg vs' = true := by simpa only [closedB] using hex.1
            exact dictToClass_spec P fuel ks' vs' hvs' fun hp =>
              Nat.lt_of_succ_le (Nat.le_trans hex.2 (Nat.le_of_lt_succ (hd hp)))
          · exact sat_pure _ hex.1
        · refine sat_bind (construct_pyro_spec E _) fun _ _ => ?_
          exact sat_pure _ (by simp [*])
      refine sat_ite (fun _ => ?_) fun _ => unsupported_spec trivial (hEr _ (by decide))    -- `__exception__` flag
      split
      · rename_i q hq                                                   -- a name of all_exceptions
        exact makeException_spec E hEr q (allExceptions_closed _ (assoc_mem hq)) ks vs hc
      · split
        · exact fail_spec hEr
        · refine sat_ite (fun _ => ?_) fun _ => ?_                      -- builtins. / exceptions.
          · exact resolveExc_spec E hEr _ _ _ (Or.inl rfl) (fun q hq => builtins_closed hq) ks vs hc
          refine sat_ite (fun hsq => ?_) fun _ => unsupported_spec trivial (hEr _ (by decide))    -- sqlite3.…Error
          refine sat_bind (sat_emit _ (show Allowed E.reg (.importMod nsSqlite3) from rfl)) fun _ _ => ?_
          exact resolveExc_spec E hEr _ _ _ (Or.inr (Or.inr rfl)) (fun q hq => sqlite_closed hq hsq.2) ks vs hc

theorem dictEntry_spec (P : Prop) (ser : Ser) (fuel : Nat) (ks : List Key) (vs : List Val)
    (hc : closedListB E.reg vs = true) (hd : P → depthList vs < fuel) :
    Good E (fun e => e = Err.fuel → ¬ P) (dictEntry E ser fuel ks vs) := by
  have hEr := budgetClause_of_ne_fuel P
  unfold dictEntry
  refine sat_ite (fun _ => ?_) fun _ => dictToClass_spec E P fuel ks vs hc hd
  split
  · refine sat_ite (fun _ => ?_) fun _ => dictToClass_spec E P fuel ks vs hc hd
    refine sat_bind (need_spec E hEr _ ks vs hc) fun v _ => ?_
    refine sat_bind (sat_emit _ trivial) fun _ _ => ?_
    refine sat_bind (checkExt_spec hEr _ _) fun _ _ => ?_
    exact sat_pure _ rfl
  · exact dictToClass_spec E P fuel ks vs hc hd

mutual
theorem recreate_spec (P : Prop) (ser : Ser) (fuel : Nat) :
    ∀ (v : Val), closedB E.reg v = true → (P → depth v < fuel) →
      Good E (fun e => e = Err.fuel → ¬ P) (recreate E ser fuel v)
  | .set xs, hc, hd | .list xs, hc, hd | .tuple xs, hc, hd => by
    unfold recreate
    refine sat_bind (recreateList_spec P ser fuel xs (by simpa only [closedB] using hc)
      (fun hp => Nat.lt_of_succ_lt (hd hp))) fun ys hys => ?_
    exact sat_pure _ (by simpa only [closedB] using hys)
  | .dict ks vs, hc, hd => by
    unfold recreate
    have hvs : closedListB E.reg vs = true := by simpa only [closedB] using hc
    have hdv : P → depthList vs < fuel := fun hp => Nat.lt_of_succ_lt (hd hp)
    refine sat_ite (fun _ => dictEntry_spec E P ser fuel ks vs hvs hdv) fun _ => ?_
    refine sat_bind (recreateList_spec P ser fuel vs hvs hdv) fun ws hws => ?_
    exact sat_pure _ (by simpa only [closedB] using hws)
  | .atom _ _, _, _ | .blob _ _, _, _ | .str _, _, _ | .bytes _, _, _ | .ext _ _ _ _, _, _ => by
    unfold recreate; exact sat_pure _ rfl
  | .inst c ps, hc, _ => by unfold recreate; exact sat_pure _ hc
theorem recreateList_spec (P : Prop) (ser : Ser) (fuel : Nat) :
    ∀ (vs : List Val), closedListB E.reg vs = true → (P → depthList vs < fuel) →
      Sat (fun ws => closedListB E.reg ws = true) (Allowed E.reg) (fun e => e = Err.fuel → ¬ P) (recreateList E ser fuel vs)
  | [], _, _ => by unfold recreateList; exact sat_pure _ rfl
  | x :: xs, hc, hd => by
    unfold recreateList
    rw [closedListB_cons] at hc
    have hd' : P → depth x < fuel ∧ depthList xs < fuel := fun hp => Nat.max_lt.mp (hd hp)
    refine sat_bind (recreate_spec P ser fuel x hc.1 fun hp => (hd' hp).1) fun y hy => ?_
    refine sat_bind (recreateList_spec P ser fuel xs hc.2 fun hp => (hd' hp).2) fun ys hys => ?_
    exact sat_pure _ (closedListB_cons.mpr ⟨hy, hys⟩)
end

mutual
/-- where `ext_hook` runs, every extension value of a literal tree is converted (or decoding fails) -/
theorem applyExt_noExt :
    ∀ (v : Val), plainB v = true → Sat (fun w => noExtB w = true) (fun _ => True) (fun _ => True) (applyExt E v)
  | .ext code raw conv t, _ => by
    unfold applyExt
    refine sat_ite (fun _ => ?_) fun _ => sat_fail _ trivial
    refine sat_bind (sat_emit _ trivial) fun _ _ => ?_
    refine sat_bind (sat_checkExt _ _ trivial) fun _ _ => ?_
    exact sat_pure _ rfl
  | .set xs, h | .list xs, h | .tuple xs, h => by
    unfold applyExt
    refine sat_bind (applyExtList_noExt xs (by simpa only [plainB] using h)) fun ys hys => ?_
    exact sat_pure _ (by simpa only [noExtB] using hys)
  | .dict ks vs, h => by
    unfold applyExt
    refine sat_bind (applyExtList_noExt vs (by simpa only [plainB] using h)) fun ws hws => ?_
    exact sat_pure _ (by simpa only [noExtB] using hws)
  | .atom _ _, _ | .blob _ _, _ | .str _, _ | .bytes _, _ => by unfold applyExt; exact sat_pure _ rfl
  | .inst c ps, h => by simp [plainB] at h
theorem applyExtList_noExt :
    ∀ (vs : List Val), plainListB vs = true →
      Sat (fun ws => noExtListB ws = true) (fun _ => True) (fun _ => True) (applyExtList E vs)
  | [], _ => by unfold applyExtList; exact sat_pure _ rfl
  | x :: xs, h => by
    unfold applyExtList
    simp only [plainListB, Bool.and_eq_true] at h
    refine sat_bind (applyExt_noExt x h.1) fun y hy => ?_
    refine sat_bind (applyExtList_noExt xs h.2) fun ys hys => ?_
    exact sat_pure _ (by simp only [noExtListB, hy, hys, Bool.and_self])
end

theorem loads_spec (P : Prop) (ser : Ser) (fuel : Nat) (lit : Val) (hc : closedB E.reg lit = true)
    (hd : P → depth lit < fuel) : Good E (fun e => e = Err.fuel → ¬ P) (loads E ser fuel lit) := by
  have hEr := budgetClause_of_ne_fuel P
  unfold loads
  refine sat_ite (fun _ => ?_) fun _ => recreate_spec E P ser fuel lit hc hd
  refine sat_bind (applyExt_spec E hEr lit hc) fun lit' h' => ?_
  exact recreate_spec E P ser fuel lit' h'.1 (fun hp => Nat.lt_of_le_of_lt h'.2 (hd hp))

theorem unpack4_spec (P : Prop) (ser : Ser) (fuel : Nat) (lit : Val) (hc : closedB E.reg lit = true)
    (hd : P → depth lit < fuel) : Good E (fun e => e = Err.fuel → ¬ P) (unpack4 E ser fuel lit) := by
  have hEr := budgetClause_of_ne_fuel P
  unfold unpack4
  refine sat_bind (iterate_spec E hEr lit hc) fun xs hxs => ?_
  split
  · rename_i o m va kw
    obtain ⟨hcl, hdl⟩ := hxs
    simp only [closedListB_cons] at hcl
    simp only [depthList, Nat.max_le] at hdl
    obtain ⟨ho, hm, hva, hkw, -⟩ := hcl
    obtain ⟨-, -, hdva, hdkw, -⟩ := hdl
    refine sat_bind (recreate_spec E P ser fuel va hva fun hp => Nat.lt_of_le_of_lt hdva (hd hp)) fun va' hva' => ?_
    refine sat_bind (recreate_spec E P ser fuel kw hkw fun hp => Nat.lt_of_le_of_lt hdkw (hd hp)) fun kw' hkw' => ?_
    exact sat_pure _ (by simp [*])
  · exact fail_spec hEr

theorem loadsCall_spec (P : Prop) (callExtHook : Bool) (ser : Ser) (fuel : Nat) (lit : Val)
    (hc : closedB E.reg lit = true) (hd : P → depth lit < fuel) :
    Good E (fun e => e = Err.fuel → ¬ P) (loadsCall E callExtHook ser fuel lit) := by
  have hEr := budgetClause_of_ne_fuel P
  unfold loadsCall
  split
  · -- json
    split
    · rename_i ks vs
      have hvs : closedListB E.reg vs = true := by simpa only [closedB] using hc
      have hdv : ∀ v, depth v ≤ depthList vs → P → depth v < fuel := fun v hv hp =>
        Nat.lt_of_le_of_lt hv (Nat.lt_of_succ_lt (hd hp))
      refine sat_bind (need_depth_spec E hEr _ ks vs hvs) fun p hp => ?_
      refine sat_bind (recreate_spec E P _ fuel p hp.1 (hdv p hp.2)) fun p' hp' => ?_
      refine sat_bind (need_depth_spec E hEr _ ks vs hvs) fun k hk => ?_
      refine sat_bind (recreate_spec E P _ fuel k hk.1 (hdv k hk.2)) fun k' hk' => ?_
      refine sat_bind (need_spec E hEr _ ks vs hvs) fun o ho => ?_
      refine sat_bind (need_spec E hEr _ ks vs hvs) fun m hm => ?_
      exact sat_pure _ (by simp [*])
    all_goals exact fail_spec hEr
  · -- msgpack
    refine sat_ite (fun _ => ?_) fun _ => unpack4_spec E P _ fuel lit hc hd
    refine sat_bind (applyExt_spec E hEr lit hc) fun lit' h' => ?_
    exact unpack4_spec E P _ fuel lit' h'.1 (fun hp => Nat.lt_of_le_of_lt h'.2 (hd hp))
  · exact unpack4_spec E P _ fuel lit hc hd

end specs

end Pyro.Classes
