/-
  Helper lemmas for the value-mapping model (PyroModel/Values.lean): the decimal codec, the
  little-endian struct fields, msgpack's ext round trips, and dict (Pairs) bookkeeping.
  Property theorems live in PyroProps/C01.lean.
-/
import PyroModel.Values

namespace Pyro.Values

open Pyro

/-! ### decimal text of an integer: `int(str(z)) = z` -/

/-- value of the decimal digits `ds` (most significant first) read after an accumulated `a` -/
def digitsVal : List Nat → Nat → Nat
  | [], a => a
  | d :: ds, a => digitsVal ds (a * 10 + d)

theorem digitsVal_acc (ds : List Nat) (a : Nat) : digitsVal ds a = a * 10 ^ ds.length + digitsVal ds 0 := by
  induction ds generalizing a with
  | nil => simp [digitsVal]
  | cons d ds ih =>
    simp only [digitsVal, List.length_cons]
    rw [ih (a * 10 + d), ih (0 * 10 + d)]
    rw [Nat.pow_succ, Nat.add_mul]
    simp only [Nat.zero_mul, Nat.zero_add]
    rw [Nat.mul_assoc, Nat.mul_comm 10 (10 ^ ds.length)]
    omega

theorem natDigitsAux_val (fuel n : Nat) (acc : List Nat) (h : n < fuel) :
    digitsVal (natDigitsAux fuel n acc) 0 = n * 10 ^ acc.length + digitsVal acc 0 := by
  induction fuel generalizing n acc with
  | zero => omega
  | succ f ih =>
    simp only [natDigitsAux]
    by_cases h10 : n < 10
    · rw [if_pos h10]
      simp only [digitsVal, Nat.zero_mul, Nat.zero_add]
      rw [digitsVal_acc]
    · rw [if_neg h10]
      rw [ih (n / 10) (n % 10 :: acc) (by omega)]
      simp only [digitsVal, List.length_cons, Nat.zero_mul, Nat.zero_add]
      rw [digitsVal_acc acc (n % 10), Nat.pow_succ]
      have := Nat.div_add_mod n 10
      have e : n / 10 * (10 ^ acc.length * 10) = (10 * (n / 10)) * 10 ^ acc.length := by
        rw [Nat.mul_comm (10 ^ acc.length) 10, ← Nat.mul_assoc, Nat.mul_comm (n / 10) 10]
      rw [e, ← Nat.add_assoc, ← Nat.add_mul, this]

/-- what comes out is a non-empty list of digits, provided the accumulator holds digits -/
theorem natDigitsAux_digits (fuel n : Nat) (acc : List Nat) (h : n < fuel) (hacc : ∀ d ∈ acc, d < 10) :
    (∀ d ∈ natDigitsAux fuel n acc, d < 10) ∧ natDigitsAux fuel n acc ≠ [] := by
  induction fuel generalizing n acc with
  | zero => omega
  | succ f ih =>
    simp only [natDigitsAux]
    by_cases h10 : n < 10
    · rw [if_pos h10]
      refine ⟨fun d hd => ?_, by simp⟩
      rcases List.mem_cons.mp hd with rfl | h'
      · exact h10
      · exact hacc d h'
    · rw [if_neg h10]
      apply ih (n / 10) (n % 10 :: acc) (by omega)
      intro d hd
      rcases List.mem_cons.mp hd with rfl | h'
      · omega
      · exact hacc d h'

theorem natDigits_val (n : Nat) : digitsVal (natDigits n) 0 = n := by
  unfold natDigits
  rw [natDigitsAux_val _ _ _ (by omega)]
  simp [digitsVal]

theorem natDigits_lt10 (n : Nat) : ∀ d ∈ natDigits n, d < 10 :=
  (natDigitsAux_digits _ _ _ (by omega) (by simp)).1

theorem natDigits_ne_nil (n : Nat) : natDigits n ≠ [] :=
  (natDigitsAux_digits (n + 1) n [] (by omega) (by simp)).2

def digitChar (d : Nat) : UInt8 := UInt8.ofNat (48 + d)

theorem digitChar_toNat (d : Nat) (h : d < 10) : (digitChar d).toNat = 48 + d := by
  unfold digitChar
  rw [UInt8.toNat_ofNat']
  omega

theorem parseDigits_map (ds : List Nat) (a : Nat) (h : ∀ d ∈ ds, d < 10) :
    parseDigits (ds.map digitChar) a = some (digitsVal ds a) := by
  induction ds generalizing a with
  | nil => rfl
  | cons d ds ih =>
    have hd : d < 10 := h d (by simp)
    simp only [List.map_cons, parseDigits, digitsVal]
    rw [digitChar_toNat d hd]
    rw [if_pos (by omega)]
    have : 48 + d - 48 = d := by omega
    rw [this]
    exact ih _ (fun x hx => h x (by simp [hx]))

theorem asciiToInt_intToAscii (z : Int) : asciiToInt (intToAscii z) = some z := by
  unfold intToAscii
  have hmap : (natDigits z.natAbs).map (fun d => UInt8.ofNat (48 + d)) = (natDigits z.natAbs).map digitChar := rfl
  simp only [hmap]
  have hp := parseDigits_map (natDigits z.natAbs) 0 (natDigits_lt10 _)
  rw [natDigits_val] at hp
  by_cases hz : z < 0
  · rw [if_pos hz]
    have hne : (natDigits z.natAbs).map digitChar ≠ [] := by
      intro h
      exact natDigits_ne_nil _ (List.map_eq_nil_iff.mp h)
    simp only [asciiToInt, if_true, if_neg hne, hp]
    simp only [Option.some.injEq, Int.ofNat_eq_natCast]
    omega
  · rw [if_neg hz]
    cases hds : natDigits z.natAbs with
    | nil => exact absurd hds (natDigits_ne_nil _)
    | cons d ds =>
      have hd : d < 10 := natDigits_lt10 z.natAbs d (by rw [hds]; simp)
      rw [hds] at hp
      simp only [List.map_cons] at hp ⊢
      have h45 : digitChar d ≠ 45 := by
        intro h
        have := congrArg UInt8.toNat h
        rw [digitChar_toNat d hd] at this
        have h2 : (45 : UInt8).toNat = 45 := rfl
        omega
      simp only [asciiToInt, if_neg h45, hp]
      simp only [Option.some.injEq, Int.ofNat_eq_natCast]
      omega

/-! ### little-endian fields -/

theorem fromLE_toLE (w n : Nat) (h : n < 256 ^ w) : fromLE (toLE w n) = n := by
  unfold fromLE toLE
  rw [List.reverse_reverse]
  exact fromBE_toBE w n h

@[simp] theorem toLE_length (w n : Nat) : (toLE w n).length = w := by
  unfold toLE; simp

theorem take_toLE_append (w n : Nat) (b : Bytes) : (toLE w n ++ b).take w = toLE w n :=
  List.take_left' (toLE_length w n)

theorem drop_toLE_append (w n : Nat) (b : Bytes) : (toLE w n ++ b).drop w = b :=
  List.drop_left' (toLE_length w n)

/-! ### msgpack ext values: `ext_hook` undoes what `default` built -/

theorem extHook_complex (re im : Nat) (hr : re < 2 ^ 64) (hi : im < 2 ^ 64) :
    extHook extComplex (toLE 8 re ++ toLE 8 im) = .ok (.complex re im) := by
  unfold extHook
  simp only [if_true]
  rw [if_pos (by simp)]
  rw [take_toLE_append, drop_toLE_append, fromLE_toLE 8 re (by simpa using hr), fromLE_toLE 8 im (by simpa using hi)]

theorem extHook_long (z : Int) : extHook extLong (intToAscii z) = .ok (.int z) := by
  unfold extHook
  rw [if_neg (by decide), if_pos rfl, asciiToInt_intToAscii]

theorem extHook_date (ord : Nat) (h1 : 1 ≤ ord) (h2 : ord ≤ maxOrdinal) :
    extHook extDate (toLE 8 ord) = .ok (.date ord) := by
  unfold extHook
  rw [if_neg (by decide), if_neg (by decide), if_neg (by decide), if_pos rfl, if_pos (by simp)]
  have : ord < 256 ^ 8 := by unfold maxOrdinal at h2; omega
  simp only [fromLE_toLE 8 ord this]
  rw [if_pos ⟨h1, h2⟩]

/-! ### dict bookkeeping (recursive theorems: `Pairs` is part of a mutual inductive type) -/

theorem Pairs.lookup_eq_none (k : Val) : ∀ (d : Pairs), d.lookup k = none ↔ d.hasKey k = false
  | .nil => by simp [Pairs.lookup, Pairs.hasKey]
  | .cons k' v r => by
    have ih := Pairs.lookup_eq_none k r
    simp only [Pairs.lookup, Pairs.hasKey]
    split <;> simp [ih]

theorem Pairs.pushFront_fresh (k v : Val) (r : Pairs) (h : r.hasKey k = false) :
    r.pushFront k v = .cons k v r := by
  rw [Pairs.pushFront, (Pairs.lookup_eq_none k r).mpr h]

theorem Pairs.hasKey_erase (k k' : Val) : ∀ (d : Pairs),
    (d.erase k).hasKey k' = (if k' = k then false else d.hasKey k')
  | .nil => by simp [Pairs.erase, Pairs.hasKey]
  | .cons a v r => by
    have ih := Pairs.hasKey_erase k k' r
    by_cases e : a = k
    · -- the pair goes; it could have answered for `k' = k` only
      subst e
      simp only [Pairs.erase, if_true, ih, Pairs.hasKey]
      by_cases e2 : k' = a
      · simp [e2]
      · have e3 : ¬a = k' := fun h => e2 h.symm
        simp [e2, e3]
    · simp only [Pairs.erase, if_neg e, Pairs.hasKey, ih]
      by_cases e2 : k' = k
      · subst e2
        simp [e]
      · simp [e2]

theorem Pairs.nodupKeys_erase (k : Val) : ∀ (d : Pairs), d.nodupKeys = true → (d.erase k).nodupKeys = true
  | .nil, _ => rfl
  | .cons a v r, h => by
    simp only [Pairs.nodupKeys, Bool.and_eq_true, Bool.not_eq_true'] at h
    have ih := Pairs.nodupKeys_erase k r h.2
    by_cases e : a = k
    · simpa [Pairs.erase, e] using ih
    · -- the pair stays, and its key is still absent from the rest
      simp [Pairs.erase, e, Pairs.nodupKeys, Pairs.hasKey_erase, h.1, ih]

theorem Pairs.hasKey_pushFront (k v k' : Val) (r : Pairs) :
    (r.pushFront k v).hasKey k' = (if k = k' then true else r.hasKey k') := by
  unfold Pairs.pushFront
  split
  · -- `k` is in `r` already: it moves to the front and `r` loses it
    by_cases e : k = k'
    · simp [Pairs.hasKey, e]
    · have e' : ¬k' = k := fun h => e h.symm
      simp [Pairs.hasKey, e, e', Pairs.hasKey_erase]
  · simp [Pairs.hasKey]

theorem Pairs.nodupKeys_pushFront (k v : Val) (r : Pairs) (h : r.nodupKeys = true) :
    (r.pushFront k v).nodupKeys = true := by
  unfold Pairs.pushFront
  split
  · simp [Pairs.nodupKeys, Pairs.hasKey_erase, Pairs.nodupKeys_erase k r h]
  · simp_all [Pairs.nodupKeys, Pairs.lookup_eq_none]

end Pyro.Values
