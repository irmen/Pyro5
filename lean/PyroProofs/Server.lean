/-
  Lemmas about `PyroModel.Server` that the properties of the connection life cycle (C08, C13) share: what one item
  does to a connection in each phase, the three possible answers of the handshake, and the lifting of a property of
  connection records that every event preserves to runs of one connection and of the daemon.
-/
import PyroModel.Server

namespace Pyro.Server

variable {c : Conn} {it : Item} {reply : Option Reply}

theorem connEvent_closed (it : Item) (hp : c.phase = .closed) : connEvent c it = c := by
  unfold connEvent
  rw [hp]

theorem connEvent_accept (hp : c.phase = .fresh) (h : handshake it = (reply, true)) :
    connEvent c it = { c with outbox := c.outbox ++ reply.toList, phase := .active, slot := true } := by
  unfold connEvent
  rw [hp, h]
  rfl

theorem connEvent_refuse (hp : c.phase = .fresh) (h : handshake it = (reply, false)) :
    connEvent c it =
      { c with
        phase := .closed, outbox := c.outbox ++ reply.toList, closeCalls := c.closeCalls + 1, tracked := [],
        resClosed := c.resClosed ++ c.tracked, sessionInst := false } := by
  unfold connEvent
  rw [hp, h]
  rfl

theorem connEvent_request (hp : c.phase = .active) (h : (handleRequest it).raised = false) :
    connEvent c it =
      { c with
        outbox := c.outbox ++ (handleRequest it).reply.toList, execs := c.execs ++ (handleRequest it).execs,
        tracked := delTracked (addTracked c.tracked (handleRequest it).tracks) (handleRequest it).untracks,
        sessionInst := c.sessionInst || (handleRequest it).session } := by
  unfold connEvent
  rw [hp]
  dsimp only
  rw [h]
  rfl

theorem connEvent_raised (hp : c.phase = .active) (h : (handleRequest it).raised = true) :
    connEvent c it =
      { c with
        phase := .closed, outbox := c.outbox ++ (handleRequest it).reply.toList,
        execs := c.execs ++ (handleRequest it).execs, hookCalls := c.hookCalls + 1, closeCalls := c.closeCalls + 1,
        tracked := [],
        resClosed := c.resClosed ++ delTracked (addTracked c.tracked (handleRequest it).tracks) (handleRequest it).untracks,
        sessionInst := false, slot := false } := by
  unfold connEvent
  rw [hp]
  dsimp only
  rw [h]
  rfl

/-- Case principle for `handshake`: no answer (the peer is gone), a CONNECTFAIL and False, or a CONNECTOK and True. -/
theorem handshake_ind (P : Item → Option Reply × Bool → Prop) (cut : P .cut (none, false))
    (fail : ∀ it sq i, it ≠ .cut → P it (some ⟨MSG_CONNECTFAIL, sq, i, false, []⟩, false))
    (ok : ∀ m, m.type = MSG_CONNECT → knownSerializer m.serId = true → m.body = .handshake true true .accept →
      P (.msg m) (some ⟨MSG_CONNECTOK, m.seq, m.serId, false, []⟩, true)) :
    ∀ it, P it (handshake it) := by
  intro it
  cases it with
  | cut => exact cut
  | garbage => exact fail _ _ _ nofun
  | timeout => exact fail _ _ _ nofun
  | msg m =>
    unfold handshake
    dsimp only
    by_cases h1 : m.type ≠ MSG_CONNECT
    · rw [if_pos h1]
      exact fail _ _ _ nofun
    · rw [if_neg h1]
      by_cases h2 : (!knownSerializer m.serId) = true
      · rw [if_pos h2]
        exact fail _ _ _ nofun
      · rw [if_neg h2]
        split
        · exact ok m (Decidable.not_not.mp h1) (by simpa using h2) (by assumption)
        · exact fail _ _ _ nofun

theorem handshake_reply (it : Item) :
    ((handshake it).2 = true → ∃ r, (handshake it).1 = some r ∧ r.type = MSG_CONNECTOK) ∧
    ((handshake it).2 = false →
        (it = .cut ∧ (handshake it).1 = none) ∨
        ∃ r, (handshake it).1 = some r ∧ r.type = MSG_CONNECTFAIL) :=
  handshake_ind (fun it p => (p.2 = true → ∃ r, p.1 = some r ∧ r.type = MSG_CONNECTOK) ∧
      (p.2 = false → (it = .cut ∧ p.1 = none) ∨ ∃ r, p.1 = some r ∧ r.type = MSG_CONNECTFAIL))
    ⟨nofun, fun _ => .inl ⟨rfl, rfl⟩⟩ (fun _ _ _ _ => ⟨nofun, fun _ => .inr ⟨_, rfl, rfl⟩⟩)
    (fun _ _ _ _ => ⟨fun _ => ⟨_, rfl, rfl⟩, nofun⟩) it

theorem connectOk_first_append {out : List Reply} (h : ∃ r rest, out = r :: rest ∧ r.type = MSG_CONNECTOK)
    (x : List Reply) : ∃ r rest, out ++ x = r :: rest ∧ r.type = MSG_CONNECTOK := by
  obtain ⟨r, rest, rfl, hr⟩ := h
  exact ⟨r, rest ++ x, rfl, hr⟩

theorem step_getElem? (d : Daemon) (ev : Nat × Item) (j : Nat) :
    (step d ev)[j]? = if ev.1 = j then d[j]?.map (connEvent · ev.2) else d[j]? := by
  unfold step
  by_cases h : ev.1 = j
  · subst h
    cases hd : d[ev.1]? <;> simp [hd, List.getElem?_set_self']
  · cases d[ev.1]? <;> simp [h]

theorem run_inv {P : Conn → Prop} (hP : ∀ c it, P c → P (connEvent c it)) (evs : List (Nat × Item)) :
    ∀ (d : Daemon), (∀ (j : Nat) (c' : Conn), d[j]? = some c' → P c') →
      ∀ (j : Nat) (c' : Conn), (run d evs)[j]? = some c' → P c' := by
  induction evs with
  | nil => exact fun _ hd => hd
  | cons ev evs ih =>
    intro d hd
    apply ih (step d ev)
    intro j c' hj
    rw [step_getElem?] at hj
    split at hj
    · obtain ⟨c0, h0, rfl⟩ := Option.map_eq_some_iff.mp hj
      exact hP c0 ev.2 (hd j c0 h0)
    · exact hd j c' hj

theorem foldl_inv {P : Conn → Prop} (hP : ∀ c it, P c → P (connEvent c it)) (items : List Item) :
    ∀ (c : Conn), P c → P (items.foldl connEvent c) := by
  induction items with
  | nil => exact fun _ h => h
  | cons it its ih => exact fun c h => ih _ (hP c it h)

end Pyro.Server
