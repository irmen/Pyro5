/-
  Helper lemmas for C09 (PyroModel/Instances.lean).  What is known of one call comes from `getInstance_cases`, of one
  event from `stepEv_state`; the trace-level lemmas the property theorems are assembled from are invariants of
  `before … j`, the state in which event `j` runs, carried from one event to a later one by `before_inv`.
-/
import PyroModel.Instances
import PyroProofs.Lock

namespace Pyro.Inst

open Pyro.Lock

/-! ### tables -/

theorem setSlot_same (tab : Table) (sl : Slot) (v : Option Instance) : setSlot tab sl v sl = v := by
  simp [setSlot]

theorem setSlot_ne (tab : Table) (sl x : Slot) (v : Option Instance) (h : x ≠ sl) :
    setSlot tab sl v x = tab x := by
  simp [setSlot, h]

theorem clearConn_own (tab : Table) (c k : Nat) : clearConn tab c (.sess c k) = none := by
  simp [clearConn]

/-- may the event empty the slot?  (`open`/`close` of the slot's connection; closing a `keep_open` connection empties
    nothing) -/
def clears : Event → Slot → Bool
  | .openConn c _, .sess c' _ => c == c'
  | .close c, .sess c' _ => c == c'
  | _, _ => false

theorem clearConn_cases (tab : Table) (c : Nat) (sl : Slot) (e : Event) (he : e = .close c ∨ ∃ k, e = .openConn c k) :
    clearConn tab c sl = tab sl ∨ clears e sl = true ∧ clearConn tab c sl = none := by
  cases sl with
  | single k => exact .inl rfl
  | sess c' k =>
    by_cases h : c' = c
    · subst h
      exact .inr ⟨by rcases he with rfl | ⟨_, rfl⟩ <;> simp [clears], clearConn_own _ _ _⟩
    · exact .inl (by simp [clearConn, h])

/-- a slot that an event left alone or emptied holds nothing new -/
theorem kept_of_some {x y : Option Instance} {p : Prop} {b : Instance} (h : x = y ∨ p ∧ x = none)
    (hb : x = some b) : y = some b := by
  rcases h with h | ⟨_, h⟩
  · exact h ▸ hb
  · rw [h] at hb; cases hb

theorem storeIn_none (tab : Table) (i : Instance) : storeIn tab none i = tab := rfl

theorem storeIn_some (tab : Table) (sl : Slot) (i : Instance) :
    storeIn tab (some sl) i = setSlot tab sl (some i) := rfl

theorem storeIn_cases {tab : Table} {slot : Option Slot} {i b : Instance} {x : Slot}
    (h : storeIn tab slot i x = some b) : slot = some x ∧ b = i ∨ tab x = some b := by
  cases slot with
  | none => exact .inr h
  | some sl =>
    by_cases hx : x = sl
    · subst hx; rw [storeIn_some, setSlot_same] at h; exact .inl ⟨rfl, (Option.some.inj h).symm⟩
    · rw [storeIn_some, setSlot_ne _ _ _ _ hx] at h; exact .inr h

theorem storeIn_ne (tab : Table) (slot : Option Slot) (i : Instance) (x : Slot) (h : slot ≠ some x) :
    storeIn tab slot i x = tab x := by
  cases slot with
  | none => rfl
  | some sl => exact setSlot_ne _ _ _ _ fun hx => h (hx ▸ rfl)

/-! ### the shape of one call -/

theorem createInstance_idx {cr : Creator} {o : Outcome} {n : Nat} {i : Instance} {c : Bool}
    (h : createInstance cr o n = .inst i c) : i.idx = n := by
  cases o with
  | ok t e => cases cr <;> (cases h; rfl)
  | wrongType t e =>
    cases cr with
    | callable => cases h
    | _ => cases h; rfl
  | raises => cases cr <;> cases h

/-- What a call can do: change nothing, and be served, if at all, by the instance found in its slot; or create
    instance number `s.next` and store it in its slot (if it has one). -/
def CallShape (ts : Tests) (slot : Option Slot) (s s1 : State) (r : Res) : Prop :=
  (s1 = s ∧ ∀ i c d, r = .served i c d → c = false ∧ ∃ sl, slot = some sl ∧ s.tab sl = some i) ∨
  (∃ i called, i.idx = s.next ∧
      (∀ sl a, slot = some sl → s.tab sl = some a → reuse (testOf ts sl) a = false) ∧
      s1 = { s with next := s.next + 1, tab := storeIn s.tab slot i } ∧ r = .served i true called)

theorem createIn_shape (ts : Tests) (cr : Creator) (slot : Option Slot) (o : Outcome) (s : State)
    (h2 : ∀ sl a, slot = some sl → s.tab sl = some a → reuse (testOf ts sl) a = false) :
    CallShape ts slot s (createIn cr slot o s).1 (createIn cr slot o s).2 := by
  unfold createIn
  cases h : createInstance cr o s.next with
  | inst i called => exact .inr ⟨i, called, createInstance_idx h, h2, rfl, rfl⟩
  | typeError => exact .inl ⟨rfl, fun _ _ _ hr => nomatch hr⟩
  | raised c => exact .inl ⟨rfl, fun _ _ _ hr => nomatch hr⟩

theorem getInstance_slot (ts : Tests) (spec : ClassSpec) (c k : Nat) (o : Outcome) (s : State) (sl : Slot)
    (hsl : slotOf spec.mode c k = some sl) :
    getInstance ts spec c k o s = findOrCreate (testOf ts sl) spec.creator sl o s := by
  unfold getInstance
  cases hm : spec.mode with
  | single => rw [hm] at hsl; cases hsl; rfl
  | session => rw [hm] at hsl; cases hsl; rfl
  | percall => rw [hm] at hsl; cases hsl
  | invalid => rw [hm] at hsl; cases hsl

/-- case principle of a call: a hit (reusable instance in the call's slot, handed out, nothing changed), a creation
    attempt (made only when the slot holds nothing reusable), or the refusal of an invalid mode -/
theorem getInstance_cases (ts : Tests) (spec : ClassSpec) (c k : Nat) (o : Outcome) (s : State)
    (P : State × Res → Prop)
    (hit : ∀ sl i, slotOf spec.mode c k = some sl → s.tab sl = some i → reuse (testOf ts sl) i = true →
      P (s, .served i false false))
    (create : (∀ sl a, slotOf spec.mode c k = some sl → s.tab sl = some a → reuse (testOf ts sl) a = false) →
      P (createIn spec.creator (slotOf spec.mode c k) o s))
    (invalid : P (s, .daemonError)) : P (getInstance ts spec c k o s) := by
  cases hsl : slotOf spec.mode c k with
  | none =>
    rw [hsl] at create
    unfold getInstance
    cases hm : spec.mode with
    | single => rw [hm] at hsl; cases hsl
    | session => rw [hm] at hsl; cases hsl
    | percall => exact create fun _ _ h => by cases h
    | invalid => exact invalid
  | some sl =>
    rw [hsl] at create
    rw [getInstance_slot ts spec c k o s sl hsl, findOrCreate]
    cases h : s.tab sl with
    | none => exact create fun sl' a h1 h2 => by cases h1; rw [h] at h2; cases h2
    | some i =>
      cases hr : reuse (testOf ts sl) i with
      | true => simp only [hr, if_true]; exact hit sl i hsl h hr
      | false =>
        simp only [hr, Bool.false_eq_true, if_false]
        exact create fun sl' a h1 h2 => by cases h1; rw [h] at h2; cases h2; exact hr

theorem getInstance_shape (ts : Tests) (spec : ClassSpec) (c k : Nat) (o : Outcome) (s : State) :
    CallShape ts (slotOf spec.mode c k) s (getInstance ts spec c k o s).1 (getInstance ts spec c k o s).2 :=
  getInstance_cases ts spec c k o s (fun p => CallShape ts (slotOf spec.mode c k) s p.1 p.2)
    (fun sl i hsl h _ => .inl ⟨rfl, fun _ _ _ hr => by cases hr; exact ⟨rfl, sl, hsl, h⟩⟩)
    (createIn_shape ts spec.creator _ o s) (.inl ⟨rfl, fun _ _ _ hr => nomatch hr⟩)

theorem getInstance_ne_done {ts : Tests} {spec : ClassSpec} {c k : Nat} {o : Outcome} {s : State} :
    (getInstance ts spec c k o s).2 ≠ .done := by
  refine getInstance_cases ts spec c k o s (fun p => p.2 ≠ .done) (fun _ _ _ _ _ => nofun) (fun _ => ?_) nofun
  unfold createIn
  cases createInstance spec.creator o s.next <;> nofun

theorem served_shape {ts : Tests} {spec : ClassSpec} {c k : Nat} {o : Outcome} {s : State} {a : Instance} {x y : Bool}
    (hr : (getInstance ts spec c k o s).2 = .served a x y) :
    ((getInstance ts spec c k o s).1 = s ∧ x = false ∧ ∃ sl, slotOf spec.mode c k = some sl ∧ s.tab sl = some a) ∨
    ((getInstance ts spec c k o s).1 = { s with next := s.next + 1, tab := storeIn s.tab (slotOf spec.mode c k) a } ∧
      x = true ∧ a.idx = s.next) := by
  rcases getInstance_shape ts spec c k o s with ⟨hs, hf⟩ | ⟨i, called, h1, _, hs, hr'⟩
  · exact .inl ⟨hs, hf a x y hr⟩
  · rw [hr'] at hr; cases hr; exact .inr ⟨hs, rfl, h1⟩

/-- who called the creator: never on re-use; on a creation attempt exactly when the class has a
    (truthy) creator; a TypeError can only come from a creator -/
def creatorOk (cr : Creator) : Res → Prop
  | .served _ false cc => cc = false
  | .served _ true cc => cc = (cr == .callable)
  | .typeError => cr = .callable
  | .raised cc => cc = (cr == .callable)
  | _ => True

theorem getInstance_creator (ts : Tests) (spec : ClassSpec) (c k : Nat) (o : Outcome) (s : State) :
    creatorOk spec.creator (getInstance ts spec c k o s).2 := by
  refine getInstance_cases ts spec c k o s (fun p => creatorOk spec.creator p.2) (fun _ _ _ _ _ => rfl) (fun _ => ?_)
    trivial
  unfold createIn createInstance
  cases spec.creator <;> cases o <;> simp [creatorOk]

/-- a failed creation (wrong type, exception) or an invalid mode stores nothing -/
theorem fail_unchanged (ts : Tests) (spec : ClassSpec) (c k : Nat) (o : Outcome) (s : State)
    (h : ∀ i x y, (getInstance ts spec c k o s).2 ≠ .served i x y) : (getInstance ts spec c k o s).1 = s := by
  rcases getInstance_shape ts spec c k o s with ⟨hs, _⟩ | ⟨i, called, _, _, _, hr'⟩
  · exact hs
  · exact absurd hr' (h i true called)

theorem reuse_of_truthy (t : Test) (a : Instance) (h : a.truthy = true) : reuse t a = true := by
  cases t <;> simp [reuse, h]

/-- a `percall` class never hands out an existing instance -/
theorem percall_created (ts : Tests) (spec : ClassSpec) (c k : Nat) (o : Outcome) (s : State)
    (a : Instance) (x y : Bool) (hm : spec.mode = .percall)
    (hr : (getInstance ts spec c k o s).2 = .served a x y) : x = true := by
  rcases served_shape hr with ⟨_, _, sl, h1, _⟩ | ⟨_, hx, _⟩
  · rw [hm] at h1; cases h1
  · exact hx

/-! ### well-formed tables -/

/-- Well-formed tables: every stored instance was created before now, and no instance sits in two
    slots. -/
structure WF (s : State) : Prop where
  bound : ∀ sl a, s.tab sl = some a → a.idx < s.next
  inj : ∀ sl sl' a b, s.tab sl = some a → s.tab sl' = some b → a.idx = b.idx → sl = sl'

theorem wf_init : WF State.init :=
  ⟨fun _ _ h => (nomatch h), fun _ _ _ _ h => nomatch h⟩

theorem wf_sub {s s' : State} (h : WF s) (hn : s'.next = s.next)
    (ht : ∀ sl b, s'.tab sl = some b → s.tab sl = some b) : WF s' :=
  ⟨fun sl a ha => hn ▸ h.bound sl a (ht sl a ha),
   fun sl sl' a b ha hb => h.inj sl sl' a b (ht sl a ha) (ht sl' b hb)⟩

theorem wf_store (s : State) (slot : Option Slot) (i : Instance) (h : WF s) (h1 : i.idx = s.next) :
    WF { s with next := s.next + 1, tab := storeIn s.tab slot i } := by
  refine ⟨fun sl a ha => ?_, fun sl sl' a b ha hb hab => ?_⟩
  · rcases storeIn_cases ha with ⟨_, rfl⟩ | ha
    · exact h1 ▸ Nat.lt_succ_self _
    · exact Nat.lt_succ_of_lt (h.bound sl a ha)
  · rcases storeIn_cases ha with ⟨h2, rfl⟩ | ha' <;> rcases storeIn_cases hb with ⟨h3, rfl⟩ | hb'
    · exact Option.some.inj (h2.symm.trans h3)
    · have := h.bound sl' b hb'; omega
    · have := h.bound sl a ha'; omega
    · exact h.inj sl sl' a b ha' hb' hab

/-! ### one event -/

variable {ts : Tests} {spec : Nat → ClassSpec}

theorem stepEv_served {s : State} {e : Event} {a : Instance} {x y : Bool}
    (h : (stepEv ts spec s e).2 = .served a x y) : ∃ c k o, e = .call c k o := by
  cases e with
  | call c k o => exact ⟨c, k, o, rfl⟩
  | openConn c kp => simp [stepEv] at h
  | close c =>
    simp only [stepEv] at h
    split at h <;> simp at h

/-- an event creates nothing and leaves each slot alone or empties a slot it `clears`; or it is a call that creates
    instance number `s.next` and stores it in its slot -/
theorem stepEv_state (ts : Tests) (spec : Nat → ClassSpec) (s : State) (e : Event) :
    ((stepEv ts spec s e).1.next = s.next ∧
      ∀ sl, (stepEv ts spec s e).1.tab sl = s.tab sl ∨ clears e sl = true ∧ (stepEv ts spec s e).1.tab sl = none) ∨
    ∃ c k o i, e = .call c k o ∧ i.idx = s.next ∧
      (∀ sl a, slotOf (spec k).mode c k = some sl → s.tab sl = some a → reuse (testOf ts sl) a = false) ∧
      (stepEv ts spec s e).1 = { s with next := s.next + 1, tab := storeIn s.tab (slotOf (spec k).mode c k) i } := by
  cases e with
  | openConn c kp => exact .inl ⟨rfl, fun sl => clearConn_cases _ c sl _ (.inr ⟨kp, rfl⟩)⟩
  | close c =>
    cases hk : s.keep c with
    | true => exact .inl ⟨by simp only [stepEv, hk, if_true], fun _ => .inl (by simp only [stepEv, hk, if_true])⟩
    | false =>
      have h : (stepEv ts spec s (.close c)).1 = { s with tab := clearConn s.tab c } := by
        simp only [stepEv, hk, Bool.false_eq_true, if_false]
      exact .inl ⟨by rw [h], fun sl => h ▸ clearConn_cases _ c sl _ (.inl rfl)⟩
  | call c k o =>
    rw [show (stepEv ts spec s (.call c k o)).1 = (getInstance ts (spec k) c k o s).1 from rfl]
    rcases getInstance_shape ts (spec k) c k o s with ⟨hs, _⟩ | ⟨i, called, h1, h2, hs, hr⟩
    · exact .inl ⟨by rw [hs], fun _ => .inl (by rw [hs])⟩
    · exact .inr ⟨c, k, o, i, rfl, h1, h2, hs⟩

theorem next_mono (ts : Tests) (spec : Nat → ClassSpec) (s : State) (e : Event) :
    s.next ≤ (stepEv ts spec s e).1.next := by
  rcases stepEv_state ts spec s e with ⟨hn, _⟩ | ⟨c, k, o, i, _, _, _, hs⟩
  · exact Nat.le_of_eq hn.symm
  · rw [hs]; exact Nat.le_succ _

theorem wf_step (ts : Tests) (spec : Nat → ClassSpec) (s : State) (e : Event) (h : WF s) :
    WF (stepEv ts spec s e).1 := by
  rcases stepEv_state ts spec s e with ⟨hn, ht⟩ | ⟨c, k, o, i, _, h1, _, hs⟩
  · exact wf_sub h hn fun sl b hb => kept_of_some (ht sl) hb
  · rw [hs]; exact wf_store s _ i h h1

/-- an index that no `P`-slot holds, and that is already used up, never enters a `P`-slot -/
theorem avoid_step {s : State} {e : Event} (P : Slot → Prop) {x : Nat}
    (hx : x < s.next) (h : ∀ sl, P sl → ∀ b, s.tab sl = some b → b.idx ≠ x) :
    ∀ sl, P sl → ∀ b, (stepEv ts spec s e).1.tab sl = some b → b.idx ≠ x := by
  rcases stepEv_state ts spec s e with ⟨_, ht⟩ | ⟨c, k, o, i, _, h1, _, hs⟩
  · intro sl hp b hb; exact h sl hp b (kept_of_some (ht sl) hb)
  · rw [hs]
    intro sl hp b hb
    rcases storeIn_cases hb with ⟨_, rfl⟩ | hb
    · omega
    · exact h sl hp b hb

/-- a slot holding a reusable instance keeps it until its connection is opened anew or closed -/
theorem stable_step {s : State} {e : Event} {sl : Slot} {a : Instance}
    (h : s.tab sl = some a) (hr : reuse (testOf ts sl) a = true) (hc : clears e sl = false) :
    (stepEv ts spec s e).1.tab sl = some a := by
  rcases stepEv_state ts spec s e with ⟨_, ht⟩ | ⟨c, k, o, i, _, _, h2, hs⟩
  · rcases ht sl with h1 | ⟨hcl, _⟩
    · rw [h1]; exact h
    · rw [hc] at hcl; cases hcl
  · rw [hs]
    show storeIn s.tab _ i sl = some a
    rw [storeIn_ne _ _ _ _ fun hsl => by have := h2 sl a hsl h; rw [hr] at this; cases this]
    exact h

/-- an empty slot stays empty until a call addresses it -/
theorem none_step {s : State} {e : Event} {sl : Slot}
    (h : s.tab sl = none)
    (hc : ∀ c k o, e = .call c k o → slotOf (spec k).mode c k ≠ some sl) :
    (stepEv ts spec s e).1.tab sl = none := by
  rcases stepEv_state ts spec s e with ⟨_, ht⟩ | ⟨c, k, o, i, he, _, _, hs⟩
  · rcases ht sl with h1 | ⟨_, h1⟩
    · rw [h1]; exact h
    · exact h1
  · rw [hs]
    show storeIn s.tab _ i sl = none
    rw [storeIn_ne _ _ _ _ (hc c k o he)]
    exact h

/-- after a call was served from a slot, the slot holds the instance that served it -/
theorem served_stored {s : State} {c k : Nat} {o : Outcome} {sl : Slot} {a : Instance} {x y : Bool}
    (hsl : slotOf (spec k).mode c k = some sl)
    (hr : (stepEv ts spec s (.call c k o)).2 = .served a x y) :
    (stepEv ts spec s (.call c k o)).1.tab sl = some a := by
  show (getInstance ts (spec k) c k o s).1.tab sl = some a
  rcases served_shape hr with ⟨hs, _, sl', h1, h2⟩ | ⟨hs, _, _⟩ <;> rw [hs]
  · rw [hsl] at h1; cases h1; exact h2
  · simp only [hsl, storeIn_some, setSlot_same]

theorem served_bound {s : State} {e : Event} {a : Instance} {x y : Bool}
    (hwf : WF s) (hr : (stepEv ts spec s e).2 = .served a x y) :
    a.idx < (stepEv ts spec s e).1.next := by
  obtain ⟨c, k, o, rfl⟩ := stepEv_served hr
  show a.idx < (getInstance ts (spec k) c k o s).1.next
  rcases served_shape hr with ⟨hs, _, sl', _, h2⟩ | ⟨hs, _, h1⟩ <;> rw [hs]
  · exact hwf.bound _ _ h2
  · simp only; omega

/-- after a call was served by `a`, no slot other than the call's own holds `a` -/
theorem absent_after {s : State} {c k : Nat} {o : Outcome} {a : Instance} {x y : Bool} (hwf : WF s)
    (hr : (stepEv ts spec s (.call c k o)).2 = .served a x y) :
    ∀ sl, slotOf (spec k).mode c k ≠ some sl →
      ∀ b, (stepEv ts spec s (.call c k o)).1.tab sl = some b → b.idx ≠ a.idx := by
  show ∀ sl, _ → ∀ b, (getInstance ts (spec k) c k o s).1.tab sl = some b → _
  rcases served_shape hr with ⟨hs, _, sl', h1, h2⟩ | ⟨hs, _, h1⟩ <;> rw [hs]
  · intro sl hne b hb heq
    have := hwf.inj sl sl' b a hb h2 heq
    rw [this] at hne; exact hne h1
  · intro sl hne b hb
    rcases storeIn_cases hb with ⟨h2, _⟩ | hb
    · exact absurd h2 hne
    · have := hwf.bound sl b hb; omega

/-- did the call create an instance? -/
def isCreated : Res → Bool
  | .served _ true _ => true
  | _ => false

theorem next_step (ts : Tests) (spec : Nat → ClassSpec) (s : State) (e : Event) :
    (stepEv ts spec s e).1.next = s.next + (isCreated (stepEv ts spec s e).2).toNat := by
  cases e with
  | openConn c kp => simp [stepEv, isCreated]
  | close c => simp only [stepEv]; split <;> simp [isCreated]
  | call c k o =>
    refine getInstance_cases ts (spec k) c k o s (fun p => p.1.next = s.next + (isCreated p.2).toNat)
      (fun _ _ _ _ _ => rfl) (fun _ => ?_) rfl
    unfold createIn
    cases createInstance (spec k).creator o s.next <;> rfl

theorem keep_step {s : State} {e : Event} {c : Nat}
    (h : s.keep c = false) (he : e ≠ .openConn c true) : (stepEv ts spec s e).1.keep c = false := by
  cases e with
  | openConn c' kp =>
    simp only [stepEv]
    by_cases hc : c = c'
    · subst hc
      cases kp with
      | true => exact absurd rfl he
      | false => simp
    · simp [hc, h]
  | close c' => simp only [stepEv]; split <;> exact h
  | call c' k o =>
    simp only [stepEv]
    rcases getInstance_shape ts (spec k) c' k o s with ⟨hs, _⟩ | ⟨i, called, _, _, hs, _⟩
    · rw [hs]; exact h
    · rw [hs]; exact h

/-! ### whole histories (index form) -/

abbrev trace (ts : Tests) (spec : Nat → ClassSpec) (s : State) (h : List Event) : List Res :=
  (runHist ts spec s h).2

/-- the state in which event `j` of the history `h` is run -/
def before (ts : Tests) (spec : Nat → ClassSpec) (s : State) (h : List Event) (j : Nat) : State :=
  (runHist ts spec s (h.take j)).1

theorem before_step (ts : Tests) (spec : Nat → ClassSpec) : ∀ (h : List Event) (s : State) (j : Nat) (e : Event),
    h[j]? = some e →
    (trace ts spec s h)[j]? = some (stepEv ts spec (before ts spec s h j) e).2 ∧
    before ts spec s h (j + 1) = (stepEv ts spec (before ts spec s h j) e).1 := by
  intro h
  induction h with
  | nil => intro s j e hj; simp at hj
  | cons e0 es ih =>
    intro s j e hj
    cases j with
    | zero =>
      simp only [List.getElem?_cons_zero, Option.some.injEq] at hj
      subst hj
      exact ⟨rfl, rfl⟩
    | succ j => exact ih _ j e (by simpa using hj)

theorem trace_length (ts : Tests) (spec : Nat → ClassSpec) : ∀ (h : List Event) (s : State),
    (trace ts spec s h).length = h.length
  | [], _ => rfl
  | e :: es, s => congrArg (· + 1) (trace_length ts spec es (stepEv ts spec s e).1)

theorem trace_event {h : List Event} {s : State} {j : Nat} {r : Res}
    (ht : (trace ts spec s h)[j]? = some r) : ∃ e, h[j]? = some e :=
  ⟨_, List.getElem?_eq_getElem (trace_length ts spec h s ▸ (List.getElem?_eq_some_iff.1 ht).1)⟩

/-- what holds before event `i` and is kept by every event from `i` on holds before every later event -/
theorem before_inv (P : State → Prop) {h : List Event} {s : State} {i j : Nat}
    (hij : i ≤ j) (hP : P (before ts spec s h i))
    (step : ∀ m e, i ≤ m → m < j → h[m]? = some e → P (before ts spec s h m) →
      P (stepEv ts spec (before ts spec s h m) e).1) :
    P (before ts spec s h j) := by
  induction j with
  | zero => rw [← Nat.le_zero.1 hij]; exact hP
  | succ j ih =>
    rcases Nat.lt_or_ge i (j + 1) with hlt | hge
    · have hPj := ih (Nat.le_of_lt_succ hlt) fun m e h1 h2 => step m e h1 (Nat.lt_succ_of_lt h2)
      rcases Nat.lt_or_ge j h.length with hj | hj
      · have he := List.getElem?_eq_getElem hj
        rw [(before_step ts spec h s j _ he).2]
        exact step j _ (Nat.le_of_lt_succ hlt) (Nat.lt_succ_self j) he hPj
      · -- past the end of the history nothing happens any more
        have : before ts spec s h (j + 1) = before ts spec s h j := by
          simp only [before, List.take_of_length_le hj, List.take_of_length_le (Nat.le_succ_of_le hj)]
        rw [this]; exact hPj
    · rw [← Nat.le_antisymm hij hge]; exact hP

theorem wf_before (ts : Tests) (spec : Nat → ClassSpec) (h : List Event) (s : State) (j : Nat) (hw : WF s) :
    WF (before ts spec s h j) :=
  before_inv WF (Nat.zero_le _) hw fun _ e _ _ _ hp => wf_step ts spec _ e hp

theorem wf_run (ts : Tests) (spec : Nat → ClassSpec) (h : List Event) (s : State) (hw : WF s) :
    WF (runHist ts spec s h).1 := by
  have := wf_before ts spec h s h.length hw
  rwa [before, List.take_length] at this

theorem served_again {sl : Slot} {a : Instance} {h : List Event} {s : State}
    {i j c k : Nat} {o : Outcome} (hij : i ≤ j) (hs : (before ts spec s h i).tab sl = some a)
    (hr : reuse (testOf ts sl) a = true)
    (hcl : ∀ m e, i ≤ m → m < j → h[m]? = some e → clears e sl = false)
    (hj : h[j]? = some (.call c k o)) (hsl : slotOf (spec k).mode c k = some sl) :
    (trace ts spec s h)[j]? = some (.served a false false) := by
  have hb := before_inv (fun s' => s'.tab sl = some a) hij hs
    fun m e h1 h2 he hp => stable_step hp hr (hcl m e h1 h2 he)
  simp only [(before_step ts spec h s j _ hj).1, stepEv, getInstance_slot _ _ _ _ _ _ sl hsl, findOrCreate, hb, hr,
    if_true]

/-- Two calls addressing the same slot, the slot not thrown away in between, the instance reusable
    under the source's test: the second call is served by the very instance that served the first,
    and creates nothing. -/
theorem slot_unique {h : List Event} {s : State} {i j c k : Nat} {o : Outcome}
    {c' k' : Nat} {o' : Outcome} {sl : Slot} {a : Instance} {x y : Bool}
    (hij : i < j) (hi : h[i]? = some (.call c k o)) (hj : h[j]? = some (.call c' k' o'))
    (hsl : slotOf (spec k).mode c k = some sl) (hsl' : slotOf (spec k').mode c' k' = some sl)
    (hcl : ∀ m e, i < m → m < j → h[m]? = some e → clears e sl = false)
    (hr : reuse (testOf ts sl) a = true) (hti : (trace ts spec s h)[i]? = some (.served a x y)) :
    (trace ts spec s h)[j]? = some (.served a false false) := by
  obtain ⟨h1, h2⟩ := before_step ts spec h s i _ hi
  rw [h1] at hti
  refine served_again hij ?_ hr hcl hj hsl'
  rw [h2]
  exact served_stored hsl (Option.some.inj hti)

/-- an index used up before event `i` and absent from all `P`-slots then is never handed out by a later call on a
    `P`-slot -/
theorem avoid (P : Slot → Prop) {x : Nat} {h : List Event} {s : State}
    {i j c k : Nat} {o : Outcome} {b : Instance} {cr cc : Bool} (hij : i ≤ j)
    (hx : x < (before ts spec s h i).next)
    (hP : ∀ sl, P sl → ∀ b, (before ts spec s h i).tab sl = some b → b.idx ≠ x)
    (hj : h[j]? = some (.call c k o)) (hsl : ∀ sl, slotOf (spec k).mode c k = some sl → P sl)
    (ht : (trace ts spec s h)[j]? = some (.served b cr cc)) : b.idx ≠ x := by
  obtain ⟨hx', hP'⟩ := before_inv (fun s' => x < s'.next ∧ ∀ sl, P sl → ∀ b, s'.tab sl = some b → b.idx ≠ x)
    hij ⟨hx, hP⟩
    fun m e _ _ _ hp => ⟨Nat.lt_of_lt_of_le hp.1 (next_mono ts spec _ e), avoid_step P hp.1 hp.2⟩
  rw [(before_step ts spec h s j _ hj).1] at ht
  rcases served_shape (Option.some.inj ht) with ⟨_, _, sl', h1, h2⟩ | ⟨_, _, h1⟩
  · exact hP' sl' (hsl sl' h1) _ h2
  · omega

/-- Calls that do not address the same slot are never served by the same instance. -/
theorem exclusive (ts : Tests) (spec : Nat → ClassSpec) :
    ∀ (h : List Event) (s : State) (i j c k : Nat) (o : Outcome) (c' k' : Nat) (o' : Outcome)
      (a : Instance) (x y : Bool) (b : Instance) (x' y' : Bool),
      WF s → i < j → h[i]? = some (.call c k o) → h[j]? = some (.call c' k' o') →
      (∀ sl, slotOf (spec k).mode c k = some sl → slotOf (spec k').mode c' k' ≠ some sl) →
      (trace ts spec s h)[i]? = some (.served a x y) →
      (trace ts spec s h)[j]? = some (.served b x' y') → a.idx ≠ b.idx := by
  intro h s i j c k o c' k' o' a x y b x' y' hwf hij hi hj hne hti htj
  obtain ⟨h1, h2⟩ := before_step ts spec h s i _ hi
  rw [h1] at hti
  have hwfi := wf_before ts spec h s i hwf
  have hb := served_bound hwfi (Option.some.inj hti)
  have habs := absent_after hwfi (Option.some.inj hti)
  rw [← h2] at hb habs
  have := avoid (fun sl => slotOf (spec k).mode c k ≠ some sl) hij hb habs hj (fun sl hs heq => hne sl heq hs) htj
  exact fun heq => this heq.symm

theorem created_ge {h : List Event} {s : State} {i j : Nat} {a : Instance}
    {cc : Bool} (hij : i ≤ j) (ht : (trace ts spec s h)[j]? = some (.served a true cc)) :
    (before ts spec s h i).next ≤ a.idx := by
  obtain ⟨e, he⟩ := trace_event ht
  have hn := before_inv (fun s' => (before ts spec s h i).next ≤ s'.next) hij (Nat.le_refl _)
    fun m e _ _ _ hp => Nat.le_trans hp (next_mono ts spec _ e)
  rw [(before_step ts spec h s j _ he).1] at ht
  obtain ⟨c, k, o, rfl⟩ := stepEv_served (Option.some.inj ht)
  rcases served_shape (Option.some.inj ht) with ⟨_, hx, _⟩ | ⟨_, _, h1⟩
  · cases hx
  · omega

/-- a newly created instance is different from every instance that served an earlier call -/
theorem created_fresh {h : List Event} {s : State} {i j : Nat}
    {a b : Instance} {x y cc : Bool} (hwf : WF s) (hij : i < j)
    (hti : (trace ts spec s h)[i]? = some (.served b x y))
    (htj : (trace ts spec s h)[j]? = some (.served a true cc)) : b.idx ≠ a.idx := by
  obtain ⟨e, he⟩ := trace_event hti
  obtain ⟨h1, h2⟩ := before_step ts spec h s i e he
  rw [h1] at hti
  have hb := served_bound (wf_before ts spec h s i hwf) (Option.some.inj hti)
  rw [← h2] at hb
  have := created_ge (i := i + 1) hij htj
  omega

/-- a slot that is empty before event `i` and not addressed until call `j` makes call `j` create -/
theorem none_created {sl : Slot} {h : List Event} {s : State}
    {i j c k : Nat} {t : Bool} {q : Nat} (hij : i ≤ j) (hs : (before ts spec s h i).tab sl = none)
    (hno : ∀ m c' k' o', i ≤ m → m < j → h[m]? = some (.call c' k' o') → slotOf (spec k').mode c' k' ≠ some sl)
    (hj : h[j]? = some (.call c k (.ok t q))) (hsl : slotOf (spec k).mode c k = some sl) :
    ∃ n, (trace ts spec s h)[j]? = some (.served ⟨n, t, q⟩ true ((spec k).creator == .callable)) := by
  have hb := before_inv (fun s' => s'.tab sl = none) hij hs
    fun m e h1 h2 he hp => none_step hp fun c' k' o' hc => hno m c' k' o' h1 h2 (hc ▸ he)
  refine ⟨(before ts spec s h j).next, ?_⟩
  simp only [(before_step ts spec h s j _ hj).1, stepEv, getInstance_slot _ _ _ _ _ _ sl hsl, findOrCreate, hb,
    createIn]
  cases (spec k).creator <;> rfl

def createdCount (tr : List Res) : Nat := (tr.map fun r => (isCreated r).toNat).sum

theorem next_count (ts : Tests) (spec : Nat → ClassSpec) : ∀ (h : List Event) (s : State),
    (runHist ts spec s h).1.next = s.next + createdCount (trace ts spec s h) := by
  intro h
  induction h with
  | nil => intro s; simp [runHist, createdCount, trace]
  | cons e es ih =>
    intro s
    have h1 := ih (stepEv ts spec s e).1
    have h2 := next_step ts spec s e
    simp only [trace, createdCount] at h1
    simp only [runHist, trace, createdCount, List.map_cons, List.sum_cons]
    rw [h1, h2]; omega

/-- what event `j` observed is what one step observed in the state reached before it -/
theorem trace_at (ts : Tests) (spec : Nat → ClassSpec) (h : List Event) (s : State) (j : Nat) (e : Event) (r : Res)
    (hj : h[j]? = some e) (ht : (trace ts spec s h)[j]? = some r) : ∃ s', r = (stepEv ts spec s' e).2 :=
  ⟨_, Option.some.inj (ht.symm.trans (before_step ts spec h s j e hj).1)⟩

/-! ### the `single` branch under its lock -/

theorem toOp_run (ts : Tests) (spec : Nat → ClassSpec) (cl : SCall) (s : State)
    (hm : (spec cl.cls).mode = .single) :
    (toOp ts spec cl).run s = getInstance ts (spec cl.cls) cl.conn cl.cls cl.o s := by
  simp only [Op.run, toOp, singleBody, runSteps, List.foldl_cons, List.foldl_nil, getInstance, hm, findOrCreate]
  cases h : s.tab (.single cl.cls) with
  | none =>
    simp only [makeStep, createIn]
    cases createInstance (spec cl.cls).creator cl.o s.next <;> rfl
  | some i =>
    simp only
    cases reuse ts.single i with
    | true => rfl
    | false =>
      simp only [makeStep, createIn, Bool.false_eq_true, if_false]
      cases createInstance (spec cl.cls).creator cl.o s.next <;> rfl

theorem seqRun_eq_runHist (ts : Tests) (spec : Nat → ClassSpec) :
    ∀ (calls : List SCall) (s : State), (∀ cl ∈ calls, (spec cl.cls).mode = .single) →
      seqRun (calls.map (toOp ts spec)) s = runHist ts spec s (calls.map SCall.toEvent) := by
  intro calls
  induction calls with
  | nil => intro s _; rfl
  | cons cl cls ih =>
    intro s hall
    have h1 := toOp_run ts spec cl s (hall cl List.mem_cons_self)
    have h2 := ih (getInstance ts (spec cl.cls) cl.conn cl.cls cl.o s).1
      (fun c hc => hall c (List.mem_cons_of_mem _ hc))
    simp only [List.map_cons, seqRun, runHist, h1, SCall.toEvent, stepEv]
    rw [h2]

/-- the calls completed in a run of `single` calls, taken in lock-release order, form a sequential history: log entry
    `i` is the call of its thread, and observed what event `i` of that history observes -/
theorem log_history (ts : Tests) (spec : Nat → ClassSpec) (s0 : State) (calls : List SCall) (schedule : List Nat)
    (hall : ∀ cl ∈ calls, (spec cl.cls).mode = .single) :
    ∃ hist : List Event, ∀ (i t : Nat) (op : Op State Local Res) (r : Res) (cl : SCall),
      (run (Config.init s0 (calls.map (toOp ts spec))) schedule).log[i]? = some (t, op, r) → calls[t]? = some cl →
      hist[i]? = some (.call cl.conn cl.cls cl.o) ∧ (trace ts spec s0 hist)[i]? = some r := by
  have hb := book s0 (calls.map (toOp ts spec)) schedule
  have hi := atomic s0 (calls.map (toOp ts spec)) schedule
  generalize run (Config.init s0 (calls.map (toOp ts spec))) schedule = cfg at hb hi
  let lc : List SCall := cfg.log.map (fun e => (calls[e.1]?).getD ⟨0, 0, .raises⟩)
  have hent : ∀ e ∈ cfg.log, ∃ cl, calls[e.1]? = some cl ∧ toOp ts spec cl = e.2.1 := by
    intro e he
    have := (hb.logged e he).1
    rw [List.getElem?_map] at this
    exact Option.map_eq_some_iff.1 this
  have hlc : cfg.log.map (·.2.1) = lc.map (toOp ts spec) := by
    simp only [lc, List.map_map]
    apply List.map_congr_left
    intro e he
    obtain ⟨cl, h1, h2⟩ := hent e he
    simp [h1, h2]
  have hlcall : ∀ cl ∈ lc, (spec cl.cls).mode = .single := by
    intro cl hcl
    simp only [lc, List.mem_map] at hcl
    obtain ⟨e, he, rfl⟩ := hcl
    obtain ⟨cl', h1, _⟩ := hent e he
    rw [h1]
    exact hall cl' (List.mem_of_getElem? h1)
  have hres : cfg.log.map (·.2.2) = trace ts spec s0 (lc.map SCall.toEvent) := by
    rw [hi.results, hlc, seqRun_eq_runHist ts spec lc s0 hlcall]
  refine ⟨lc.map SCall.toEvent, fun i t op r cl hl hc => ⟨?_, ?_⟩⟩
  · simp only [lc, List.map_map, List.getElem?_map, hl, Option.map_some, Function.comp, hc, Option.getD_some,
      SCall.toEvent]
  · rw [← hres, List.getElem?_map, hl]; rfl

end Pyro.Inst
